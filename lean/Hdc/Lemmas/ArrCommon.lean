import Hdc.Lemmas.Ws2dRows
import Mathlib.Algebra.Field.Basic
import Mathlib.Tactic.Ring
/-
Array facts shared by every refinement proof "generated program = hand model" (ws2d, the integer kernels, the
floating-point kernels).  Nothing here mentions a generated file, so a proof about one generated kernel does not depend on
the translation of another one.  (The namespace is `Hdc.Ws2dGen`, shared with Hdc/Lemmas/Ws2dGen.lean.)
-/
namespace Hdc.Ws2dGen

variable {α : Type} [Field α]

/-- an array read as a function (0 outside) -/
def av (a : Array α) (j : ℕ) : α := a.getD j 0

theorem av_setIfInBounds_self (a : Array α) (j : ℕ) (v : α) (hj : j < a.size) :
    av (a.setIfInBounds j v) j = v := by
  simp [av, Array.getElem?_setIfInBounds_self_of_lt hj]

theorem av_setIfInBounds_ne (a : Array α) (i j : ℕ) (v : α) (h : i ≠ j) :
    av (a.setIfInBounds i v) j = av a j := by
  simp [av, Array.getElem?_setIfInBounds_ne h]

theorem split_getElem {ι : Type} (l pref suff : List ι) (cur : ι) (h : l = pref ++ cur :: suff) :
    ∃ hlt : pref.length < l.length, l[pref.length] = cur := by
  subst h
  exact ⟨by simp, by simp⟩

/-- `a` is `a0` with cell `k` overwritten by `v` -/
structure Upd (a a0 : Array α) (k : ℕ) (v : α) : Prop where
  size : a.size = a0.size
  self : av a k = v
  other : ∀ j, j ≠ k → av a j = av a0 j

theorem Upd.setIfInBounds (a0 : Array α) (k : ℕ) (v : α) (hk : k < a0.size) :
    Upd (a0.setIfInBounds k v) a0 k v :=
  ⟨Array.size_setIfInBounds, av_setIfInBounds_self a0 k v hk, fun j hj => av_setIfInBounds_ne a0 k j v (Ne.symm hj)⟩

open Lean Elab Tactic Meta in
/-- `py_name x as x'`: give the accessible name `x'` to the most recent inaccessible local called
    `x` (the verification-condition generator introduces the `let mut` variables of the source
    under inaccessible names; the most recent one is the current value of the Python variable). -/
elab "py_name " x:ident " as " x':ident : tactic => withMainContext do
  let lctx ← getLCtx
  let mut found : Option FVarId := none
  for decl in lctx do
    if decl.userName.hasMacroScopes && decl.userName.eraseMacroScopes == x.getId then
      found := some decl.fvarId
  match found with
  | some fv => liftMetaTactic fun g => return [← g.rename fv x'.getId]
  | none => throwError "py_name: no inaccessible local named {x.getId}"


end Hdc.Ws2dGen
