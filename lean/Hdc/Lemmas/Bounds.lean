import Hdc.Model.Bounds
/-
Helper lemmas for C14 (index safety): membership characterisations of the integer ranges used by the
traces, the unfolding of `Acc.inBounds`, the cells a trace writes (`written`), the simp set `trace_simp` for explicit
traces, and what every access of the `ws2d` and of the rolling-sum trace looks like (`ws2dTrace_acc`, `rollingTrace_idx`).
-/
namespace Hdc.Bounds

theorem mem_rangeI {a b x : Int} : x ∈ rangeI a b ↔ a ≤ x ∧ x < b := by
  simp only [rangeI, List.mem_map, List.mem_range, Int.ofNat_eq_natCast]
  exact ⟨by rintro ⟨k, hk, rfl⟩; omega, fun h => ⟨(x - a).toNat, by omega, by omega⟩⟩

theorem mem_upto {n : Nat} {x : Int} : x ∈ upto n ↔ 0 ≤ x ∧ x < n := by
  simp only [upto, List.mem_map, List.mem_range, Int.ofNat_eq_natCast]
  exact ⟨by rintro ⟨k, hk, rfl⟩; omega, fun h => ⟨x.toNat, by omega, by omega⟩⟩

theorem mem_rangeDown {a b x : Int} : x ∈ rangeDown a b ↔ b < x ∧ x ≤ a := by
  simp only [rangeDown, List.mem_map, List.mem_range, Int.ofNat_eq_natCast]
  exact ⟨by rintro ⟨k, hk, rfl⟩; omega, fun h => ⟨(a - x).toNat, by omega, by omega⟩⟩

theorem inBounds_iff (a : Acc) : a.inBounds = true ↔ -(a.len : Int) ≤ a.idx ∧ a.idx < (a.len : Int) := by
  simp [Acc.inBounds]

theorem inBounds_of_idx {a : Acc} (h0 : 0 ≤ a.idx) (h1 : a.idx < a.len) : a.inBounds = true :=
  (inBounds_iff a).mpr ⟨by omega, h1⟩

theorem inBounds_false_of_le {a : Acc} (h : (a.len : Int) ≤ a.idx) : a.inBounds = false := by
  simp only [Acc.inBounds, decide_eq_false_iff_not]; omega

theorem rd_inBounds {s : String} {i : Int} {n : Nat} : (rd s i n).inBounds = true ↔ -(n : Int) ≤ i ∧ i < n := by
  simp only [Acc.inBounds, rd]; exact decide_eq_true_iff

theorem wr_inBounds {s : String} {i : Int} {n : Nat} : (wr s i n).inBounds = true ↔ -(n : Int) ≤ i ∧ i < n := by
  simp only [Acc.inBounds, wr]; exact decide_eq_true_iff

theorem cell_wr_nat (s : String) (i n : Nat) : (wr s (i : Int) n).cell = i := by
  have : ¬ ((i : Int) < 0) := by omega
  simp only [Acc.cell, wr, this, if_false]

theorem cell_of_nonneg (s : String) (i : Int) (n : Nat) (w : Bool) (h : 0 ≤ i) : (Acc.mk s i n w).cell = i := by
  have : ¬ (i < 0) := by omega
  simp only [Acc.cell, this, if_false]

theorem mem_written {t : List Acc} {a : String} {x : Int} :
    x ∈ written t a ↔ ∃ acc ∈ t, acc.write = true ∧ acc.arr = a ∧ acc.cell = x := by
  simp only [written, List.mem_map, List.mem_filter, decide_eq_true_eq]
  constructor
  · rintro ⟨acc, ⟨h1, h2, h3⟩, h4⟩; exact ⟨acc, h1, h2, h3, h4⟩
  · rintro ⟨acc, h1, h2, h3, h4⟩; exact ⟨acc, ⟨h1, h2, h3⟩, h4⟩

theorem mem_written_wr {t : List Acc} {a : String} {i n : Nat} (h : wr a i n ∈ t) : (i : Int) ∈ written t a :=
  mem_written.mpr ⟨wr a i n, h, rfl, rfl, cell_wr_nat _ _ _⟩

theorem written_append (s t : List Acc) (a : String) : written (s ++ t) a = written s a ++ written t a := by
  simp [written]

theorem written_nil (a : String) : written [] a = [] := rfl

/-- simp set turning `∀ a ∈ <explicit trace>, P a` into one statement per access, the loop variables ranging over
    their intervals; the extra lemmas say what `P` is on a single `rd` / `wr` -/
macro "trace_simp" "[" extra:Lean.Parser.Tactic.simpLemma,* "]" : tactic => `(tactic|
  simp only [List.forall_mem_append, List.forall_mem_flatMap, List.forall_mem_cons, List.forall_mem_map,
    List.mem_map, mem_rangeI, mem_rangeDown, mem_upto, List.not_mem_nil, false_imp_iff, implies_true, and_true,
    $extra,*])

/-- Every access of `ws2d`: the six arrays have length `n`, the inputs are only read, and the indices span
    `n-4 … n-1` (rows `m-1`, `m` written out by hand) besides the rows 0 and 1. -/
theorem ws2dTrace_acc (n : Nat) : ∀ a ∈ ws2dTrace n,
    a.len = n ∧ a.arr ∈ ["y", "w", "z", "d", "c", "e"] ∧ (a.arr = "y" ∨ a.arr = "w" → a.write = false) ∧
      min 0 ((n : Int) - 4) ≤ a.idx ∧ a.idx ≤ max 1 ((n : Int) - 1) := by
  unfold ws2dTrace
  trace_simp [rd, wr]
  simp
  refine ⟨⟨⟨?_, ?_⟩, ?_⟩, ?_⟩
  -- rows 0 and 1
  · omega
  -- forward loop `range(2, m - 1)`
  · intro i hi; omega
  -- rows `m - 1` and `m`
  · omega
  -- backward loop `range(m - 2, -1, -1)`
  · intro i hi; omega

/-- every index of the rolling sum addresses an array of length `n` and lies in `0 … n-1`, for any window -/
theorem rollingTrace_idx (n : Nat) (window : Int) :
    ∀ a ∈ rollingTrace n window, a.len = n ∧ 0 ≤ a.idx ∧ a.idx < n := by
  unfold rollingTrace
  simp only [List.forall_mem_flatMap, mem_upto]
  intro ii hii a ha
  by_cases hw : ii - window + 1 < 0
  · rw [if_pos hw] at ha
    simp only [List.mem_cons, List.not_mem_nil, or_false] at ha
    subst ha; exact ⟨rfl, by simp only [wr]; omega⟩
  · rw [if_neg hw] at ha
    simp only [List.mem_append, List.mem_flatMap, mem_rangeI, List.mem_cons, List.not_mem_nil, or_false] at ha
    rcases ha with ⟨jj, hjj, (rfl | rfl)⟩ | rfl
    · exact ⟨rfl, by simp only [rd]; omega⟩
    · exact ⟨rfl, by simp only [wr]; omega⟩
    · exact ⟨rfl, by simp only [wr]; omega⟩

end Hdc.Bounds
