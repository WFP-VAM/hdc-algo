import Hdc.Lemmas.Bounds
/-
Helper lemmas for C14: the fold-based traces of `tinterpolate`: the scatter loop in closed form (the marked
positions in order), the run loop by an invariant over the fold state; `nruns` as a count of indices and as the number
of groups of `List.splitBy`.
-/
namespace Hdc.Bounds

/-- number of marks (nonzero template entries) -/
def nmarks (template : List Int) : Nat := template.countP (fun t => t ≠ 0)

/-- the body of the scatter loop of `tinterpScatter` -/
def scatterStep (m n : Nat) (st : Nat × List Acc) (p : Int × Nat) : Nat × List Acc :=
  if p.1 ≠ 0 then (st.1 + 1, st.2 ++ [wr "temp" p.2 m, rd "x" st.1 n]) else st

theorem tinterpScatter_eq (n : Nat) (template : List Int) :
    tinterpScatter n template =
      (template.zipIdx.foldl (scatterStep template.length n) (0, [])).2
        ++ [wr "temp" (-1) template.length, rd "x" (-1) n] := rfl

def marksP (ps : List (Int × Nat)) : Nat := ps.countP (fun p => p.1 ≠ 0)

theorem marksP_zipIdx (t : List Int) (k : Nat) : marksP (t.zipIdx k) = nmarks t := by
  unfold marksP nmarks
  conv => rhs; rw [← List.zipIdx_map_fst k t, List.countP_map]
  rfl

/-- closed form of the scatter loop: the marked positions in order, the `j`-th of them loading `x[j]` -/
theorem scatter_fold (m n : Nat) (ps : List (Int × Nat)) (st : Nat × List Acc) :
    ps.foldl (scatterStep m n) st =
      (st.1 + marksP ps, st.2 ++ ((ps.filter (·.1 ≠ 0)).zipIdx st.1).flatMap
        fun q => [wr "temp" q.1.2 m, rd "x" q.2 n]) := by
  induction ps generalizing st with
  | nil => simp [marksP]
  | cons p ps ih =>
    rw [List.foldl_cons, ih]
    by_cases h : p.1 ≠ 0
    · simp [scatterStep, marksP, h, List.zipIdx_cons]; omega
    · simp [scatterStep, marksP, h]

theorem scatter_fst (m n : Nat) (ps : List (Int × Nat)) (st : Nat × List Acc) :
    (ps.foldl (scatterStep m n) st).1 = st.1 + marksP ps := by
  rw [scatter_fold]

theorem mem_tinterpScatter (n : Nat) (template : List Int) (a : Acc) :
    a ∈ tinterpScatter n template ↔
      (∃ i : Nat, ∃ h : i < template.length, template[i] ≠ 0 ∧ a = wr "temp" i template.length) ∨
      (∃ k : Nat, k < nmarks template ∧ a = rd "x" k n) ∨
      a = wr "temp" (-1) template.length ∨ a = rd "x" (-1) n := by
  have hlen : (template.zipIdx.filter (·.1 ≠ 0)).length = nmarks template := by
    rw [← List.countP_eq_length_filter]; exact marksP_zipIdx template 0
  rw [tinterpScatter_eq, scatter_fold]
  simp only [List.nil_append, List.mem_append, List.mem_flatMap, List.mem_cons, List.not_mem_nil, or_false,
    List.mem_zipIdx_iff_getElem?]
  conv => rhs; rw [← or_assoc]
  refine or_congr ⟨?_, ?_⟩ Iff.rfl
  · rintro ⟨⟨⟨v, i⟩, j⟩, hq, rfl | rfl⟩
    · have hm := List.mem_filter.mp (List.mem_of_getElem? hq)
      have := List.mem_zipIdx' hm.1
      exact Or.inl ⟨i, this.1, by rw [← this.2]; simpa using hm.2, rfl⟩
    · exact Or.inr ⟨j, by rw [← hlen]; exact (List.getElem?_eq_some_iff.mp hq).1, rfl⟩
  · rintro (⟨i, hi, hv, rfl⟩ | ⟨k, hk, rfl⟩)
    · have hm : (template[i], i) ∈ template.zipIdx.filter (·.1 ≠ 0) :=
        List.mem_filter.mpr ⟨List.mem_zipIdx_iff_getElem?.2 (by simp [hi]), by simpa using hv⟩
      obtain ⟨j, hj⟩ := List.mem_iff_getElem?.mp hm
      exact ⟨((template[i], i), j), hj, Or.inl rfl⟩
    · rw [← hlen] at hk
      exact ⟨(_, k), List.getElem?_eq_getElem hk, Or.inr rfl⟩

/-- the body of the run loop of `tinterpRuns` -/
def runsStep (m l : Nat) (st : Nat × Nat × Int × List Acc) (ll : Int) : Nat × Nat × Int × List Acc :=
  if ll = st.2.2.1 then
    (st.1 + 1, st.2.1, ll, st.2.2.2 ++ [rd "labels" ((st.1 : Int) - 1) m, rd "z" st.1 m])
  else
    (st.1 + 1, st.2.1 + 1, ll, st.2.2.2 ++ [rd "labels" ((st.1 : Int) - 1) m, wr "out" st.2.1 l, rd "z" st.1 m])

theorem tinterpRuns_cons (l0 : Int) (rest : List Int) (l : Nat) :
    tinterpRuns (l0 :: rest) l =
      (rest.foldl (runsStep (rest.length + 1) l) (1, 0, l0, [rd "z" 0 (rest.length + 1)])).2.2.2
        ++ [wr "out" (rest.foldl (runsStep (rest.length + 1) l) (1, 0, l0, [rd "z" 0 (rest.length + 1)])).2.1 l] := rfl

/-- number of label changes when scanning `rest` after `prev` -/
def nchanges : Int → List Int → Nat
  | _, [] => 0
  | p, x :: xs => (if x = p then 0 else 1) + nchanges x xs

/-- number of maximal runs of equal consecutive labels: one more than the number of adjacent unequal pairs -/
def nruns (labels : List Int) : Nat := (labels.zip labels.tail).countP (fun p => p.1 ≠ p.2) + 1

theorem countP_zip_tail (l0 : Int) (rest : List Int) :
    ((l0 :: rest).zip rest).countP (fun p => p.1 ≠ p.2) = nchanges l0 rest := by
  induction rest generalizing l0 with
  | nil => simp [nchanges]
  | cons x xs ih =>
    rw [List.zip_cons_cons, List.countP_cons, ih, nchanges]
    by_cases h : x = l0
    · subst h; simp
    · have : l0 ≠ x := fun e => h e.symm
      simp [h, this]; omega

theorem nruns_cons (l0 : Int) (rest : List Int) : nruns (l0 :: rest) = nchanges l0 rest + 1 := by
  simp only [nruns, List.tail_cons, countP_zip_tail]

/-- one pass of the run loop: `labels[ii-1]` and `z[ii]` are read, and a new label stores `out[kk]` in between -/
theorem runsStep_eq (m l ii kk : Nat) (prev x : Int) (acc : List Acc) :
    runsStep m l (ii, kk, prev, acc) x =
      (ii + 1, kk + (if x = prev then 0 else 1), x,
        acc ++ (rd "labels" ((ii : Int) - 1) m :: ((if x = prev then [] else [wr "out" kk l]) ++ [rd "z" ii m]))) := by
  unfold runsStep
  split <;> simp

theorem runs_fold (m l : Nat) (rest : List Int) (ii kk : Nat) (prev : Int) (acc : List Acc) :
    ∃ extra : List Acc,
      rest.foldl (runsStep m l) (ii, kk, prev, acc)
        = (ii + rest.length, kk + nchanges prev rest, (prev :: rest).getLast (by simp), acc ++ extra) ∧
      (∀ a ∈ extra,
        (∃ j : Nat, ii ≤ j ∧ j < ii + rest.length ∧ (a = rd "labels" ((j : Int) - 1) m ∨ a = rd "z" j m)) ∨
        (∃ k : Nat, kk ≤ k ∧ k < kk + nchanges prev rest ∧ a = wr "out" k l)) ∧
      written extra "out" = (List.range (nchanges prev rest)).map (fun k => ((kk + k : Nat) : Int)) := by
  induction rest generalizing ii kk prev acc with
  | nil => exact ⟨[], by simp [nchanges], by simp, by simp [nchanges, written]⟩
  | cons x xs ih =>
    obtain ⟨extra, h1, h2, h3⟩ := ih (ii + 1) (kk + if x = prev then 0 else 1) x
      (acc ++ (rd "labels" ((ii : Int) - 1) m :: ((if x = prev then [] else [wr "out" kk l]) ++ [rd "z" ii m])))
    refine ⟨rd "labels" ((ii : Int) - 1) m :: ((if x = prev then [] else [wr "out" kk l]) ++ [rd "z" ii m]) ++ extra,
      ?_, ?_, ?_⟩
    · rw [List.foldl_cons, runsStep_eq, h1]
      simp [nchanges]; omega
    · intro a ha
      rcases List.mem_append.1 ha with ha | ha
      · simp only [List.mem_cons, List.mem_append, List.mem_ite_nil_left, List.not_mem_nil, or_false] at ha
        rcases ha with rfl | ⟨hne, rfl⟩ | rfl
        · exact Or.inl ⟨ii, Nat.le_refl _, by simp, Or.inl rfl⟩
        · exact Or.inr ⟨kk, Nat.le_refl _, by simp only [nchanges, hne, if_false]; omega, rfl⟩
        · exact Or.inl ⟨ii, Nat.le_refl _, by simp, Or.inr rfl⟩
      · rcases h2 a ha with ⟨j, hj1, hj2, hj3⟩ | ⟨k, hk1, hk2, hk3⟩
        · exact Or.inl ⟨j, by omega, by simp only [List.length_cons]; omega, hj3⟩
        · exact Or.inr ⟨k, by omega, by simp only [nchanges]; omega, hk3⟩
    · rw [written_append, h3]
      by_cases h : x = prev
      · simp [written, nchanges, rd, h]
      · simp only [nchanges, h, if_false]
        rw [Nat.add_comm 1, List.range_succ_eq_map]
        simp [written, rd, wr, Acc.cell]
        constructor
        · omega
        · intro a _; omega
/-! ### `nruns` agrees with the other ways of counting runs -/

theorem splitBy_loop_length (as : List Int) (b : Int) (g : List Int) (gs : List (List Int)) :
    (List.splitBy.loop (fun x y => x == y) as b g gs).length = gs.length + 1 + nchanges b as := by
  induction as generalizing b g gs with
  | nil => simp [List.splitBy.loop, nchanges]
  | cons a as ih =>
    unfold List.splitBy.loop
    by_cases h : a = b
    · subst h; simp [ih, nchanges]
    · have h' : (b == a) = false := by simp; exact fun e => h e.symm
      rw [h']; simp only [ih, nchanges, h, if_false, List.length_cons]; omega

theorem nruns_eq_splitBy_length (labels : List Int) (hne : labels ≠ []) :
    nruns labels = (labels.splitBy (fun x y => x == y)).length := by
  cases labels with
  | nil => exact absurd rfl hne
  | cons l0 rest => rw [nruns_cons, List.splitBy, splitBy_loop_length]; simp; omega

theorem nchanges_eq_filter (l0 : Int) (rest : List Int) :
    nchanges l0 rest =
      ((List.range rest.length).filter (fun i => decide ((l0 :: rest)[i]? ≠ (l0 :: rest)[i + 1]?))).length := by
  induction rest generalizing l0 with
  | nil => simp [nchanges]
  | cons x xs ih =>
    rw [nchanges, ih x, List.length_cons, List.range_succ_eq_map, List.filter_cons, List.filter_map]
    by_cases h : x = l0
    · subst h; simp [Function.comp_def]
    · have h' : ¬ l0 = x := fun e => h e.symm
      simp [h, h', Function.comp_def]; omega

theorem nruns_eq_index_count (labels : List Int) (hne : labels ≠ []) :
    nruns labels =
      1 + ((List.range (labels.length - 1)).filter (fun i => decide (labels[i]? ≠ labels[i + 1]?))).length := by
  cases labels with
  | nil => exact absurd rfl hne
  | cons l0 rest =>
    rw [nruns_cons, nchanges_eq_filter]
    simp only [List.length_cons, Nat.add_sub_cancel]
    omega

end Hdc.Bounds
