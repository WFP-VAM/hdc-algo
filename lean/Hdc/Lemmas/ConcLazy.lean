import Hdc.Model.Effects
/-
C12, part A: the lazily initialised closure cell of `lazycompile`.

Semantics of the instruction lists of `Hdc.Effects.Instr` for N threads that share the cell `cache`,
the decidable predicate `SafeLazyInit`, and the generic theorems
  every program satisfying `SafeLazyInit` is safe for every number of threads and every schedule.
No Mathlib.
-/
namespace Hdc.Conc
open Hdc.Effects

/-- content of the closure cell `inner_decorated` -/
inductive Val where
  /-- `None` (not yet compiled) -/
  | none
  /-- the compiled function -/
  | compiled
  /-- anything else (a placeholder, a half-built object, ...) -/
  | other
  deriving DecidableEq, Repr

/-- shared cell, per-thread program counter, per-thread log of the value that was called -/
structure LState where
  cache : Val
  pc : Nat → Nat
  call : Nat → Option Val

def LState.init : LState := ⟨Val.none, fun _ => 0, fun _ => Option.none⟩

def upd {β : Type} (f : Nat → β) (i : Nat) (v : β) : Nat → β := fun j => if j = i then v else f j

@[simp] theorem upd_same {β : Type} (f : Nat → β) (i : Nat) (v : β) : upd f i v i = v := by simp [upd]
theorem upd_other {β : Type} (f : Nat → β) (i j : Nat) (v : β) (h : j ≠ i) : upd f i v j = f j := by
  simp [upd, h]

/-- what a `storeOther` writes: chosen by the adversary among the values that are not the compiled
    function -/
def junkVal (b : Bool) : Val := if b then Val.other else Val.none

/-- One atomic step.  An event `(i, b)` lets thread `i` execute its next instruction; `b` is the
    adversary's choice for a `storeOther`.  Threads `≥ N` do not exist, finished threads idle. -/
def step (prog : List Instr) (N : Nat) (s : LState) (e : Nat × Bool) : LState :=
  if e.1 < N then
    match prog[s.pc e.1]? with
    | Option.none => s
    | some (.loadTest k) =>
      if s.cache = Val.none then { s with pc := upd s.pc e.1 (s.pc e.1 + 1) }
      else { s with pc := upd s.pc e.1 k }
    | some .storeCompiled => { s with cache := Val.compiled, pc := upd s.pc e.1 (s.pc e.1 + 1) }
    | some .storeOther => { s with cache := junkVal e.2, pc := upd s.pc e.1 (s.pc e.1 + 1) }
    | some .loadCall =>
      { s with pc := upd s.pc e.1 prog.length, call := upd s.call e.1 (some s.cache) }
  else s

def runFrom (prog : List Instr) (N : Nat) (s : LState) (sched : List (Nat × Bool)) : LState :=
  sched.foldl (step prog N) s

/-- all threads start at pc 0 with an empty cell -/
def run (prog : List Instr) (N : Nat) (sched : List (Nat × Bool)) : LState :=
  runFrom prog N LState.init sched

/-- schedules that only name the thread (a `storeOther` publishes `other`) -/
def runNat (prog : List Instr) (N : Nat) (sched : List Nat) : LState :=
  run prog N (sched.map fun i => (i, true))

def runFin (prog : List Instr) (N : Nat) (sched : List (Fin N)) : LState :=
  run prog N (sched.map fun i => (i.val, true))

theorem runFrom_append (prog : List Instr) (N : Nat) (s : LState) (a b : List (Nat × Bool)) :
    runFrom prog N s (a ++ b) = runFrom prog N (runFrom prog N s a) b := by
  simp [runFrom, List.foldl_append]

theorem run_append (prog : List Instr) (N : Nat) (a b : List (Nat × Bool)) :
    run prog N (a ++ b) = runFrom prog N (run prog N a) b := runFrom_append ..

/-- Abstract interpretation of one thread with the flag "this thread knows the cell is initialised".
    Both branches of a `loadTest` are explored; `true` = every `loadCall` that is reached is reached
    with the flag set.  Out of fuel counts as failure unless the thread has finished. -/
def absRun (prog : List Instr) : Nat → Nat → Bool → Bool
  | 0, pc, _ => decide (prog.length ≤ pc)
  | f + 1, pc, known =>
    match prog[pc]? with
    | Option.none => true
    | some (.loadTest k) => absRun prog f k true && absRun prog f (pc + 1) known
    | some .storeCompiled => absRun prog f (pc + 1) true
    | some .storeOther => absRun prog f (pc + 1) false
    | some .loadCall => known

def noStoreOther (prog : List Instr) : Bool := prog.all fun i => decide (i ≠ Instr.storeOther)

/-- every `loadTest k` at position `pc` has `pc < k ≤ length` -/
def forwardJumps (prog : List Instr) : Bool :=
  (List.range prog.length).all fun pc =>
    match prog[pc]? with
    | some (.loadTest k) => decide (pc < k ∧ k ≤ prog.length)
    | _ => true

/-- no `storeOther`; jumps go forward; every `loadCall` is guarded on every control path from pc 0 -/
def SafeLazyInit (prog : List Instr) : Bool :=
  noStoreOther prog && forwardJumps prog && absRun prog prog.length 0 false

theorem safeLazyInit_parts {prog : List Instr} (h : SafeLazyInit prog = true) :
    noStoreOther prog = true ∧ forwardJumps prog = true ∧ absRun prog prog.length 0 false = true := by
  simpa only [SafeLazyInit, Bool.and_eq_true, and_assoc] using h

theorem noStoreOther_get {prog : List Instr} (h : noStoreOther prog = true) (pc : Nat) :
    prog[pc]? ≠ some Instr.storeOther := by
  intro hp
  have hm : Instr.storeOther ∈ prog := List.mem_of_getElem? hp
  have := (List.all_eq_true.mp h) _ hm
  simp at this

theorem forwardJumps_get {prog : List Instr} (h : forwardJumps prog = true) {pc k : Nat}
    (hp : prog[pc]? = some (Instr.loadTest k)) : pc < k ∧ k ≤ prog.length := by
  obtain ⟨hlt, _⟩ := List.getElem?_eq_some_iff.mp hp
  have := (List.all_eq_true.mp h) pc (List.mem_range.mpr hlt)
  rw [hp] at this
  simpa using this

theorem absRun_finished (prog : List Instr) (f pc : Nat) (known : Bool) (h : prog.length ≤ pc) :
    absRun prog f pc known = true := by
  cases f with
  | zero => simp [absRun, h]
  | succ f => simp [absRun, List.getElem?_eq_none h]

/-- A thread at `pc` is guarded when the cell holds `c`: the abstract run from `pc` passes, with the flag set only
    if the cell already holds the compiled function. -/
def Guarded (prog : List Instr) (c : Val) (pc : Nat) : Prop :=
  ∃ f known, absRun prog f pc known = true ∧ (known = true → c = Val.compiled)

section
variable {prog : List Instr} {c c' : Val} {pc : Nat}

theorem Guarded.mono (h : Guarded prog c pc) (hc : c = Val.compiled → c' = Val.compiled) :
    Guarded prog c' pc := by
  obtain ⟨f, known, h1, h2⟩ := h
  exact ⟨f, known, h1, fun hk => hc (h2 hk)⟩

theorem Guarded.finished : Guarded prog c prog.length :=
  ⟨0, false, absRun_finished prog 0 _ false (Nat.le_refl _), by simp⟩

theorem Guarded.next {ins : Instr} (h : Guarded prog c pc) (hp : prog[pc]? = some ins) :
    match ins with
    | .loadTest k => Guarded prog c (pc + 1) ∧ (c = Val.compiled → Guarded prog c k)
    | .storeCompiled => Guarded prog Val.compiled (pc + 1)
    | .storeOther => True
    | .loadCall => c = Val.compiled := by
  obtain ⟨f, known, hf, hk⟩ := h
  cases f with
  | zero =>
    simp only [absRun, decide_eq_true_eq] at hf
    rw [List.getElem?_eq_none hf] at hp; cases hp
  | succ f =>
    cases ins <;> simp only [absRun, hp, Bool.and_eq_true] at hf
    · exact ⟨⟨f, known, hf.2, hk⟩, fun hc => ⟨f, true, hf.1, fun _ => hc⟩⟩
    · exact ⟨f, true, hf, fun _ => rfl⟩
    · trivial
    · exact hk hf

end

/-- the invariant of every reachable state of a `SafeLazyInit` program -/
structure Inv (prog : List Instr) (s : LState) : Prop where
  cache_ok : s.cache ≠ Val.other
  thr : ∀ i, Guarded prog s.cache (s.pc i)
  calls : ∀ i v, s.call i = some v → v = Val.compiled

theorem inv_init {prog : List Instr} (h : SafeLazyInit prog = true) : Inv prog LState.init := by
  refine ⟨by simp [LState.init], fun i => ⟨prog.length, false, (safeLazyInit_parts h).2.2, by simp⟩, ?_⟩
  intro i v hv
  simp [LState.init] at hv

/-- thread `i` moves to `p`, where it is guarded, and the cell changes at most to `compiled`: all threads stay guarded -/
theorem Inv.thr_upd {prog : List Instr} {s : LState} (hs : Inv prog s) (i p : Nat) (c : Val)
    (hc : s.cache = Val.compiled → c = Val.compiled) (hi : Guarded prog c p) :
    ∀ j, Guarded prog c (upd s.pc i p j) := by
  intro j
  by_cases hj : j = i
  · subst hj; rw [upd_same]; exact hi
  · rw [upd_other _ _ _ _ hj]; exact (hs.thr j).mono hc

theorem inv_step {prog : List Instr} (hno : noStoreOther prog = true) (N : Nat) (s : LState)
    (e : Nat × Bool) (hs : Inv prog s) : Inv prog (step prog N s e) := by
  obtain ⟨i, b⟩ := e
  unfold step
  split
  case isFalse => exact hs
  case isTrue hi =>
    split
    case h_1 => exact hs
    case h_2 k hp =>
      obtain ⟨hfall, hjump⟩ := (hs.thr i).next hp
      split
      case isTrue hc => exact ⟨hs.cache_ok, hs.thr_upd i _ _ id hfall, hs.calls⟩
      case isFalse hc =>
        -- a cell that is neither empty nor `other` holds the compiled function
        have hcomp : s.cache = Val.compiled := by
          have := hs.cache_ok
          cases hcache : s.cache <;> simp_all
        exact ⟨hs.cache_ok, hs.thr_upd i _ _ id (hjump hcomp), hs.calls⟩
    case h_3 hp =>
      exact ⟨by simp, hs.thr_upd i _ _ (fun _ => rfl) ((hs.thr i).next hp), hs.calls⟩
    case h_4 hp =>
      exact absurd hp (noStoreOther_get hno _)
    case h_5 hp =>
      have hcomp : s.cache = Val.compiled := (hs.thr i).next hp
      refine ⟨hs.cache_ok, hs.thr_upd i _ _ id Guarded.finished, fun j v hv => ?_⟩
      by_cases hj : j = i
      · subst hj
        simp only [upd_same, Option.some.injEq] at hv
        rw [← hv]; exact hcomp
      · simp only [upd_other _ _ _ _ hj] at hv
        exact hs.calls j v hv

theorem inv_runFrom {prog : List Instr} (hno : noStoreOther prog = true) (N : Nat)
    (sched : List (Nat × Bool)) : ∀ s, Inv prog s → Inv prog (runFrom prog N s sched) := by
  induction sched with
  | nil => intro s hs; exact hs
  | cons e t ih => intro s hs; exact ih _ (inv_step hno N s e hs)

theorem inv_run {prog : List Instr} (h : SafeLazyInit prog = true) (N : Nat)
    (sched : List (Nat × Bool)) : Inv prog (run prog N sched) :=
  inv_runFrom (safeLazyInit_parts h).1 N sched _ (inv_init h)

/-! ### A1: every call sees the compiled function -/

theorem lazy_init_safe {prog : List Instr} (h : SafeLazyInit prog = true) (N : Nat)
    (sched : List (Nat × Bool)) (i : Nat) (v : Val) (hv : (run prog N sched).call i = some v) :
    v = Val.compiled :=
  (inv_run h N sched).calls i v hv

/-! ### A2: the cell only moves none → compiled -/

theorem cache_step_compiled {prog : List Instr} (hno : noStoreOther prog = true) (N : Nat)
    (s : LState) (e : Nat × Bool) (hc : s.cache = Val.compiled) :
    (step prog N s e).cache = Val.compiled := by
  unfold step
  split
  case isFalse => exact hc
  case isTrue =>
    split
    case h_1 => exact hc
    case h_2 => split <;> exact hc
    case h_3 => rfl
    case h_4 hp => exact absurd hp (noStoreOther_get hno _)
    case h_5 => exact hc

theorem cache_runFrom_compiled {prog : List Instr} (hno : noStoreOther prog = true) (N : Nat)
    (sched : List (Nat × Bool)) :
    ∀ s, s.cache = Val.compiled → (runFrom prog N s sched).cache = Val.compiled := by
  induction sched with
  | nil => intro s hs; exact hs
  | cons e t ih => intro s hs; exact ih _ (cache_step_compiled hno N s e hs)

/-- the order none < compiled on the values the cell takes -/
def Val.le (a b : Val) : Prop := a = Val.none ∨ (a = Val.compiled ∧ b = Val.compiled)

theorem lazy_cache_monotone {prog : List Instr} (h : SafeLazyInit prog = true) (N : Nat)
    (sched more : List (Nat × Bool)) :
    ((run prog N sched).cache = Val.none ∨ (run prog N sched).cache = Val.compiled) ∧
    ((run prog N sched).cache = Val.compiled → (run prog N (sched ++ more)).cache = Val.compiled) := by
  constructor
  · have := (inv_run h N sched).cache_ok
    cases hc : (run prog N sched).cache <;> simp_all
  · intro hc
    rw [run_append]
    exact cache_runFrom_compiled (safeLazyInit_parts h).1 N more _ hc

theorem lazy_cache_le {prog : List Instr} (h : SafeLazyInit prog = true) (N : Nat)
    (sched more : List (Nat × Bool)) :
    Val.le (run prog N sched).cache (run prog N (sched ++ more)).cache := by
  obtain ⟨h1, h2⟩ := lazy_cache_monotone h N sched more
  rcases h1 with h1 | h1
  · exact Or.inl h1
  · exact Or.inr ⟨h1, h2 h1⟩

/-- the cell is never `other` and never returns to `none` -/
theorem lazy_cache_never_reset {prog : List Instr} (h : SafeLazyInit prog = true) (N : Nat)
    (sched more : List (Nat × Bool)) (hc : (run prog N sched).cache ≠ Val.none) :
    (run prog N (sched ++ more)).cache = Val.compiled := by
  obtain ⟨h1, h2⟩ := lazy_cache_monotone h N sched more
  rcases h1 with h1 | h1
  · exact absurd h1 hc
  · exact h2 h1

/-! ### A3: termination under a fair-enough schedule -/

/-- number of steps thread `i` gets -/
def turns (i : Nat) (sched : List (Nat × Bool)) : Nat := (sched.filter fun e => e.1 = i).length

theorem step_pc_other (prog : List Instr) (N : Nat) (s : LState) (e : Nat × Bool) (j : Nat)
    (hj : j ≠ e.1) : (step prog N s e).pc j = s.pc j := by
  unfold step
  split
  case isFalse => rfl
  case isTrue =>
    split
    case h_1 => rfl
    case h_2 => split <;> simp [upd_other _ _ _ _ hj]
    all_goals simp [upd_other _ _ _ _ hj]

theorem step_pc_self {prog : List Instr} (hfw : forwardJumps prog = true) (N : Nat) (s : LState)
    (e : Nat × Bool) (he : e.1 < N) :
    min (s.pc e.1 + 1) prog.length ≤ (step prog N s e).pc e.1 := by
  unfold step
  rw [if_pos he]
  split
  case h_1 hp =>
    have : prog.length ≤ s.pc e.1 := List.getElem?_eq_none_iff.mp hp
    omega
  case h_2 k hp =>
    have := forwardJumps_get hfw hp
    split <;> simp only [upd_same] <;> omega
  all_goals simp only [upd_same]; omega

theorem runFrom_pc_ge {prog : List Instr} (hfw : forwardJumps prog = true) (N : Nat) (i : Nat)
    (hi : i < N) (sched : List (Nat × Bool)) :
    ∀ s, min (s.pc i + turns i sched) prog.length ≤ (runFrom prog N s sched).pc i := by
  induction sched with
  | nil => intro s; simp [runFrom, turns]; omega
  | cons e t ih =>
    intro s
    have ih' := ih (step prog N s e)
    change _ ≤ (runFrom prog N (step prog N s e) t).pc i
    by_cases hei : e.1 = i
    · have h1 := step_pc_self hfw N s e (by omega)
      have ht : turns i (e :: t) = turns i t + 1 := by simp [turns, hei]
      rw [hei] at h1
      rw [ht]
      unfold turns at ih' ⊢
      omega
    · have h1 := step_pc_other prog N s e i (fun h => hei h.symm)
      have ht : turns i (e :: t) = turns i t := by simp [turns, hei]
      rw [ht, ← h1]; exact ih'

def finished (prog : List Instr) (s : LState) (i : Nat) : Prop := prog.length ≤ s.pc i

theorem lazy_all_terminate {prog : List Instr} (h : SafeLazyInit prog = true) (N : Nat)
    (sched : List (Nat × Bool)) (hfair : ∀ i, i < N → prog.length ≤ turns i sched) :
    ∀ i, i < N → finished prog (run prog N sched) i := by
  intro i hi
  have := runFrom_pc_ge (safeLazyInit_parts h).2.1 N i hi sched LState.init
  have hf := hfair i hi
  unfold finished run
  simp only [LState.init] at this ⊢
  omega

end Hdc.Conc
