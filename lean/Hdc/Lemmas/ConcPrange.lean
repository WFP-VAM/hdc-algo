import Hdc.Model.Effects
/-
C12, part B: the parallel row loop (`numba.prange`).

Store-level semantics of loop iterations as lists of atomic actions, conformance of an iteration to an
access summary (`Hdc.Effects.Summary`), the decidable predicate `RowLocal`, and the generic theorems
  RowLocal s → iterations conforming to s touch disjoint locations (B1)
  RowLocal s → every interleaving of conforming iterations ends in the state of the sequential loop (B2).
No Mathlib.
-/
namespace Hdc.Conc
open Hdc.Effects

/-- a cell of an array: name and index tuple -/
abbrev Loc := String × List Nat

/-- One atomic action of an iteration: it reads the cells `reads`, and writes to the cells `writes`
    values that are a function of the values read and of the iteration's private state (locals,
    loop counters of inner loops, ...), which it may also change. -/
structure Action (V P : Type) where
  reads : List Loc
  writes : List Loc
  /-- values read (in the order of `reads`), private state ↦ values written (in the order of
      `writes`; missing values = cell not written), new private state -/
  compute : List V → P → List V × P

/-- global state: the store and the private state of every iteration -/
structure PState (V P : Type) where
  store : Loc → V
  priv : Nat → P

variable {V P : Type}

/-- the writes of one action, first to last -/
def writeMany (σ : Loc → V) : List (Loc × V) → Loc → V
  | [] => σ
  | (k, v) :: ws => writeMany (fun l => if l = k then v else σ l) ws

/-- an event `(r, a)`: iteration `r` performs its action `a` -/
def execEv (s : PState V P) (e : Nat × Action V P) : PState V P :=
  let out := e.2.compute (e.2.reads.map s.store) (s.priv e.1)
  { store := writeMany s.store (e.2.writes.zip out.1),
    priv := fun j => if j = e.1 then out.2 else s.priv j }

def exec (s : PState V P) (evs : List (Nat × Action V P)) : PState V P := evs.foldl execEv s

theorem exec_append (s : PState V P) (a b : List (Nat × Action V P)) :
    exec s (a ++ b) = exec (exec s a) b := by simp [exec, List.foldl_append]

@[simp] theorem exec_nil (s : PState V P) : exec s [] = s := rfl
@[simp] theorem exec_cons (s : PState V P) (e : Nat × Action V P) (t : List (Nat × Action V P)) :
    exec s (e :: t) = exec (execEv s e) t := rfl

/-- the value the list finally leaves in cell `l`, if it writes there -/
def lastWrite : List (Loc × V) → Loc → Option V
  | [], _ => none
  | (k, v) :: ws, l =>
    match lastWrite ws l with
    | some v' => some v'
    | none => if l = k then some v else none

theorem writeMany_eq (ws : List (Loc × V)) :
    ∀ (σ : Loc → V) (l : Loc), writeMany σ ws l = (lastWrite ws l).getD (σ l) := by
  induction ws with
  | nil => intro σ l; rfl
  | cons kv ws ih =>
    intro σ l
    obtain ⟨k, v⟩ := kv
    simp only [writeMany, lastWrite, ih]
    cases h : lastWrite ws l with
    | some v' => simp
    | none => by_cases hl : l = k <;> simp [hl]

theorem lastWrite_none (ws : List (Loc × V)) (l : Loc) (h : l ∉ ws.map (·.1)) :
    lastWrite ws l = none := by
  induction ws with
  | nil => rfl
  | cons kv ws ih =>
    obtain ⟨k, v⟩ := kv
    simp only [List.map_cons, List.mem_cons, not_or] at h
    simp [lastWrite, ih h.2, h.1]

theorem writeMany_not_mem (σ : Loc → V) (ws : List (Loc × V)) (l : Loc) (h : l ∉ ws.map (·.1)) :
    writeMany σ ws l = σ l := by
  rw [writeMany_eq, lastWrite_none ws l h]; rfl

theorem mem_of_mem_zip_keys (ks : List Loc) (vs : List V) (l : Loc)
    (h : l ∈ (ks.zip vs).map (·.1)) : l ∈ ks := by
  obtain ⟨⟨k, v⟩, hm, rfl⟩ := List.mem_map.mp h
  exact (List.of_mem_zip hm).1

theorem writeMany_comm (σ : Loc → V) (W W' : List (Loc × V))
    (h : ∀ l ∈ W.map (·.1), l ∉ W'.map (·.1)) :
    writeMany (writeMany σ W) W' = writeMany (writeMany σ W') W := by
  funext l
  simp only [writeMany_eq]
  by_cases hl : l ∈ W.map (·.1)
  · rw [lastWrite_none W' l (h l hl)]; rfl
  · rw [lastWrite_none W l hl]; rfl

/-! ### independent events commute -/

/-- the events belong to different iterations and neither writes what the other reads or writes -/
def Indep (e e' : Nat × Action V P) : Prop :=
  e.1 ≠ e'.1 ∧
  (∀ l ∈ e.2.writes, l ∉ e'.2.reads ∧ l ∉ e'.2.writes) ∧
  (∀ l ∈ e'.2.writes, l ∉ e.2.reads ∧ l ∉ e.2.writes)

theorem Indep.symm {e e' : Nat × Action V P} (h : Indep e e') : Indep e' e :=
  ⟨fun x => h.1 x.symm, h.2.2, h.2.1⟩

theorem reads_unchanged (s : PState V P) (e e' : Nat × Action V P)
    (h : ∀ l ∈ e.2.writes, l ∉ e'.2.reads) :
    e'.2.reads.map (execEv s e).store = e'.2.reads.map s.store := by
  apply List.map_congr_left
  intro l hl
  simp only [execEv]
  apply writeMany_not_mem
  intro hm
  exact h l (mem_of_mem_zip_keys _ _ _ hm) hl

theorem execEv_congr (s s' : PState V P) (e : Nat × Action V P)
    (hr : e.2.reads.map s'.store = e.2.reads.map s.store) (hp : s'.priv e.1 = s.priv e.1) :
    execEv s' e =
      { store := writeMany s'.store (e.2.writes.zip (e.2.compute (e.2.reads.map s.store) (s.priv e.1)).1),
        priv := fun j => if j = e.1 then (e.2.compute (e.2.reads.map s.store) (s.priv e.1)).2
          else s'.priv j } := by
  simp only [execEv, hr, hp]

theorem execEv_comm (s : PState V P) (e e' : Nat × Action V P) (h : Indep e e') :
    execEv (execEv s e) e' = execEv (execEv s e') e := by
  obtain ⟨hne, h1, h2⟩ := h
  have hr1 := reads_unchanged s e e' fun l hl => (h1 l hl).1
  have hr2 := reads_unchanged s e' e fun l hl => (h2 l hl).1
  have hp1 : (execEv s e).priv e'.1 = s.priv e'.1 := if_neg (Ne.symm hne)
  have hp2 : (execEv s e').priv e.1 = s.priv e.1 := if_neg hne
  rw [execEv_congr s (execEv s e) e' hr1 hp1, execEv_congr s (execEv s e') e hr2 hp2]
  congr 1
  · exact writeMany_comm _ _ _ fun l hl hl' =>
      (h1 l (mem_of_mem_zip_keys _ _ _ hl)).2 (mem_of_mem_zip_keys _ _ _ hl')
  · funext j
    simp only [execEv]
    by_cases hj : j = e.1
    · simp [hj, hne]
    · simp [hj]
theorem exec_move_behind (e : Nat × Action V P) (F : List (Nat × Action V P))
    (h : ∀ e' ∈ F, Indep e e') : ∀ s : PState V P, exec s (e :: F) = exec s (F ++ [e]) := by
  induction F with
  | nil => intro s; rfl
  | cons f F ih =>
    intro s
    have hf := h f (List.mem_cons_self)
    have ih' := ih (fun e' he' => h e' (List.mem_cons_of_mem _ he')) (execEv s f)
    simp only [exec_cons, List.cons_append] at ih' ⊢
    rw [execEv_comm s e f hf, ih']

/-! ### moving one iteration to the back of an interleaving -/

def evsOf (r : Nat) (l : List (Nat × Action V P)) : List (Nat × Action V P) :=
  l.filter fun e => e.1 = r
def evsNot (r : Nat) (l : List (Nat × Action V P)) : List (Nat × Action V P) :=
  l.filter fun e => e.1 ≠ r

def PairIndep (l : List (Nat × Action V P)) : Prop :=
  ∀ e ∈ l, ∀ e' ∈ l, e.1 ≠ e'.1 → Indep e e'

theorem PairIndep.tail {e : Nat × Action V P} {l : List (Nat × Action V P)}
    (h : PairIndep (e :: l)) : PairIndep l :=
  fun a ha b hb => h a (List.mem_cons_of_mem _ ha) b (List.mem_cons_of_mem _ hb)

theorem exec_pull_back (r : Nat) (l : List (Nat × Action V P)) (h : PairIndep l) :
    ∀ s : PState V P, exec s l = exec s (evsNot r l ++ evsOf r l) := by
  induction l with
  | nil => intro s; rfl
  | cons e t ih =>
    intro s
    have iht := ih h.tail
    by_cases he : e.1 = r
    · have h1 : evsOf r (e :: t) = e :: evsOf r t := by simp [evsOf, he]
      have h2 : evsNot r (e :: t) = evsNot r t := by simp [evsNot, he]
      rw [h1, h2, exec_cons, iht]
      have hmove := exec_move_behind e (evsNot r t) (by
        intro e' he'
        have hm := List.mem_filter.mp he'
        have : e'.1 ≠ r := by simpa using hm.2
        exact h e List.mem_cons_self e' (List.mem_cons_of_mem _ hm.1) (by rw [he]; exact Ne.symm this)) s
      rw [exec_cons] at hmove
      rw [exec_append, hmove, ← exec_append, List.append_assoc]
      rfl
    · have h1 : evsOf r (e :: t) = evsOf r t := by simp [evsOf, he]
      have h2 : evsNot r (e :: t) = e :: evsNot r t := by simp [evsNot, he]
      rw [h1, h2, List.cons_append, exec_cons, exec_cons, iht]

theorem evsOf_evsNot (r r0 : Nat) (l : List (Nat × Action V P)) (h : r ≠ r0) :
    evsOf r (evsNot r0 l) = evsOf r l := by
  simp only [evsOf, evsNot, List.filter_filter]
  apply List.filter_congr
  intro e _
  by_cases he : e.1 = r
  · simp [he, h]
  · simp [he]

/-! ### iterations, interleavings, the sequential loop -/

/-- the events of the sequential loop `for r in range(nr)` -/
def seqEvents (iters : Nat → List (Action V P)) (nr : Nat) : List (Nat × Action V P) :=
  (List.range nr).flatMap fun r => (iters r).map fun a => (r, a)

/-- `evs` is a merge of the action lists of the iterations `0 … nr-1` that keeps each iteration's
    own order (any number of threads, any assignment of rows to threads, any timing) -/
def IsInterleaving (iters : Nat → List (Action V P)) (nr : Nat) (evs : List (Nat × Action V P)) : Prop :=
  (∀ e ∈ evs, e.1 < nr) ∧ ∀ r, r < nr → evsOf r evs = (iters r).map fun a => (r, a)

theorem evsOf_map_same (r : Nat) (acts : List (Action V P)) :
    evsOf r (acts.map fun a => (r, a)) = acts.map fun a => (r, a) := by
  induction acts with
  | nil => rfl
  | cons a t ih => unfold evsOf at ih ⊢; simp [ih]

theorem evsOf_map_other (r r' : Nat) (h : r' ≠ r) (acts : List (Action V P)) :
    evsOf r (acts.map fun a => (r', a)) = [] := by
  simp [evsOf, List.filter_map, Function.comp_def, h]

/-- Independence of the iterations at the level of locations: an iteration writes nothing that
    another iteration reads or writes. -/
def ItersIndep (iters : Nat → List (Action V P)) (nr : Nat) : Prop :=
  ∀ r r', r < nr → r' < nr → r ≠ r' → ∀ a ∈ iters r, ∀ a' ∈ iters r',
    ∀ l ∈ a.writes, l ∉ a'.reads ∧ l ∉ a'.writes

theorem pairIndep_of_interleaving (iters : Nat → List (Action V P)) (nr : Nat)
    (hind : ItersIndep iters nr) (evs : List (Nat × Action V P)) (h : IsInterleaving iters nr evs) :
    PairIndep evs := by
  have hmem : ∀ e ∈ evs, e.1 < nr ∧ e.2 ∈ iters e.1 := by
    intro e he
    have hlt := h.1 e he
    refine ⟨hlt, ?_⟩
    have : e ∈ evsOf e.1 evs := by simp [evsOf, he]
    rw [h.2 e.1 hlt] at this
    obtain ⟨a, ha, hae⟩ := List.mem_map.mp this
    rw [← hae]; exact ha
  intro e he e' he' hne
  obtain ⟨h1, h2⟩ := hmem e he
  obtain ⟨h1', h2'⟩ := hmem e' he'
  exact ⟨hne, hind e.1 e'.1 h1 h1' hne e.2 h2 e'.2 h2',
    hind e'.1 e.1 h1' h1 (fun x => hne x.symm) e'.2 h2' e.2 h2⟩

/-- Every interleaving of independent iterations ends in the state of the sequential loop: push the last
    iteration's events to the back; what is in front of them interleaves the iterations before it. -/
theorem exec_interleaving_eq_seq (iters : Nat → List (Action V P)) (nr : Nat)
    (hind : ItersIndep iters nr) (evs : List (Nat × Action V P)) (h : IsInterleaving iters nr evs)
    (s : PState V P) : exec s evs = exec s (seqEvents iters nr) := by
  induction nr generalizing evs with
  | zero =>
    cases evs with
    | nil => rfl
    | cons e t => exact absurd (h.1 e List.mem_cons_self) (Nat.not_lt_zero _)
  | succ n ih =>
    have hfront : IsInterleaving iters n (evsNot n evs) := by
      refine ⟨fun e he => ?_, fun r hr => ?_⟩
      · have hm := List.mem_filter.mp he
        have : e.1 ≠ n := by simpa using hm.2
        have := h.1 e hm.1
        omega
      · rw [evsOf_evsNot r n evs (by omega)]
        exact h.2 r (by omega)
    have hseq : seqEvents iters (n + 1) = seqEvents iters n ++ (iters n).map fun a => (n, a) := by
      simp [seqEvents, List.range_succ]
    rw [exec_pull_back n evs (pairIndep_of_interleaving iters (n + 1) hind evs h) s, exec_append,
      ih (fun r r' hr hr' => hind r r' (by omega) (by omega)) _ hfront, h.2 n (by omega), ← exec_append, hseq]

/-! ### conformance to a summary, `RowLocal` -/

/-- Iteration `r` may touch cell `l` (for writing when `w`) according to the summary:
    * a cell of an array allocated inside the body is the iteration's own copy (cells of private
      arrays are tagged with the iteration number in front of the index);
    * a cell of a shared array must be covered by an access of the summary for that array — a write
      by a write access, a read by any access — and when the access carries the loop variable as a
      plain index at position `p`, the cell's index has `r` at position `p`. -/
def Touches (s : Summary) (r : Nat) (w : Bool) (l : Loc) : Prop :=
  (l.1 ∈ s.priv ∧ l.2.head? = some r) ∨
  (l.1 ∈ s.shared ∧ ∃ a ∈ s.accesses, a.arr = l.1 ∧ (w = true → a.write = true) ∧
      ∀ p, a.rowAxis = some p → l.2[p]? = some r)

theorem Touches.shared {s : Summary} {r : Nat} {w : Bool} {l : Loc} (hs : l.1 ∈ s.shared) (a : Access)
    (ha : a ∈ s.accesses) (harr : a.arr = l.1) (hw : w = true → a.write = true)
    (hrow : ∀ p, a.rowAxis = some p → l.2[p]? = some r) : Touches s r w l :=
  Or.inr ⟨hs, a, ha, harr, hw, hrow⟩

def IterConforms (s : Summary) (r : Nat) (acts : List (Action V P)) : Prop :=
  ∀ a ∈ acts, (∀ l ∈ a.reads, Touches s r false l) ∧ (∀ l ∈ a.writes, Touches s r true l)

/-- the common row axis of all accesses to `x`, if there is one -/
def commonAxis (s : Summary) (x : String) : Option Nat :=
  match ((s.accesses.filter fun a => a.arr = x).head?).bind (·.rowAxis) with
  | some p => if (s.accesses.filter fun a => a.arr = x).all fun a => a.rowAxis = some p then some p else none
  | none => none

def isWritten (s : Summary) (x : String) : Bool := s.accesses.any fun a => a.arr = x ∧ a.write = true

/-- No array is both shared and private, and every shared array that is written in the body is
    accessed — for reading and for writing — only with the loop variable as a plain index at one
    common position.  (Shared arrays that are never written may be read anywhere.) -/
def RowLocal (s : Summary) : Bool :=
  (s.shared.all fun x => !s.priv.contains x) &&
  (s.shared.all fun x => !isWritten s x || (commonAxis s x).isSome)

theorem commonAxis_eq_some {s : Summary} {x : String} {p : Nat} :
    commonAxis s x = some p ↔
      (∃ a ∈ s.accesses, a.arr = x) ∧ ∀ a ∈ s.accesses, a.arr = x → a.rowAxis = some p := by
  have hF : ∀ a, a ∈ s.accesses.filter (fun a => a.arr = x) ↔ a ∈ s.accesses ∧ a.arr = x := by simp
  simp only [← hF, ← and_imp]
  unfold commonAxis
  cases s.accesses.filter (fun a => a.arr = x) with
  | nil => simp
  | cons b t =>
    cases hb : b.rowAxis with
    | none => simp [hb]
    | some q => by_cases hq : q = p <;> simp [hb, hq]

/-- the predicate says what it should -/
theorem rowLocal_iff (s : Summary) :
    RowLocal s = true ↔
      (∀ x ∈ s.shared, x ∉ s.priv) ∧
      (∀ x ∈ s.shared, (∃ a ∈ s.accesses, a.arr = x ∧ a.write = true) →
        ∃ p, ∀ a ∈ s.accesses, a.arr = x → a.rowAxis = some p) := by
  rw [RowLocal, Bool.and_eq_true, List.all_eq_true, List.all_eq_true]
  refine and_congr (by simp) (forall₂_congr fun x _ => ?_)
  simp only [Bool.or_eq_true, Bool.not_eq_true', ← Bool.not_eq_true, isWritten, List.any_eq_true,
    Option.isSome_iff_exists, commonAxis_eq_some, decide_eq_true_eq]
  constructor
  · rintro (h | ⟨p, _, hp⟩) hw
    · exact absurd hw h
    · exact ⟨p, hp⟩
  · intro h
    by_cases hw : ∃ a ∈ s.accesses, a.arr = x ∧ a.write = true
    · obtain ⟨p, hp⟩ := h hw
      obtain ⟨a, ha, hax, _⟩ := hw
      exact Or.inr ⟨p, ⟨a, ha, hax⟩, hp⟩
    · exact Or.inl hw

/-- B1 on cells: under `RowLocal` a cell written by iteration `r` is not touched by iteration `r'` -/
theorem rowlocal_cell_disjoint {s : Summary} (h : RowLocal s = true) {r r' : Nat} (hne : r ≠ r')
    (l : Loc) (w : Bool) (hw : Touches s r true l) (ht : Touches s r' w l) : False := by
  obtain ⟨hdisj, hrow⟩ := (rowLocal_iff s).mp h
  rcases hw with ⟨hp, htag⟩ | ⟨hsh, a, ha, hax, haw, hpos⟩
  · rcases ht with ⟨_, htag'⟩ | ⟨hsh', _⟩
    · rw [htag] at htag'; exact hne (Option.some.inj htag')
    · exact hdisj _ hsh' hp
  · rcases ht with ⟨hp', _⟩ | ⟨_, a', ha', hax', _, hpos'⟩
    · exact hdisj _ hsh hp'
    · obtain ⟨p, hp⟩ := hrow _ hsh ⟨a, ha, hax, haw rfl⟩
      have e1 := hpos p (hp a ha hax)
      have e2 := hpos' p (hp a' ha' hax')
      rw [e1] at e2
      exact hne (Option.some.inj e2)

/-- B1: for `r ≠ r'`, write-set(r) ∩ (read-set(r') ∪ write-set(r')) = ∅ -/
theorem rowlocal_disjoint {s : Summary} (h : RowLocal s = true) {r r' : Nat} (hne : r ≠ r')
    (acts acts' : List (Action V P)) (hc : IterConforms s r acts) (hc' : IterConforms s r' acts') :
    ∀ a ∈ acts, ∀ a' ∈ acts', ∀ l ∈ a.writes, l ∉ a'.reads ∧ l ∉ a'.writes := by
  intro a ha a' ha' l hl
  have hw := (hc a ha).2 l hl
  exact ⟨fun hr => rowlocal_cell_disjoint h hne l false hw ((hc' a' ha').1 l hr),
    fun hr => rowlocal_cell_disjoint h hne l true hw ((hc' a' ha').2 l hr)⟩

/-- B2: under `RowLocal`, every interleaving of conforming iterations — whatever the number of
    threads, the assignment of rows to threads and the timing — ends in the same store (and the same
    private states) as the sequential loop `r = 0, 1, …, nr-1`. -/
theorem prange_schedule_independent {s : Summary} (h : RowLocal s = true)
    (iters : Nat → List (Action V P)) (nr : Nat) (hc : ∀ r, r < nr → IterConforms s r (iters r))
    (evs : List (Nat × Action V P)) (hi : IsInterleaving iters nr evs) (st : PState V P) :
    exec st evs = exec st (seqEvents iters nr) := by
  apply exec_interleaving_eq_seq iters nr _ evs hi st
  intro r r' hr hr' hne a ha a' ha' l hl
  exact rowlocal_disjoint h hne (iters r) (iters r') (hc r hr) (hc r' hr') a ha a' ha' l hl

/-- any two executions (thread counts, chunkings, timings) agree -/
theorem prange_any_two_schedules_agree {s : Summary} (h : RowLocal s = true)
    (iters : Nat → List (Action V P)) (nr : Nat) (hc : ∀ r, r < nr → IterConforms s r (iters r))
    (evs evs' : List (Nat × Action V P)) (hi : IsInterleaving iters nr evs)
    (hi' : IsInterleaving iters nr evs') (st : PState V P) :
    (exec st evs).store = (exec st evs').store := by
  rw [prange_schedule_independent h iters nr hc evs hi st,
    prange_schedule_independent h iters nr hc evs' hi' st]

/-! ### chunked execution: rows dealt out to threads -/

/-- a thread that is given the rows `rows` runs them one after the other -/
def chunkEvents (iters : Nat → List (Action V P)) (rows : List Nat) : List (Nat × Action V P) :=
  rows.flatMap fun r => (iters r).map fun a => (r, a)

theorem evsOf_append (r : Nat) (a b : List (Nat × Action V P)) :
    evsOf r (a ++ b) = evsOf r a ++ evsOf r b := by simp [evsOf]

theorem mem_chunkEvents (iters : Nat → List (Action V P)) (rows : List Nat) (e : Nat × Action V P)
    (h : e ∈ chunkEvents iters rows) : e.1 ∈ rows := by
  simp only [chunkEvents, List.mem_flatMap, List.mem_map] at h
  obtain ⟨r, hr, a, _, rfl⟩ := h
  exact hr

theorem evsOf_chunkEvents_not_mem (iters : Nat → List (Action V P)) (rows : List Nat) (r : Nat)
    (h : r ∉ rows) : evsOf r (chunkEvents iters rows) = [] := by
  simp only [evsOf, List.filter_eq_nil_iff, decide_eq_true_eq]
  exact fun e he heq => h (heq ▸ mem_chunkEvents iters rows e he)

theorem evsOf_chunkEvents (iters : Nat → List (Action V P)) (rows : List Nat) (hnd : rows.Nodup)
    (r : Nat) (h : r ∈ rows) : evsOf r (chunkEvents iters rows) = (iters r).map fun a => (r, a) := by
  induction rows with
  | nil => cases h
  | cons r0 t ih =>
    have hnd' := List.nodup_cons.mp hnd
    have hc : chunkEvents iters (r0 :: t) = ((iters r0).map fun a => (r0, a)) ++ chunkEvents iters t := by
      simp [chunkEvents]
    rw [hc, evsOf_append]
    by_cases hr : r = r0
    · subst hr
      rw [evsOf_map_same, evsOf_chunkEvents_not_mem iters t r hnd'.1, List.append_nil]
    · rw [evsOf_map_other r r0 (fun x => hr x.symm), List.nil_append]
      rcases List.mem_cons.mp h with h' | h'
      · exact absurd h' hr
      · exact ih hnd'.2 h'

/-- the rows executed one after the other in any order (a permutation of `0 … nr-1`) form an
    interleaving -/
theorem chunkEvents_isInterleaving (iters : Nat → List (Action V P)) (nr : Nat) (rows : List Nat)
    (hnd : rows.Nodup) (hmem : ∀ r, r ∈ rows ↔ r < nr) :
    IsInterleaving iters nr (chunkEvents iters rows) :=
  ⟨fun e he => (hmem _).mp (mem_chunkEvents iters rows e he),
    fun r hr => evsOf_chunkEvents iters rows hnd r ((hmem r).mpr hr)⟩

theorem seqEvents_isInterleaving (iters : Nat → List (Action V P)) (nr : Nat) :
    IsInterleaving iters nr (seqEvents iters nr) :=
  chunkEvents_isInterleaving iters nr (List.range nr) List.nodup_range fun _ => List.mem_range

/-- the rows `0 … nr-1` are dealt out to `T` threads: thread `t` gets the rows `assign t` (any
    chunking, any schedule kind), every row exactly once -/
def IsDeal (nr T : Nat) (assign : Nat → List Nat) : Prop :=
  (∀ t, t < T → (assign t).Nodup) ∧
  (∀ t t', t < T → t' < T → t ≠ t' → ∀ r ∈ assign t, r ∉ assign t') ∧
  (∀ r, r < nr ↔ ∃ t, t < T ∧ r ∈ assign t)

/-- `tevs` (events tagged with the executing thread) is a merge of the threads' event lists that
    keeps each thread's own order; thread `t` executes its rows one after the other -/
def IsThreadMerge (iters : Nat → List (Action V P)) (T : Nat) (assign : Nat → List Nat)
    (tevs : List (Nat × (Nat × Action V P))) : Prop :=
  (∀ e ∈ tevs, e.1 < T) ∧
  ∀ t, t < T → (tevs.filter fun e => e.1 = t).map (·.2) = chunkEvents iters (assign t)

theorem evsOf_map_snd_filter (r t0 : Nat) (l : List (Nat × (Nat × Action V P)))
    (h : ∀ te ∈ l, te.2.1 = r → te.1 = t0) :
    evsOf r (l.map (·.2)) = evsOf r ((l.filter fun e => e.1 = t0).map (·.2)) := by
  simp only [evsOf, List.filter_map, List.filter_filter]
  congr 1
  apply List.filter_congr
  intro te hte
  by_cases hr : te.2.1 = r
  · simp [hr, h te hte hr]
  · simp [hr]

theorem threadMerge_isInterleaving (iters : Nat → List (Action V P)) (nr T : Nat)
    (assign : Nat → List Nat) (hd : IsDeal nr T assign) (tevs : List (Nat × (Nat × Action V P)))
    (hm : IsThreadMerge iters T assign tevs) : IsInterleaving iters nr (tevs.map (·.2)) := by
  obtain ⟨hnd, hdisj, hcover⟩ := hd
  have hrow : ∀ te ∈ tevs, te.1 < T ∧ te.2.1 ∈ assign te.1 := by
    intro te hte
    have hT := hm.1 te hte
    refine ⟨hT, ?_⟩
    have : te.2 ∈ (tevs.filter fun e => e.1 = te.1).map (·.2) :=
      List.mem_map.mpr ⟨te, List.mem_filter.mpr ⟨hte, by simp⟩, rfl⟩
    rw [hm.2 te.1 hT] at this
    exact mem_chunkEvents iters _ _ this
  constructor
  · intro e he
    obtain ⟨te, hte, rfl⟩ := List.mem_map.mp he
    obtain ⟨hT, hr⟩ := hrow te hte
    exact (hcover _).mpr ⟨te.1, hT, hr⟩
  · intro r hr
    obtain ⟨t0, ht0, hr0⟩ := (hcover r).mp hr
    rw [evsOf_map_snd_filter r t0 tevs, hm.2 t0 ht0, evsOf_chunkEvents iters _ (hnd t0 ht0) r hr0]
    intro te hte hter
    obtain ⟨hT, hmem⟩ := hrow te hte
    rw [hter] at hmem
    false_or_by_contra
    rename_i hne
    exact hdisj te.1 t0 hT ht0 hne r hmem hr0

theorem prange_row_order_irrelevant {s : Summary} (h : RowLocal s = true)
    (iters : Nat → List (Action V P)) (nr : Nat) (hc : ∀ r, r < nr → IterConforms s r (iters r))
    (rows : List Nat) (hnd : rows.Nodup) (hmem : ∀ r, r ∈ rows ↔ r < nr) (st : PState V P) :
    exec st (chunkEvents iters rows) = exec st (seqEvents iters nr) :=
  prange_schedule_independent h iters nr hc _ (chunkEvents_isInterleaving iters nr rows hnd hmem) st

/-- any number of threads, any way of dealing the rows out to them, any merge of the threads'
    executions: the state of the sequential loop -/
theorem prange_threads_independent {s : Summary} (h : RowLocal s = true)
    (iters : Nat → List (Action V P)) (nr : Nat) (hc : ∀ r, r < nr → IterConforms s r (iters r))
    (T : Nat) (assign : Nat → List Nat) (hd : IsDeal nr T assign)
    (tevs : List (Nat × (Nat × Action V P))) (hm : IsThreadMerge iters T assign tevs)
    (st : PState V P) : exec st (tevs.map (·.2)) = exec st (seqEvents iters nr) :=
  prange_schedule_independent h iters nr hc _ (threadMerge_isInterleaving iters nr T assign hd tevs hm) st

end Hdc.Conc
