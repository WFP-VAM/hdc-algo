import Hdc.Model.Stats
import Hdc.Model.RoundAcc
/-
C13: fixed-width integer accumulators.  The compiled kernels accumulate in int64 / store to int16,
the interpreted ones in unbounded Python integers; the lemmas here show that within the stated
contracts the wrapping arithmetic never wraps.  No Mathlib.
-/
namespace Hdc.Width

/-- two's-complement wrap to 64 bits (what an int64 addition / multiplication returns) -/
def wrap64 (x : Int) : Int := (x + 2 ^ 63) % 2 ^ 64 - 2 ^ 63
/-- two's-complement wrap to 16 bits (the store into an int16 array) -/
def wrap16 (x : Int) : Int := (x + 2 ^ 15) % 2 ^ 16 - 2 ^ 15

theorem wrap64_eq_iff (x : Int) : wrap64 x = x ↔ -2 ^ 63 ≤ x ∧ x < 2 ^ 63 := by
  unfold wrap64; constructor <;> intro h <;> omega

theorem wrap64_id (x : Int) (h : -2 ^ 63 ≤ x ∧ x < 2 ^ 63) : wrap64 x = x := (wrap64_eq_iff x).mpr h

theorem wrap64_range (x : Int) : -2 ^ 63 ≤ wrap64 x ∧ wrap64 x < 2 ^ 63 := by unfold wrap64; omega

theorem wrap16_eq_iff (x : Int) : wrap16 x = x ↔ -32768 ≤ x ∧ x ≤ 32767 := by
  unfold wrap16; constructor <;> intro h <;> omega

theorem wrap16_range (x : Int) : -32768 ≤ wrap16 x ∧ wrap16 x ≤ 32767 := by unfold wrap16; omega

theorem sum_bound (B : Int) (l : List Int) (h : ∀ v ∈ l, -B ≤ v ∧ v ≤ B) :
    -((l.length : Int) * B) ≤ l.sum ∧ l.sum ≤ (l.length : Int) * B := by
  induction l with
  | nil => simp
  | cons a t ih =>
    have ha := h a List.mem_cons_self
    have iht := ih fun v hv => h v (List.mem_cons_of_mem _ hv)
    have e : (((a :: t).length : Nat) : Int) * B = (t.length : Int) * B + B := by
      rw [List.length_cons, Int.natCast_succ, Int.add_mul, Int.one_mul]
    rw [e, List.sum_cons]
    omega

theorem nonneg_of_bounded (B : Int) (v : Int) (h : -B ≤ v ∧ v ≤ B) : 0 ≤ B := by omega

/-- a prefix is no longer than the list, also after scaling by the bound of the entries -/
theorem take_length_mul_le (B : Int) (l : List Int) (h : ∀ v ∈ l, -B ≤ v ∧ v ≤ B) (k : Nat) :
    ((l.take k).length : Int) * B ≤ (l.length : Int) * B := by
  cases l with
  | nil => simp
  | cons a t =>
    refine Int.mul_le_mul_of_nonneg_right ?_ (nonneg_of_bounded B a (h a List.mem_cons_self))
    have := List.length_take_le' k (a :: t)
    omega

theorem prefix_sum_bound (B : Int) (l : List Int) (h : ∀ v ∈ l, -B ≤ v ∧ v ≤ B) (k : Nat) :
    -((l.length : Int) * B) ≤ (l.take k).sum ∧ (l.take k).sum ≤ (l.length : Int) * B := by
  have h1 := sum_bound B (l.take k) fun v hv => h v (List.mem_of_mem_take hv)
  have h2 := take_length_mul_le B l h k
  omega

/-- the running sum as an int64 accumulator computes it -/
def wsum64 (l : List Int) : Int := l.foldl (fun acc v => wrap64 (acc + v)) 0

/-- int64 as an accumulator format: wrapping changes nothing below `2^63` -/
def int64Round : IntRound := ⟨wrap64, 2 ^ 63 - 1, fun n h => wrap64_id n (by omega)⟩

/-- D1 (generic): an int64 accumulator over terms in [-B, B] with len·B < 2^63 never wraps
    (`wsum64` is `accR` at `int64Round`) -/
theorem wsum64_exact (B : Int) (l : List Int) (h : ∀ v ∈ l, -B ≤ v ∧ v ≤ B)
    (hlen : (l.length : Int) * B < 2 ^ 63) : wsum64 l = l.sum := by
  cases l with
  | nil => rfl
  | cons a t =>
    have hB := nonneg_of_bounded B a (h a List.mem_cons_self)
    have e : (((a :: t).length * B.toNat : Nat) : Int) = (a :: t).length * B := by
      rw [Int.natCast_mul, Int.toNat_of_nonneg hB]
    exact accR_exact_of_bound int64Round (a :: t) B.toNat (fun v hv => by have := h v hv; omega)
      (by show _ ≤ 2 ^ 63 - 1; omega)

/-- ... and so does every intermediate value of the accumulator -/
theorem wsum64_prefix_exact (B : Int) (l : List Int) (h : ∀ v ∈ l, -B ≤ v ∧ v ≤ B)
    (hlen : (l.length : Int) * B < 2 ^ 63) (k : Nat) : wsum64 (l.take k) = (l.take k).sum :=
  wsum64_exact B _ (fun v hv => h v (List.mem_of_mem_take hv))
    (Int.lt_of_le_of_lt (take_length_mul_le B l h k) hlen)

theorem int16_mul_bound (x y : Int) (hx : -32768 ≤ x ∧ x ≤ 32767) (hy : -32768 ≤ y ∧ y ≤ 32767) :
    -2 ^ 30 ≤ x * y ∧ x * y ≤ 2 ^ 30 := by
  have h := Int.natAbs_mul x y
  have h2 : x.natAbs * y.natAbs ≤ 32768 * 32768 := Nat.mul_le_mul (by omega) (by omega)
  omega

/-! ### the accumulators of `autocorr_1d_int` at the int64 carrier -/

/-- int64 with wrapping addition and multiplication -/
structure W64 where
  val : Int

instance : Add W64 := ⟨fun a b => ⟨wrap64 (a.val + b.val)⟩⟩
instance : Mul W64 := ⟨fun a b => ⟨wrap64 (a.val * b.val)⟩⟩
instance : NatCast W64 := ⟨fun n => ⟨wrap64 n⟩⟩

@[simp] theorem W64.add_val (a b : W64) : (a + b).val = wrap64 (a.val + b.val) := rfl
@[simp] theorem W64.natCast_val (n : Nat) : ((n : W64)).val = wrap64 n := rfl
@[simp] theorem W64.mul_val (a b : W64) : (a * b).val = wrap64 (a.val * b.val) := rfl

/-- the unbounded integers an int64 state stands for -/
def valsOf (s : ACSums W64) : ACSums Int :=
  ⟨s.sxy.val, s.sx_.val, s.sy_.val, s.nxy, s.sx.val, s.sxx.val, s.nx, s.sy.val, s.syy.val, s.ny⟩

/-- one pass of the loop body of `acAccum` -/
def acStep {α : Type} [Add α] [Mul α] (a b : Option α) (s : ACSums α) : ACSums α :=
  let s1 := match a with
    | some x => { s with sx := s.sx + x, sxx := s.sxx + x * x, nx := s.nx + 1 }
    | none => s
  let s2 := match b with
    | some y => { s1 with sy := s1.sy + y, syy := s1.syy + y * y, ny := s1.ny + 1 }
    | none => s1
  match a, b with
    | some x, some y => { s2 with sx_ := s2.sx_ + x, sy_ := s2.sy_ + y, sxy := s2.sxy + x * y, nxy := s2.nxy + 1 }
    | _, _ => s2

theorem acAccum_cons2 {α : Type} [Add α] [Mul α] (a b : Option α) (rest : List (Option α))
    (s : ACSums α) : acAccum (a :: b :: rest) s = acAccum (b :: rest) (acStep a b s) := rfl

theorem acAccum_nil {α : Type} [Add α] [Mul α] (s : ACSums α) : acAccum [] s = s := rfl

theorem acAccum_single {α : Type} [Add α] [Mul α] (a : Option α) (s : ACSums α) :
    acAccum [a] s = s := rfl

/-- all seven sums within `k · 2^30`, all three counters within `k` -/
structure Bnd (k : Nat) (s : ACSums Int) : Prop where
  sxy : -((k : Int) * 2 ^ 30) ≤ s.sxy ∧ s.sxy ≤ (k : Int) * 2 ^ 30
  sx_ : -((k : Int) * 2 ^ 30) ≤ s.sx_ ∧ s.sx_ ≤ (k : Int) * 2 ^ 30
  sy_ : -((k : Int) * 2 ^ 30) ≤ s.sy_ ∧ s.sy_ ≤ (k : Int) * 2 ^ 30
  sx : -((k : Int) * 2 ^ 30) ≤ s.sx ∧ s.sx ≤ (k : Int) * 2 ^ 30
  sxx : -((k : Int) * 2 ^ 30) ≤ s.sxx ∧ s.sxx ≤ (k : Int) * 2 ^ 30
  sy : -((k : Int) * 2 ^ 30) ≤ s.sy ∧ s.sy ≤ (k : Int) * 2 ^ 30
  syy : -((k : Int) * 2 ^ 30) ≤ s.syy ∧ s.syy ≤ (k : Int) * 2 ^ 30
  nxy : s.nxy ≤ k
  nx : s.nx ≤ k
  ny : s.ny ≤ k

def inInt16 (v : Int) : Prop := -32768 ≤ v ∧ v ≤ 32767
def optInt16 : Option Int → Prop
  | some v => inInt16 v
  | none => True

def lift (a : Option Int) : Option W64 := a.map W64.mk

/-- adding a product of two int16 values to an accumulator bounded by k·2^30, k < 2^32 -/
theorem wadd_mul (s x y : Int) (k : Nat) (hs : -((k : Int) * 2 ^ 30) ≤ s ∧ s ≤ (k : Int) * 2 ^ 30)
    (hx : inInt16 x) (hy : inInt16 y) (hk : k < 2 ^ 32) :
    wrap64 (s + wrap64 (x * y)) = s + x * y ∧
      -(((k + 1 : Nat) : Int) * 2 ^ 30) ≤ s + x * y ∧ s + x * y ≤ ((k + 1 : Nat) : Int) * 2 ^ 30 := by
  have hp := int16_mul_bound x y hx hy
  have h1 : wrap64 (x * y) = x * y := by apply wrap64_id; omega
  rw [h1]
  refine ⟨?_, ?_, ?_⟩
  · apply wrap64_id; omega
  · omega
  · omega

theorem wadd_val (s x : Int) (k : Nat) (hs : -((k : Int) * 2 ^ 30) ≤ s ∧ s ≤ (k : Int) * 2 ^ 30)
    (hx : inInt16 x) (hk : k < 2 ^ 32) :
    wrap64 (s + x) = s + x ∧
      -(((k + 1 : Nat) : Int) * 2 ^ 30) ≤ s + x ∧ s + x ≤ ((k + 1 : Nat) : Int) * 2 ^ 30 := by
  unfold inInt16 at hx
  refine ⟨?_, ?_, ?_⟩
  · apply wrap64_id; omega
  · omega
  · omega

theorem bnd_weaken (s : Int) (k : Nat) (h : -((k : Int) * 2 ^ 30) ≤ s ∧ s ≤ (k : Int) * 2 ^ 30) :
    -(((k + 1 : Nat) : Int) * 2 ^ 30) ≤ s ∧ s ≤ ((k + 1 : Nat) : Int) * 2 ^ 30 := by omega

/-- one loop pass at int64 = one loop pass over ℤ, and the bound moves from k to k+1 -/
theorem acStep_sim (a b : Option Int) (ha : optInt16 a) (hb : optInt16 b) (k : Nat) (hk : k < 2 ^ 32)
    (sW : ACSums W64) (hB : Bnd k (valsOf sW)) :
    valsOf (acStep (lift a) (lift b) sW) = acStep a b (valsOf sW) ∧
      Bnd (k + 1) (acStep a b (valsOf sW)) := by
  obtain ⟨b1, b2, b3, b4, b5, b6, b7, c1, c2, c3⟩ := hB
  simp only [valsOf] at b1 b2 b3 b4 b5 b6 b7 c1 c2 c3
  cases a with
  | none =>
    cases b with
    | none =>
      refine ⟨rfl, ?_⟩
      constructor <;> dsimp only [acStep, valsOf] <;> omega
    | some y =>
      have hy : inInt16 y := hb
      obtain ⟨e1, f1⟩ := wadd_val _ y k b6 hy hk
      obtain ⟨e2, f2⟩ := wadd_mul _ y y k b7 hy hy hk
      refine ⟨?_, ?_⟩
      · simp only [acStep, lift, Option.map, valsOf, W64.add_val, W64.mul_val, e1, e2]
      · constructor <;> dsimp only [acStep, valsOf] <;> omega
  | some x =>
    have hx : inInt16 x := ha
    obtain ⟨e3, f3⟩ := wadd_val _ x k b4 hx hk
    obtain ⟨e4, f4⟩ := wadd_mul _ x x k b5 hx hx hk
    cases b with
    | none =>
      refine ⟨?_, ?_⟩
      · simp only [acStep, lift, Option.map, valsOf, W64.add_val, W64.mul_val, e3, e4]
      · constructor <;> dsimp only [acStep, valsOf] <;> omega
    | some y =>
      have hy : inInt16 y := hb
      obtain ⟨e1, f1⟩ := wadd_val _ y k b6 hy hk
      obtain ⟨e2, f2⟩ := wadd_mul _ y y k b7 hy hy hk
      obtain ⟨e5, f5⟩ := wadd_val _ x k b2 hx hk
      obtain ⟨e6, f6⟩ := wadd_val _ y k b3 hy hk
      obtain ⟨e7, f7⟩ := wadd_mul _ x y k b1 hx hy hk
      refine ⟨?_, ?_⟩
      · simp only [acStep, lift, Option.map, valsOf, W64.add_val, W64.mul_val, e1, e2, e3, e4, e5,
          e6, e7]
      · constructor <;> dsimp only [acStep, valsOf] <;> omega

theorem acAccum_sim : ∀ (data : List (Option Int)) (k : Nat) (sW : ACSums W64),
    (∀ a ∈ data, optInt16 a) → k + data.length ≤ 2 ^ 32 → Bnd k (valsOf sW) →
      valsOf (acAccum (data.map lift) sW) = acAccum data (valsOf sW) ∧
        Bnd (k + (data.length - 1)) (acAccum data (valsOf sW))
  | [], k, sW, _, _, hB => by
    simp only [List.map_nil, acAccum_nil, List.length_nil]
    exact ⟨trivial, hB⟩
  | [a], k, sW, _, _, hB => by
    simp only [List.map_cons, List.map_nil, acAccum_single, List.length_cons, List.length_nil]
    exact ⟨trivial, hB⟩
  | a :: b :: rest, k, sW, hd, hk, hB => by
    have ha := hd a List.mem_cons_self
    have hb := hd b (List.mem_cons_of_mem _ List.mem_cons_self)
    simp only [List.length_cons] at hk
    obtain ⟨h1, h2⟩ := acStep_sim a b ha hb k (by omega) sW hB
    rw [← h1] at h2
    have ih := acAccum_sim (b :: rest) (k + 1) (acStep (lift a) (lift b) sW)
      (fun x hx => hd x (List.mem_cons_of_mem _ hx)) (by simp only [List.length_cons]; omega) h2
    simp only [List.map_cons, acAccum_cons2] at ih ⊢
    rw [h1] at ih
    refine ⟨ih.1, ?_⟩
    have e : k + ((a :: b :: rest).length - 1) = k + 1 + ((b :: rest).length - 1) := by
      simp only [List.length_cons]; omega
    rw [e]; exact ih.2

theorem bnd_zero : Bnd 0 (valsOf (ACSums.zero : ACSums W64)) := by
  have h0 : wrap64 0 = 0 := by decide
  constructor <;> simp [valsOf, ACSums.zero, nat, h0]

theorem valsOf_zero : valsOf (ACSums.zero : ACSums W64) = (ACSums.zero : ACSums Int) := by
  have h0 : wrap64 0 = 0 := by decide
  simp [valsOf, ACSums.zero, nat, h0]

/-! ### Mann-Kendall counters -/

section mk
variable {α : Type} [LT α] [DecidableLT α]

theorem mkCounts_bound (x : List α) :
    2 * (mkCounts x).1 ≤ x.length * (x.length - 1) ∧ 2 * (mkCounts x).2 ≤ x.length * (x.length - 1) := by
  induction x with
  | nil => simp [mkCounts]
  | cons a t ih =>
    have h1 : (t.filter fun v => decide (a < v)).length ≤ t.length := List.length_filter_le _ _
    have h2 : (t.filter fun v => decide (v < a)).length ≤ t.length := List.length_filter_le _ _
    have e : (a :: t).length * ((a :: t).length - 1) = t.length * (t.length - 1) + 2 * t.length := by
      simp only [List.length_cons, Nat.add_sub_cancel]
      cases t.length with
      | zero => rfl
      | succ m => simp only [Nat.add_sub_cancel, Nat.succ_mul, Nat.mul_succ]; omega
    have hc : mkCounts (a :: t) = ((mkCounts t).1 + (t.filter fun v => decide (a < v)).length,
        (mkCounts t).2 + (t.filter fun v => decide (v < a)).length) := rfl
    rw [hc, e]
    simp only
    omega

theorem pairs_lt (n : Nat) (h : n < 2 ^ 31) : n * (n - 1) < 2 ^ 62 := by
  have : n * (n - 1) ≤ (2 ^ 31 - 1) * (2 ^ 31 - 1) := Nat.mul_le_mul (by omega) (by omega)
  omega

end mk

/-! ### lroo counters -/

/-- the pairs (cr, mr) the loop of `lroo` passes through -/
def lrooTrace : Nat → Nat → Nat → List Nat → List (Nat × Nat)
  | _, cr, mr, [] => [(cr, mr)]
  | prev, cr, mr, d :: ds =>
    (cr, mr) :: (if d - prev = 1 then
      lrooTrace d (cr + 1) (if cr + 1 > mr then cr + 1 else mr) ds
    else lrooTrace d 1 mr ds)

theorem lrooTrace_last (ds : List Nat) : ∀ (prev cr mr : Nat),
    ((lrooTrace prev cr mr ds).getLast?).map (·.2) = some (lrooLoop prev cr mr ds) := by
  induction ds with
  | nil => intro prev cr mr; rfl
  | cons d ds ih =>
    intro prev cr mr
    have hne : ∀ (p c m : Nat), lrooTrace p c m ds ≠ [] := by
      intro p c m; cases ds <;> simp [lrooTrace]
    simp only [lrooTrace, lrooLoop]
    split <;> rw [List.getLast?_cons_of_ne_nil (hne _ _ _)] <;> exact ih _ _ _

theorem lrooTrace_bound (L : Nat) (ds : List Nat) : ∀ (prev cr mr : Nat),
    1 ≤ L → cr + ds.length ≤ L → mr ≤ L → ∀ p ∈ lrooTrace prev cr mr ds, p.1 ≤ L ∧ p.2 ≤ L := by
  induction ds with
  | nil =>
    intro prev cr mr _ h1 h2 p hp
    simp only [lrooTrace, List.mem_cons, List.not_mem_nil, or_false] at hp
    subst hp
    simp only [List.length_nil] at h1
    exact ⟨by omega, h2⟩
  | cons d ds ih =>
    intro prev cr mr hL h1 h2 p hp
    simp only [List.length_cons] at h1
    simp only [lrooTrace, List.mem_cons] at hp
    rcases hp with rfl | hp
    · exact ⟨by omega, h2⟩
    · split at hp
      · exact ih d (cr + 1) _ hL (by omega) (by split <;> omega) p hp
      · exact ih d 1 mr hL (by omega) h2 p hp

theorem dotsFrom_length (data : List Nat) : ∀ i, (dotsFrom i data).length ≤ data.length := by
  induction data with
  | nil => intro i; simp [dotsFrom]
  | cons x xs ih =>
    intro i
    have := ih (i + 1)
    simp only [dotsFrom]
    split <;> simp only [List.length_cons] <;> omega

end Hdc.Width
