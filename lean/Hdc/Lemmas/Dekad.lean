import Hdc.Gen.Dekad
import Hdc.Lemmas.PyDate
/-
Helper lemmas about the GENERATED dekad model `Hdc.Gen.Dekad` (fields, start/end dates, ndays).
The lemmas that mention a generated definition unfold it (`simp only [Gen.Dekad.xxx]`), so they are
re-checked against whatever the translator emitted.
-/
set_option linter.unusedSimpArgs false
namespace Hdc.C11
open Hdc Hdc.Py Hdc.PyDate Hdc.Gen.Dekad

/-- raw integers of the dekads of the years 1..9999 -/
def InRange (r : Int) : Prop := 36 ≤ r ∧ r < 360000

/-! ### field equations (Python `//`, `%` by positive literals are Lean's `/`, `%`) -/

theorem year_eq (r : Int) : year r = r / 36 := by
  simp only [Gen.Dekad.year, Py.fdiv_pos, Py.fmod_pos, Int.reduceLT] <;> omega

theorem month_eq (r : Int) : month r = 1 + r % 36 / 3 := by
  simp only [Gen.Dekad.month, Py.fdiv_pos, Py.fmod_pos, Int.reduceLT] <;> omega

theorem day_eq (r : Int) : day r = 1 + r % 3 * 10 := by
  simp only [Gen.Dekad.day, Py.fdiv_pos, Py.fmod_pos, Int.reduceLT] <;> omega

theorem idx_eq (r : Int) : idx r = 1 + r % 3 := by
  simp only [Gen.Dekad.idx, Py.fdiv_pos, Py.fmod_pos, Int.reduceLT] <;> omega

theorem yidx_eq (r : Int) : yidx r = 1 + r % 36 := by
  simp only [Gen.Dekad.yidx, month_eq, idx_eq] <;> omega

theorem raw_eq (r : Int) : raw r = r := by
  simp only [Gen.Dekad.raw]

theorem ofRaw_eq (r : Int) : ofRaw r = r := by
  simp only [Gen.Dekad.ofRaw]

theorem ofDate_eq (y m d : Int) : ofDate y m d = 36 * y + 3 * (m - 1) + min 2 ((d - 1) / 10) := by
  simp only [Gen.Dekad.ofDate, Py.fdiv_pos, Py.fmod_pos, Int.reduceLT] <;> omega

theorem add_eq (r n : Int) : add r n = r + n := by
  simp only [Gen.Dekad.add] <;> omega

/-! ### a dekad is its year, month and index -/

theorem eq_fields (r : Int) : r = 36 * year r + 3 * (month r - 1) + (idx r - 1) := by
  rw [year_eq, month_eq, idx_eq]
  omega

theorem fields_bounds (r : Int) : 1 ≤ month r ∧ month r ≤ 12 ∧ 1 ≤ idx r ∧ idx r ≤ 3 := by
  rw [month_eq, idx_eq]
  omega

theorem fields_of_eq {r y m i : Int} (h : r = 36 * y + 3 * (m - 1) + (i - 1))
    (hb : 1 ≤ m ∧ m ≤ 12 ∧ 1 ≤ i ∧ i ≤ 3) :
    year r = y ∧ month r = m ∧ idx r = i ∧ day r = 10 * (i - 1) + 1 := by
  rw [year_eq, month_eq, idx_eq, day_eq]
  omega

/-- `Dekad(date)`: year and month of the date, days 1-10 ↦ 1, 11-20 ↦ 2, 21-end ↦ 3 -/
theorem fields_ofDate {y m d : Int} (hv : ValidDate y m d) :
    year (ofDate y m d) = y ∧ month (ofDate y m d) = m ∧
    idx (ofDate y m d) = (if d ≤ 10 then 1 else if d ≤ 20 then 2 else 3) ∧
    day (ofDate y m d) = if d ≤ 10 then 1 else if d ≤ 20 then 11 else 21 := by
  obtain ⟨_, _, h3, h4, h5, _⟩ := hv
  obtain ⟨e1, e2, e3, e4⟩ := fields_of_eq (r := ofDate y m d) (y := y) (m := m)
    (i := if d ≤ 10 then 1 else if d ≤ 20 then 2 else 3) (by rw [ofDate_eq]; omega) (by omega)
  exact ⟨e1, e2, e3, by omega⟩

theorem ofDate_inRange {y m d : Int} (hv : ValidDate y m d) : InRange (ofDate y m d) := by
  obtain ⟨h1, h2, h3, h4, h5, h6⟩ := hv
  have := daysInMonth_bounds y m
  rw [ofDate_eq]; unfold InRange; omega

/-! ### `datetime(y, m, d)` -/

theorem datetime_ok {y m d : Int} (hv : ValidDate y m d) :
    datetime y m d = .ok ⟨ymd2ord y m d, 0⟩ := by
  obtain ⟨h1, h2, h3, h4, h5, h6⟩ := hv
  unfold datetime
  rw [if_neg (by omega), if_neg (by omega), if_neg (by omega)]

/-- ordinal of the first day of dekad `r` -/
def startOrd (r : Int) : Int := ymd2ord (year r) (month r) (day r)

/-- first microsecond of dekad `r`, counted from 0001-01-00T00:00 -/
def startUs (r : Int) : Int := startOrd r * usPerDay

theorem start_valid {r : Int} (h : InRange r) : ValidDate (year r) (month r) (day r) := by
  have := daysInMonth_bounds (year r) (month r)
  revert this
  rw [year_eq, month_eq, day_eq]; unfold InRange at h; unfold ValidDate
  omega

theorem start_date_eq {r : Int} (h : InRange r) : start_date r = .ok ⟨startOrd r, 0⟩ := by
  simp only [Gen.Dekad.start_date]
  exact datetime_ok (start_valid h)

/-- outside the years 1..9999 `datetime(year, month, day)` raises -/
theorem start_date_error {r : Int} (h : r < 36 ∨ 360000 ≤ r) : start_date r = .error .valueError := by
  simp only [Gen.Dekad.start_date]
  unfold datetime
  rw [if_pos (by rw [year_eq]; omega)]

/-- length of dekad `r` as a pure function -/
def len (r : Int) : Int := if idx r ≤ 2 then 10 else daysInMonth (year r) (month r) - 20

theorem len_bounds (r : Int) : 8 ≤ len r ∧ len r ≤ 11 := by
  unfold len
  have := daysInMonth_bounds (year r) (month r)
  split <;> omega

/-- consecutive dekads: the next one starts `len r` days later (all integers `r`) -/
theorem startOrd_succ (r : Int) : startOrd (r + 1) = startOrd r + len r := by
  have hr := eq_fields r
  have hb := fields_bounds r
  have hd := (fields_of_eq hr hb).2.2.2
  unfold startOrd len
  by_cases h3 : idx r ≤ 2
  · -- same month
    obtain ⟨e1, e2, -, e4⟩ := fields_of_eq (r := r + 1) (y := year r) (m := month r) (i := idx r + 1)
      (by omega) (by omega)
    rw [e1, e2, e4, hd, if_pos h3]
    unfold ymd2ord
    omega
  · have hd21 : day r = 21 := by omega
    rw [if_neg h3, hd21]
    by_cases h12 : month r = 12
    · -- next year
      obtain ⟨e1, e2, -, e4⟩ := fields_of_eq (r := r + 1) (y := year r + 1) (m := 1) (i := 1)
        (by omega) (by omega)
      have := ymd2ord_next_year (year r)
      rw [e1, e2, e4, h12]
      unfold ymd2ord at *
      omega
    · obtain ⟨e1, e2, -, e4⟩ := fields_of_eq (r := r + 1) (y := year r) (m := month r + 1) (i := 1)
        (by omega) (by omega)
      have := ymd2ord_next_month (year r) hb.1 (show month r < 12 by omega)
      rw [e1, e2, e4]
      unfold ymd2ord at *
      omega

theorem startOrd_lt_succ (r : Int) : startOrd r < startOrd (r + 1) := by
  have := len_bounds r
  rw [startOrd_succ]; omega

theorem startOrd_strictMono {a b : Int} (h : a < b) : startOrd a < startOrd b :=
  Int.lt_of_lt_of_le (startOrd_lt_succ a)
    (Py.le_of_step_le (f := startOrd) h fun x _ _ => Int.le_of_lt (startOrd_lt_succ x))

theorem startOrd_lt_iff (a b : Int) : startOrd a < startOrd b ↔ a < b := by
  refine ⟨fun h => ?_, startOrd_strictMono⟩
  rcases Int.lt_trichotomy a b with hc | rfl | hc
  · exact hc
  · omega
  · have := startOrd_strictMono hc
    omega

theorem startOrd_le_iff (a b : Int) : startOrd a ≤ startOrd b ↔ a ≤ b := by
  have := startOrd_lt_iff b a
  omega

theorem startOrd_inj {a b : Int} (h : startOrd a = startOrd b) : a = b := by
  have h1 := startOrd_le_iff a b
  have h2 := startOrd_le_iff b a
  omega

theorem startUs_lt_iff (a b : Int) : startUs a < startUs b ↔ a < b := by
  rw [← startOrd_lt_iff a b]; unfold startUs usPerDay; omega

theorem startUs_le_iff (a b : Int) : startUs a ≤ startUs b ↔ a ≤ b := by
  rw [← startOrd_le_iff a b]; unfold startUs usPerDay; omega

theorem totalUs_start (r : Int) : (⟨startOrd r, 0⟩ : DateTime).totalUs = startUs r := by
  unfold DateTime.totalUs startUs; simp only []; omega

/-- whatever `start_date r` returns is the first microsecond of the dekad -/
theorem totalUs_of_start_date {r : Int} (h : InRange r) {s : DateTime} (hs : start_date r = .ok s) :
    s.totalUs = startUs r := by
  rw [start_date_eq h] at hs
  cases hs
  exact totalUs_start r

theorem startOrd_bounds {r : Int} (h : InRange r) : day r ≤ startOrd r ∧ startOrd r ≤ maxOrdinal :=
  ymd2ord_bounds (start_valid h)

/-! ### `datetime - timedelta(microseconds=1)`, end of a dekad, number of days -/

theorem subDelta_us1 {o : Int} (h1 : 2 ≤ o) (h2 : o ≤ maxOrdinal + 1) :
    DateTime.subDelta ⟨o, 0⟩ (microseconds 1) = .ok ⟨o - 1, usPerDay - 1⟩ := by
  unfold DateTime.subDelta DateTime.addDelta DateTime.totalUs microseconds
  simp only []
  unfold maxOrdinal at h2
  have e1 : (o * usPerDay + 0 + -1) / usPerDay = o - 1 := by unfold usPerDay; omega
  have e2 : (o * usPerDay + 0 + -1) % usPerDay = usPerDay - 1 := by unfold usPerDay; omega
  rw [e1, e2, if_pos (by unfold maxOrdinal; omega)]

theorem end_date_eq {r : Int} (h : InRange r) (h' : InRange (r + 1)) :
    end_date r = .ok ⟨startOrd (r + 1) - 1, usPerDay - 1⟩ := by
  have hb := startOrd_bounds h'
  have hd : 1 ≤ day (r + 1) := by rw [day_eq]; omega
  have hlt := startOrd_lt_succ r
  have hb0 := startOrd_bounds h
  have hd0 : 1 ≤ day r := by rw [day_eq]; omega
  simp only [Gen.Dekad.end_date, add_eq, start_date_eq h']
  show DateTime.subDelta ⟨startOrd (r + 1), 0⟩ (microseconds 1) = _
  rw [subDelta_us1 (by omega) (by omega)]

theorem end_date_359999 : end_date 359999 = .error .valueError := by
  simp only [Gen.Dekad.end_date, add_eq]
  rw [start_date_error (by omega)]
  rfl

theorem ndays_eq {r : Int} (h : InRange r) (h' : InRange (r + 1)) : ndays r = .ok (len r) := by
  simp only [Gen.Dekad.ndays, end_date_eq h h', start_date_eq h]
  show Except.ok _ = _
  congr 1
  unfold TimeDelta.days TimeDelta.add DateTime.diff DateTime.totalUs microseconds
  simp only []
  have := startOrd_succ r
  unfold usPerDay; omega

end Hdc.C11
