import Hdc.Gen.Dekad
import Hdc.Lemmas.Dekad
import Hdc.Lemmas.PyDateOrd
/-
Every day 1 ..= maxOrdinal lies in a dekad (that it is only one is `C11.dekad_unique_pure`, Hdc/Props/C11.lean); consequently `_ymd2ord (_ord2ymd n) = n`
and `_ord2ymd n` is a valid date.
-/
namespace Hdc.C11
open Hdc Hdc.Py Hdc.PyDate Hdc.Gen.Dekad

theorem startOrd_first : startOrd 36 = 1 := by decide

theorem startOrd_360000 : startOrd 360000 = maxOrdinal + 1 := by decide

/-- the dekads tile the days from 0001-01-01 on -/
theorem exists_dekad_of_ord_nat (k : Nat) :
    ∃ r : Int, 36 ≤ r ∧ startOrd r ≤ 1 + (k : Int) ∧ 1 + (k : Int) < startOrd (r + 1) := by
  induction k with
  | zero =>
    refine ⟨36, by omega, by rw [startOrd_first]; omega, ?_⟩
    have := startOrd_lt_succ 36
    rw [startOrd_first] at this
    omega
  | succ k ih =>
    obtain ⟨r, h1, h2, h3⟩ := ih
    by_cases h : 1 + ((k + 1 : Nat) : Int) < startOrd (r + 1)
    · exact ⟨r, h1, by omega, h⟩
    · refine ⟨r + 1, by omega, by omega, ?_⟩
      have := startOrd_lt_succ (r + 1)
      omega

theorem exists_dekad_of_ord {n : Int} (h1 : 1 ≤ n) (h2 : n ≤ maxOrdinal) :
    ∃ r : Int, InRange r ∧ startOrd r ≤ n ∧ n < startOrd (r + 1) := by
  obtain ⟨r, a, b, c⟩ := exists_dekad_of_ord_nat (n - 1).toNat
  have e : 1 + (((n - 1).toNat : Nat) : Int) = n := by omega
  rw [e] at b c
  refine ⟨r, ⟨a, ?_⟩, b, c⟩
  have : startOrd r < startOrd 360000 := by rw [startOrd_360000]; omega
  exact (startOrd_lt_iff r 360000).1 this

theorem exists_date_of_ord {n : Int} (h1 : 1 ≤ n) (h2 : n ≤ maxOrdinal) :
    ∃ y m d, ValidDate y m d ∧ ymd2ord y m d = n := by
  obtain ⟨r, hr, a, b⟩ := exists_dekad_of_ord h1 h2
  have hv := start_valid hr
  refine ⟨year r, month r, day r + (n - startOrd r), ?_, ?_⟩
  · obtain ⟨v1, v2, v3, v4, v5, v6⟩ := hv
    refine ⟨v1, v2, v3, v4, by omega, ?_⟩
    have := daysInMonth_bounds (year r) (month r)
    rw [startOrd_succ] at b
    unfold len at b
    rw [idx_eq] at b
    rw [day_eq] at v6 ⊢
    split at b <;> omega
  · rw [ymd2ord_add_day]
    unfold startOrd
    omega

/-- `_ymd2ord` inverts `_ord2ymd` on 1 ..= maxOrdinal, and `_ord2ymd` yields a valid date -/
theorem ymd2ord_ord2ymd {n : Int} (h1 : 1 ≤ n) (h2 : n ≤ maxOrdinal) :
    ValidDate (ord2ymd n).1 (ord2ymd n).2.1 (ord2ymd n).2.2 ∧
    ymd2ord (ord2ymd n).1 (ord2ymd n).2.1 (ord2ymd n).2.2 = n := by
  obtain ⟨y, m, d, hv, rfl⟩ := exists_date_of_ord h1 h2
  rw [ord2ymd_ymd2ord_valid hv]
  exact ⟨hv, rfl⟩

end Hdc.C11
