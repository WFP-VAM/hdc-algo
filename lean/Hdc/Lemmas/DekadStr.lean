import Hdc.Gen.Dekad
import Hdc.Lemmas.Dekad
/-
Labels: `Py.fmtInt` (zero padded decimal formatting), `Py.int` (parsing of digit strings),
`Py.slice` of a label, and the round trip `ofStr (str r) = .ok r` of the generated model.
-/
namespace Hdc.C11
open Hdc Hdc.Py Hdc.PyDate Hdc.Gen.Dekad

/-! ### `int(s)` of a digit string -/

theorem foldl_int_eq (L : List Char) (init : Nat) :
    L.foldl (fun (acc : Int) c => acc * 10 + ((c.toNat - '0'.toNat : Nat) : Int)) (init : Int)
      = ((Nat.ofDigitChars 10 L init : Nat) : Int) := by
  induction L generalizing init with
  | nil => simp
  | cons c cs ih =>
    simp only [List.foldl_cons, Nat.ofDigitChars_cons]
    rw [← ih]
    congr 1
    omega

theorem int_ofList {L : List Char} (hne : L ≠ []) (hd : ∀ c ∈ L, c.isDigit = true) :
    Py.int (String.ofList L) = .ok ((Nat.ofDigitChars 10 L 0 : Nat) : Int) := by
  unfold Py.int
  simp only [String.toList_ofList]
  rw [if_neg (by simpa using hne), if_pos (List.all_eq_true.2 hd)]
  congr 1
  exact foldl_int_eq L 0

/-! ### `format(v, "0{w}d")` of a natural number -/

/-- the characters of `format(n, "0{w}d")` -/
def fmtL (w n : Nat) : List Char :=
  List.replicate (w - (Nat.toDigits 10 n).length) '0' ++ Nat.toDigits 10 n

theorem fmtInt_natCast (w n : Nat) : Py.fmtInt w (n : Int) = String.ofList (fmtL w n) := by
  unfold Py.fmtInt Py.digits fmtL
  have h : ¬ ((n : Int) < 0) := by omega
  simp [h]

theorem fmtInt_nonneg (w : Nat) {v : Int} (h : 0 ≤ v) : Py.fmtInt w v = String.ofList (fmtL w v.toNat) := by
  rw [← fmtInt_natCast, Int.toNat_of_nonneg h]

theorem fmtL_length {w n : Nat} (hw : 0 < w) (h : n < 10 ^ w) : (fmtL w n).length = w := by
  have := (Nat.length_toDigits_le_iff (b := 10) (n := n) (by decide) hw).2 h
  unfold fmtL
  simp only [List.length_append, List.length_replicate]
  omega

/-- width 0 (`format(n, "d")`), one digit -/
theorem fmtL_zero_length {n : Nat} (h : n < 10) : (fmtL 0 n).length = 1 := by
  unfold fmtL
  rw [Nat.toDigits_of_lt_base h]
  simp

theorem fmtL_ne_nil (w n : Nat) : fmtL w n ≠ [] := by
  unfold fmtL
  simp

theorem fmtL_isDigit (w n : Nat) : ∀ c ∈ fmtL w n, c.isDigit = true := by
  intro c hc
  unfold fmtL at hc
  rcases List.mem_append.1 hc with h | h
  · rw [(List.mem_replicate.1 h).2]; decide
  · exact Nat.isDigit_of_mem_toDigits (by decide) (by decide) h

theorem fmtL_value (w n : Nat) : Nat.ofDigitChars 10 (fmtL w n) 0 = n := by
  unfold fmtL
  rw [Nat.ofDigitChars_append, Nat.ofDigitChars_replicate_zero, Nat.mul_zero,
    Nat.ofDigitChars_ten_toDigits]

/-- `int(format(n, "0{w}d")) = n` -/
theorem int_fmtL (w n : Nat) : Py.int (String.ofList (fmtL w n)) = .ok (n : Int) := by
  rw [int_ofList (fmtL_ne_nil w n) (fmtL_isDigit w n), fmtL_value]

/-! ### slices of a label `YYYYMMdI` -/

theorem slice_label (A B C : List Char) (hA : A.length = 4) (hB : B.length = 2) (hC : C.length = 1) :
    Py.slice (String.ofList (A ++ B ++ ['d'] ++ C)) none (some 4) = String.ofList A ∧
    Py.slice (String.ofList (A ++ B ++ ['d'] ++ C)) (some 4) (some 6) = String.ofList B ∧
    Py.slice (String.ofList (A ++ B ++ ['d'] ++ C)) (some (-1)) none = String.ofList C := by
  have hl : (A ++ B ++ ['d'] ++ C).length = 8 := by simp [hA, hB, hC]
  have e4 : ((if (4 : Int) < 0 then max 0 (4 + ((8 : Nat) : Int)) else min 4 ((8 : Nat) : Int))).toNat = 4 := by decide
  have e6 : ((if (6 : Int) < 0 then max 0 (6 + ((8 : Nat) : Int)) else min 6 ((8 : Nat) : Int))).toNat = 6 := by decide
  have e7 : ((if (-1 : Int) < 0 then max 0 (-1 + ((8 : Nat) : Int)) else min (-1) ((8 : Nat) : Int))).toNat = 7 := by decide
  unfold Py.slice
  simp only [String.toList_ofList, hl, e4, e6, e7]
  refine ⟨?_, ?_, ?_⟩
  · rw [show A ++ B ++ ['d'] ++ C = A ++ (B ++ ['d'] ++ C) by simp]
    exact congrArg _ (List.take_left' hA)
  · rw [show A ++ B ++ ['d'] ++ C = A ++ (B ++ (['d'] ++ C)) by simp, List.drop_left' hA]
    exact congrArg _ (List.take_left' hB)
  · rw [List.drop_left' (show (A ++ B ++ ['d']).length = 7 by simp [hA, hB])]
    exact congrArg _ (List.take_of_length_le (by omega))

/-! ### the label and its round trip -/

/-- the label of a dekad of the years 1..9999: `YYYY` `MM` `d` `I` -/
theorem str_eq {r : Int} (h : InRange r) :
    str r = String.ofList
      (fmtL 4 (year r).toNat ++ fmtL 2 (month r).toNat ++ ['d'] ++ fmtL 0 (idx r).toNat) := by
  have hy : 0 ≤ year r := by unfold InRange at h; rw [year_eq]; omega
  have hm : 0 ≤ month r := by rw [month_eq]; omega
  have hi : 0 ≤ idx r := by rw [idx_eq]; omega
  simp only [Gen.Dekad.str]
  rw [fmtInt_nonneg 4 hy, fmtInt_nonneg 2 hm, fmtInt_nonneg 0 hi]
  simp only [String.ofList_append] <;> rfl

theorem ofStr_str {r : Int} (h : InRange r) : ofStr (str r) = .ok r := by
  have hy : 0 ≤ year r ∧ year r < 10000 := by unfold InRange at h; rw [year_eq]; omega
  have hm : 1 ≤ month r ∧ month r ≤ 12 := by rw [month_eq]; omega
  have hi : 1 ≤ idx r ∧ idx r ≤ 3 := by rw [idx_eq]; omega
  rw [str_eq h]
  obtain ⟨s1, s2, s3⟩ := slice_label (fmtL 4 (year r).toNat) (fmtL 2 (month r).toNat) (fmtL 0 (idx r).toNat)
    (fmtL_length (by decide) (by omega)) (fmtL_length (by decide) (by omega))
    (fmtL_zero_length (by omega))
  simp only [Gen.Dekad.ofStr, s1, s2, s3, int_fmtL]
  rw [Int.toNat_of_nonneg hy.1, Int.toNat_of_nonneg (by omega : 0 ≤ month r),
    Int.toNat_of_nonneg (by omega : 0 ≤ idx r)]
  have a1 : Py.assert (decide (1 ≤ month r ∧ month r ≤ 12)) = .ok () := by
    unfold Py.assert; rw [if_pos (by simpa using hm)]
  have a2 : Py.assert (decide (1 ≤ idx r ∧ idx r ≤ 3)) = .ok () := by
    unfold Py.assert; rw [if_pos (by simpa using hi)]
  simp only [bind, Except.bind, a1, a2, pure, Except.pure]
  congr 1
  rw [year_eq, month_eq, idx_eq]; omega

end Hdc.C11
