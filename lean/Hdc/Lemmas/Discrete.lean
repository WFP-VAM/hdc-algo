import Hdc.Model.RoundAcc
/-
Shared list lemmas for the discrete kernels (C16, C17): the (sum, count) accumulator,
sums under permutation, sentinel encoding; the int32 store of a small value (`wrapS_32_of_lt`: C13, C18); for C17round the
rounding accumulator on runs of equal summands, representability of multiples of a power of two, and the cell of
`rollingSumR` at a complete valid window.
-/
namespace Hdc.Discrete

/-- the `(sum, count)` accumulator loop computes sum and length -/
theorem foldl_sumCount (l : List (Int × Int)) (a : Int) (c : Nat) :
    l.foldl (fun (acc : Int × Nat) (p : Int × Int) => (acc.1 + p.1, acc.2 + 1)) (a, c)
      = (a + (l.map (·.1)).sum, c + l.length) := by
  induction l generalizing a c with
  | nil => simp
  | cons p ps ih => simp only [List.foldl_cons, ih, List.map_cons, List.sum_cons, List.length_cons]
                    congr 1 <;> omega

theorem foldl_sumCount0 (l : List (Int × Int)) :
    l.foldl (fun (acc : Int × Nat) (p : Int × Int) => (acc.1 + p.1, acc.2 + 1)) (0, 0)
      = ((l.map (·.1)).sum, l.length) := by
  rw [foldl_sumCount]; simp

theorem perm_sum_int {l₁ l₂ : List Int} (h : l₁.Perm l₂) : l₁.sum = l₂.sum := by
  induction h with
  | nil => rfl
  | cons x _ ih => simp [ih]
  | swap x y l => simp only [List.sum_cons]; omega
  | trans _ _ ih1 ih2 => exact ih1.trans ih2

theorem zip_map_fst_snd {α β : Type} (l : List (α × β)) : (l.map (·.1)).zip (l.map (·.2)) = l := by
  induction l with
  | nil => rfl
  | cons p ps ih => simp [ih]

theorem filterMap_congr_mem {α β : Type} {f g : α → Option β} {l : List α} (h : ∀ x ∈ l, f x = g x) :
    l.filterMap f = l.filterMap g := by
  induction l with
  | nil => rfl
  | cons a t ih =>
    rw [List.filterMap_cons, List.filterMap_cons, h a List.mem_cons_self,
      ih fun x hx => h x (List.mem_cons_of_mem _ hx)]

/-- sentinel encoding followed by the validity filter recovers exactly the present values -/
theorem filter_enc (nd : Int) (l : List (Option Int)) (hc : ∀ v, some v ∈ l → v ≠ nd) :
    ((l.map fun o => o.getD nd).filter fun v => v ≠ nd) = l.filterMap id := by
  rw [← List.filterMap_eq_filter, List.filterMap_map]
  refine filterMap_congr_mem fun o ho => ?_
  cases o with
  | none => simp [Option.guard]
  | some a => simp [Option.guard, hc a ho]

/-- the same for the grouped kernel: cells carrying label `g` -/
theorem filter_enc_zip (nd g : Int) (l : List (Option Int)) (groups : List Int)
    (hc : ∀ v, some v ∈ l → v ≠ nd) :
    ((((l.map fun o => o.getD nd).zip groups).filter fun (v, k) => k = g ∧ v ≠ nd).map (·.1))
      = (l.zip groups).filterMap fun (o, k) => if k = g then o else none := by
  rw [List.zip_map_left, ← List.filterMap_eq_filter, List.map_filterMap, List.filterMap_map]
  refine filterMap_congr_mem ?_
  rintro ⟨o, k⟩ hm
  cases o with
  | none => by_cases hk : k = g <;> simp [Option.guard, hk]
  | some a => by_cases hk : k = g <;> simp [Option.guard, hk, hc a (List.of_mem_zip hm).1]
theorem wrapS_32_of_lt (v : Nat) (h : v < 2 ^ 31) : wrapS 32 v = (v : Int) := by
  have hm : v % 2 ^ 32 = v := Nat.mod_eq_of_lt (by omega)
  simp only [wrapS, hm]
  rw [if_pos (by omega)]

end Hdc.Discrete

namespace Hdc

theorem accRFrom_append (R : IntRound) (s : Int) (a b : List Int) :
    accRFrom R s (a ++ b) = accRFrom R (accRFrom R s a) b := List.foldl_append ..

/-- a summand that the accumulator absorbs once is absorbed every time -/
theorem accRFrom_replicate_absorb (R : IntRound) (s a : Int) (h : R.rnd (s + a) = s) (n : Nat) :
    accRFrom R s (List.replicate n a) = s := by
  induction n with
  | zero => rfl
  | succ n ih => rw [List.replicate_succ, accRFrom_cons, h, ih]

/-- `n` equal summands add up exactly when every multiple `k · a`, `k ≤ n`, is representable -/
theorem accRFrom_replicate_exact (R : IntRound) (a : Int) (n : Nat)
    (h : ∀ k : Nat, k ≤ n → R.rnd (k * a) = k * a) :
    accRFrom R 0 (List.replicate n a) = n * a := by
  induction n with
  | zero => simp [accRFrom]
  | succ n ih =>
    have e : ((n + 1 : Nat) : Int) * a = n * a + a := by rw [Int.natCast_succ, Int.add_mul, Int.one_mul]
    have hn := h (n + 1) (Nat.le_refl _)
    rw [e] at hn
    rw [List.replicate_succ', accRFrom_append, ih fun k hk => h k (Nat.le_succ_of_le hk), e]
    exact hn

/-- a multiple of `2^e` is not changed by rounding to multiples of `2^e` -/
theorem rneAt_of_dvd (e m : Nat) (h : 2 ^ e ∣ m) : rneAt e m = m := by
  have hr : m % 2 ^ e = 0 := Nat.mod_eq_zero_of_dvd h
  have hq : m / 2 ^ e * 2 ^ e = m := Nat.div_mul_cancel h
  by_cases he : e = 0
  · simp [rneAt, he]
  · have hhalf : 0 < 2 ^ e / 2 := by
      obtain ⟨k, rfl⟩ : ∃ k, e = k + 1 := ⟨e - 1, by omega⟩
      rw [Nat.pow_succ, Nat.mul_div_cancel _ (by decide)]
      exact Nat.pow_pos (by decide)
    simp only [rneAt, he, if_false, hr, hhalf, if_true, hq]

/-- a multiple of `2^t` below `2^(p+t)` has at most `p` significant bits: it is representable -/
theorem rneNat_of_dvd (p t m : Nat) (hm : m < 2 ^ (p + t)) (hd : 2 ^ t ∣ m) : rneNat p m = m := by
  apply rneAt_of_dvd
  by_cases h0 : m = 0
  · subst h0; exact Nat.dvd_zero _
  · have := (Nat.log2_lt h0).mpr hm
    exact Nat.dvd_trans (Nat.pow_dvd_pow 2 (by omega)) hd

theorem rne_rnd_of_dvd (p : Nat) (hp : 0 < p) (t n : Nat) (hn : n < 2 ^ (p + t)) (hd : 2 ^ t ∣ n) :
    (IntRound.rne p hp).rnd n = n := by
  show rneInt p n = n
  rw [rneInt, if_neg (by omega), Int.natAbs_natCast, rneNat_of_dvd p t n hn hd]

/-- a complete window without nodata: the cell is the rounded accumulation over the window -/
theorem rollingSumR_all_valid (R : IntRound) (xx : List Int) (w ii : Nat) (nd : Int) (hw : 1 ≤ w)
    (h1 : w ≤ ii + 1) (h2 : ii < xx.length) (hv : ∀ v ∈ (xx.drop (ii + 1 - w)).take w, v ≠ nd) :
    (rollingSumR R xx w nd)[ii]? = some (accR R ((xx.drop (ii + 1 - w)).take w)) := by
  have hf : ((xx.drop (ii + 1 - w)).take w).filter (· ≠ nd) = (xx.drop (ii + 1 - w)).take w :=
    List.filter_eq_self.mpr fun v hv' => by simpa using hv v hv'
  have hl : ((xx.drop (ii + 1 - w)).take w).length ≠ 0 := by
    rw [List.length_take, List.length_drop]; omega
  simp only [rollingSumR, List.getElem?_map, List.getElem?_range h2, Option.map_some,
    if_neg (Nat.not_lt.mpr h1), hf, if_neg hl]

end Hdc
