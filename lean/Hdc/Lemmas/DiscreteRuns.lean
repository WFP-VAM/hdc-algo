import Hdc.Lemmas.Discrete
/-
Run-length lemmas for C18: a data-level scan equivalent to the dot loop of `lroo`,
its specification in terms of runs, the `croo` pipeline, and the insertion sort.
-/
namespace Hdc.Discrete

/-- cells `i … i+len-1` exist and are all 1 (same body as `Hdc.C18.IsRun`) -/
def IsRun (data : List Nat) (i len : Nat) : Prop :=
  i + len ≤ data.length ∧ ∀ k, k < len → data[i + k]? = some 1

theorem isRun_cons_succ (x : Nat) (xs : List Nat) (j len : Nat) :
    IsRun (x :: xs) (j + 1) len ↔ IsRun xs j len := by
  simp only [IsRun, List.length_cons, Nat.add_right_comm j 1, List.getElem?_cons_succ,
    Nat.add_le_add_iff_right]

theorem isRun_cons_zero_succ (x : Nat) (xs : List Nat) (len : Nat) :
    IsRun (x :: xs) 0 (len + 1) ↔ x = 1 ∧ IsRun xs 0 len := by
  simp only [IsRun, List.length_cons, Nat.zero_add, Nat.add_le_add_iff_right]
  constructor
  · rintro ⟨h1, h2⟩
    exact ⟨by simpa using h2 0 (by omega), h1, fun k hk => by simpa using h2 (k + 1) (by omega)⟩
  · rintro ⟨rfl, h1, h2⟩
    refine ⟨h1, fun k hk => ?_⟩
    cases k with
    | zero => rfl
    | succ k => simpa using h2 k (by omega)
theorem isRun_zero_len (xs : List Nat) (j : Nat) (h : j ≤ xs.length) : IsRun xs j 0 :=
  ⟨by omega, fun k hk => absurd hk (Nat.not_lt_zero k)⟩

theorem isRun_nil (j len : Nat) (h : IsRun [] j len) : len = 0 := by
  have := h.1; simp at this; omega

/-! ### the dot loop as a scan over the data -/

/-- `c` = number of ones immediately preceding the current cell, `mr` = best so far -/
def scan : Nat → Nat → List Nat → Nat
  | _, mr, [] => mr
  | c, mr, x :: xs =>
    if x = 1 then scan (c + 1) (if 1 ≤ c ∧ c + 1 > mr then c + 1 else mr) xs
    else scan 0 mr xs

theorem lrooLoop_dotsFrom (xs : List Nat) (prev cr mr i : Nat) (hp : prev < i) (hcr : 1 ≤ cr) :
    lrooLoop prev cr mr (dotsFrom i xs) = scan (if i - prev = 1 then cr else 0) mr xs := by
  induction xs generalizing prev cr mr i with
  | nil => simp [dotsFrom, lrooLoop, scan]
  | cons x xs ih =>
    unfold dotsFrom scan
    by_cases hx : x = 1
    · have h1 : i + 1 - i = 1 := by omega
      simp only [hx, if_true]
      unfold lrooLoop
      by_cases hadj : i - prev = 1
      · simp only [hadj, if_true, ih i (cr + 1) _ (i + 1) (by omega) (by omega), h1, hcr, true_and]
      · simp [hadj, ih i 1 mr (i + 1) (by omega) (by omega), h1]
    · have h1 : ¬ (i + 1 - prev = 1) := by omega
      simp only [hx, if_false, ih prev cr mr (i + 1) (by omega) hcr, h1]

theorem lrooRaw_aux (xs : List Nat) (i : Nat) :
    (match dotsFrom i xs with
      | [] => 0
      | d :: ds => lrooLoop d 1 0 ds) = scan 0 0 xs := by
  induction xs generalizing i with
  | nil => simp [dotsFrom, scan]
  | cons x xs ih =>
    unfold dotsFrom scan
    by_cases hx : x = 1
    · have h1 : i + 1 - i = 1 := by omega
      simp [hx, lrooLoop_dotsFrom xs i 1 0 (i + 1) (by omega) (by omega), h1]
    · simpa only [hx, if_false] using ih (i + 1)
theorem lrooRaw_eq_scan (data : List Nat) : lrooRaw data = scan 0 0 data :=
  lrooRaw_aux data 0

theorem scan_mono (xs : List Nat) (c mr : Nat) : mr ≤ scan c mr xs := by
  induction xs generalizing c mr with
  | nil => simp [scan]
  | cons x xs ih =>
    unfold scan
    split
    · refine Nat.le_trans ?_ (ih _ _)
      split <;> omega
    · exact ih _ _

/-- a run starting at the current cell, extended by the `c` preceding ones, is not missed -/
theorem scan_upper_head (xs : List Nat) (c mr len : Nat) (hcm : 2 ≤ c → c ≤ mr)
    (hr : IsRun xs 0 len) (h2 : 2 ≤ c + len) : c + len ≤ scan c mr xs := by
  induction xs generalizing c mr len with
  | nil =>
    have := isRun_nil 0 len hr
    simp only [scan]; omega
  | cons x xs ih =>
    cases len with
    | zero =>
      have := scan_mono (x :: xs) c mr
      omega
    | succ len =>
      obtain ⟨hx, hr'⟩ := (isRun_cons_zero_succ x xs len).1 hr
      unfold scan
      simp only [hx, if_true]
      have := ih (c + 1) (if 1 ≤ c ∧ c + 1 > mr then c + 1 else mr) len
        (by intro _; split <;> omega) hr' (by omega)
      omega

/-- no run of at least two cells is missed -/
theorem scan_upper (xs : List Nat) (c mr j len : Nat) (hcm : 2 ≤ c → c ≤ mr)
    (hr : IsRun xs j len) (h2 : 2 ≤ len) : len ≤ scan c mr xs := by
  induction xs generalizing c mr j with
  | nil => have := isRun_nil j len hr; omega
  | cons x xs ih =>
    cases j with
    | zero =>
      have := scan_upper_head (x :: xs) c mr len hcm hr (by omega)
      omega
    | succ j =>
      have hr' := (isRun_cons_succ x xs j len).1 hr
      unfold scan
      split
      · exact ih (c + 1) _ j (by intro _; split <;> omega) hr'
      · exact ih 0 mr j (by omega) hr'

/-- the result is the initial `mr` or the length of an actual run (counting the `c` preceding
    ones when the run starts at the current cell) -/
theorem scan_attained (xs : List Nat) (c mr : Nat) :
    scan c mr xs = mr ∨
      (2 ≤ scan c mr xs ∧ ∃ j len, IsRun xs j len ∧ scan c mr xs = (if j = 0 then c else 0) + len) := by
  induction xs generalizing c mr with
  | nil => left; simp [scan]
  | cons x xs ih =>
    unfold scan
    by_cases hx : x = 1
    · simp only [hx, if_true]
      rcases ih (c + 1) (if 1 ≤ c ∧ c + 1 > mr then c + 1 else mr) with h | ⟨h2, j, len, hr, he⟩
      · by_cases hc : 1 ≤ c ∧ c + 1 > mr
        · right
          rw [if_pos hc] at h ⊢
          refine ⟨by omega, 0, 1, ?_, by simp [h]⟩
          exact (isRun_cons_zero_succ 1 xs 0).2 ⟨rfl, isRun_zero_len xs 0 (Nat.zero_le _)⟩
        · left
          rw [if_neg hc] at h ⊢
          exact h
      · right
        refine ⟨h2, ?_⟩
        cases j with
        | zero =>
          refine ⟨0, len + 1, (isRun_cons_zero_succ 1 xs len).2 ⟨rfl, hr⟩, ?_⟩
          simp only [if_true] at he ⊢
          omega
        | succ j =>
          refine ⟨j + 2, len, (isRun_cons_succ 1 xs (j + 1) len).2 hr, ?_⟩
          simpa using he
    · simp only [hx, if_false]
      rcases ih 0 mr with h | ⟨h2, j, len, hr, he⟩
      · left; exact h
      · right
        refine ⟨h2, j + 1, len, (isRun_cons_succ x xs j len).2 hr, ?_⟩
        have : (if j = 0 then 0 else 0) = 0 := by split <;> rfl
        rw [this] at he
        simpa using he

/-! ### lroo in terms of runs -/

theorem lroo_eq (data : List Nat) :
    lroo data = if scan 0 0 data > 1 then scan 0 0 data else 0 := by
  simp only [lroo, lrooRaw_eq_scan]

theorem lroo_upper' (data : List Nat) (i len : Nat) (hr : IsRun data i len) :
    len ≤ max (lroo data) 1 := by
  by_cases h2 : 2 ≤ len
  · have := scan_upper data 0 0 i len (by omega) hr h2
    rw [lroo_eq]
    have h1 : scan 0 0 data > 1 := by omega
    rw [if_pos h1]; omega
  · omega

theorem lroo_attained' (data : List Nat) (h : 2 ≤ lroo data) : ∃ i, IsRun data i (lroo data) := by
  rw [lroo_eq] at h ⊢
  by_cases h1 : scan 0 0 data > 1
  · rw [if_pos h1] at h ⊢
    rcases scan_attained data 0 0 with h0 | ⟨_, j, len, hr, he⟩
    · omega
    · refine ⟨j, ?_⟩
      have : (if j = 0 then 0 else 0) = 0 := by split <;> rfl
      rw [this, Nat.zero_add] at he
      rw [he]; exact hr
  · rw [if_neg h1] at h; omega

theorem lrooRaw_le_length (data : List Nat) : lrooRaw data ≤ data.length := by
  rw [lrooRaw_eq_scan]
  rcases scan_attained data 0 0 with h | ⟨_, j, len, hr, he⟩
  · omega
  · have := hr.1
    split at he <;> omega

/-- length of the leading run of ones (same body as `Hdc.C18.leadingRun`) -/
def leadingRun (s : List Nat) : Nat := (s.takeWhile fun x => x = 1).length

/-- the `argmax` loop body -/
def amStep (st : Nat × Nat × Nat) (v : Nat) : Nat × Nat × Nat :=
  let (bi, bv, i) := st
  if v > bv then (i, v, i + 1) else (bi, bv, i + 1)

theorem argmaxFirst_cons (x : Nat) (xs : List Nat) :
    argmaxFirst (x :: xs) = (xs.foldl amStep (0, x, 1)).1 := rfl

theorem fold_none (t : List Nat) (bi bv i : Nat) :
    (((crooCum none t).map fun o => o.getD 0).foldl amStep (bi, bv, i)).1 = bi := by
  induction t generalizing i with
  | nil => simp [crooCum]
  | cons x xs ih => simpa [crooCum, amStep] using ih (i + 1)

theorem fold_some (t : List Nat) (hbin : ∀ x ∈ t, x = 0 ∨ x = 1) (bi k : Nat) :
    (((crooCum (some k) t).map fun o => o.getD 0).foldl amStep (bi, k, bi + 1)).1
      = bi + leadingRun t := by
  induction t generalizing bi k with
  | nil => simp [crooCum, leadingRun]
  | cons x xs ih =>
    rcases hbin x (by simp) with rfl | rfl
    · simp [crooCum, amStep, fold_none, leadingRun]
    · have := ih (fun y hy => hbin y (by simp [hy])) (bi + 1) (k + 1)
      simp [crooCum, amStep, leadingRun, this]
      omega
theorem crooSorted_eq' (s : List Nat) (hbin : ∀ x ∈ s, x = 0 ∨ x = 1) :
    crooSorted s = leadingRun s := by
  cases s with
  | nil => rfl
  | cons x xs =>
    rcases hbin x (by simp) with rfl | rfl
    · simp [crooSorted, crooCum, argmaxFirst_cons, fold_none, leadingRun]
    · have := fold_some xs (fun y hy => hbin y (by simp [hy])) 0 1
      simp [crooSorted, crooCum, argmaxFirst_cons, leadingRun, this]
theorem isRun_leadingRun (s : List Nat) : IsRun s 0 (leadingRun s) := by
  induction s with
  | nil => exact isRun_zero_len [] 0 (Nat.le_refl _)
  | cons x xs ih =>
    by_cases hx : x = 1
    · have : leadingRun (x :: xs) = leadingRun xs + 1 := by simp [leadingRun, hx]
      rw [this]
      exact (isRun_cons_zero_succ x xs _).2 ⟨hx, ih⟩
    · have : leadingRun (x :: xs) = 0 := by simp [leadingRun, hx]
      rw [this]
      exact isRun_zero_len _ 0 (Nat.zero_le _)

theorem isRun_reverse (s : List Nat) (len : Nat) (h : IsRun s 0 len) :
    IsRun s.reverse (s.length - len) len := by
  obtain ⟨h1, h2⟩ := h
  refine ⟨by simp; omega, ?_⟩
  intro k hk
  rw [List.getElem?_reverse (by omega)]
  have := h2 (s.length - 1 - (s.length - len + k)) (by omega)
  simpa using this

/-! ### insertion sort by descending time -/

theorem insertDesc_perm (p : Int × Nat) (l : List (Int × Nat)) : (insertDesc p l).Perm (p :: l) := by
  induction l with
  | nil => exact List.Perm.refl _
  | cons q qs ih =>
    unfold insertDesc
    split
    · exact List.Perm.refl _
    · exact (List.Perm.cons q ih).trans (List.Perm.swap p q qs)

theorem sortDesc_perm (ps : List (Int × Nat)) : (sortDesc ps).Perm ps := by
  induction ps with
  | nil => exact List.Perm.refl _
  | cons p ps ih =>
    show (insertDesc p (sortDesc ps)).Perm (p :: ps)
    exact (insertDesc_perm p _).trans (List.Perm.cons p ih)

/-- `croo` of a 0/1 series is a run of that length at the end of the series in chronological order -/
theorem croo_isRun_chrono (ps : List (Int × Nat)) (hbin : ∀ p ∈ ps, p.2 = 0 ∨ p.2 = 1) :
    IsRun ((sortDesc ps).reverse.map (·.2)) (((sortDesc ps).reverse.map (·.2)).length - croo ps) (croo ps) := by
  have hb : ∀ x ∈ (sortDesc ps).map (·.2), x = 0 ∨ x = 1 := by
    intro x hx
    obtain ⟨p, hp, rfl⟩ := List.mem_map.1 hx
    exact hbin p ((sortDesc_perm ps).subset hp)
  rw [croo, crooSorted_eq' _ hb, List.map_reverse, List.length_reverse]
  exact isRun_reverse _ _ (isRun_leadingRun _)

theorem insertDesc_sorted (p : Int × Nat) (l : List (Int × Nat))
    (hl : l.Pairwise (fun a b => b.1 < a.1)) (hp : ∀ q ∈ l, q.1 ≠ p.1) :
    (insertDesc p l).Pairwise (fun a b => b.1 < a.1) := by
  induction l with
  | nil => simp [insertDesc]
  | cons q qs ih =>
    unfold insertDesc
    have hq := hp q (by simp)
    rw [List.pairwise_cons] at hl
    split
    · rename_i hlt
      refine List.Pairwise.cons ?_ (List.Pairwise.cons hl.1 hl.2)
      intro r hr
      rcases List.mem_cons.1 hr with rfl | hr
      · exact hlt
      · exact Int.lt_trans (hl.1 r hr) hlt
    · rename_i hnlt
      refine List.Pairwise.cons ?_ (ih hl.2 (fun r hr => hp r (by simp [hr])))
      intro r hr
      rcases List.mem_cons.1 ((insertDesc_perm p qs).subset hr) with rfl | hr
      · omega
      · exact hl.1 r hr

theorem sortDesc_sorted (ps : List (Int × Nat)) (hd : (ps.map (·.1)).Nodup) :
    (sortDesc ps).Pairwise (fun a b => b.1 < a.1) := by
  induction ps with
  | nil => exact List.Pairwise.nil
  | cons p ps ih =>
    rw [List.map_cons, List.nodup_cons] at hd
    show (insertDesc p (sortDesc ps)).Pairwise _
    refine insertDesc_sorted p _ (ih hd.2) ?_
    intro q hq heq
    apply hd.1
    rw [← heq]
    exact List.mem_map_of_mem ((sortDesc_perm ps).subset hq)

theorem sortDesc_perm_invariant (ps qs : List (Int × Nat)) (h : ps.Perm qs)
    (hd : (ps.map (·.1)).Nodup) : sortDesc ps = sortDesc qs := by
  have hd' : (qs.map (·.1)).Nodup := (h.map _).nodup hd
  refine List.Perm.eq_of_pairwise (le := fun a b => b.1 < a.1) ?_ (sortDesc_sorted ps hd)
    (sortDesc_sorted qs hd') (((sortDesc_perm ps).trans h).trans (sortDesc_perm qs).symm)
  intro a b _ _ h1 h2
  omega

end Hdc.Discrete
