import Hdc.PyGlue
/-
Helper lemmas for the refinement theorems about the GLUE translations (Hdc/Gen/Glue*.lean, programs in `Except Exc`):
evaluation rules of the monad (`glue_eval`), the normal form of conditions (`glue_norm`), `range` / `rangeDown`, the loop a
list comprehension is desugared to, and containers (first / last element, one-element slices, masks).
Nothing here mentions a generated program.
-/
namespace Hdc.GenGlue
open Hdc.PyGlue

/-! ### evaluation of straight-line code in `Except Exc` -/

theorem ok_bind {α β : Type} (x : α) (f : α → Except Exc β) : (Except.ok x >>= f) = f x := rfl
theorem error_bind {α β : Type} (e : Exc) (f : α → Except Exc β) : (Except.error e >>= f) = Except.error e := rfl
theorem raise_bind {α β : Type} (e : Exc) (f : α → Except Exc β) : (raise e >>= f) = raise e := rfl
theorem raise_eq {α : Type} (e : Exc) : (raise e : Except Exc α) = Except.error e := rfl
theorem pure_eq {α : Type} (x : α) : (pure x : Except Exc α) = Except.ok x := rfl
theorem tryExcept_ok {α : Type} (x : α) (h : Exc → Except Exc α) : tryExcept (Except.ok x) h = Except.ok x := rfl
theorem tryExcept_error {α : Type} (e : Exc) (h : Exc → Except Exc α) : tryExcept (Except.error e) h = h e := rfl
theorem intOf_some (v : Int) : intOf (some v) = Except.ok v := rfl
theorem intOf_none : intOf none = Except.error Exc.typeError := rfl
theorem map_ok {α β : Type} (f : α → β) (x : α) : f <$> (Except.ok x : Except Exc α) = Except.ok (f x) := rfl

/-- symbolic evaluation of the monadic skeleton: binds of known results, `raise`, `tryExcept`, `intOf`, and the tests
    `x.isNone` / `x.isSome` of known optionals -/
macro "glue_eval" : tactic => `(tactic|
  simp only [ok_bind, error_bind, raise_bind, pure_eq, tryExcept_ok, tryExcept_error, intOf_some, intOf_none, map_ok,
    Option.isSome_none, Option.isSome_some, Option.isNone_none, Option.isNone_some, Option.map_none, Option.map_some,
    Option.getD_none, Option.getD_some, Bool.not_true, Bool.not_false, Bool.false_eq_true, if_false, if_true,
    reduceCtorEq, beq_iff_eq, bne_iff_ne, ne_eq, not_true_eq_false, not_false_eq_true])

/-- conditions: `decide p = true` to `p`, boolean connectives to propositional ones, comparisons of known optionals -/
macro "glue_norm" : tactic => `(tactic|
  simp only [decide_eq_true_eq, Bool.not_eq_eq_eq_not, Bool.not_true, Bool.not_false, bne_eq_false_iff_eq, bne_iff_ne,
    Option.some.injEq, Bool.and_eq_true, Bool.or_eq_true, beq_iff_eq, ge_iff_le, gt_iff_lt, ne_eq, reduceCtorEq,
    Int.ofNat_eq_natCast])

/-! ### `range(a, b, -1)`, `range(a, b)` -/

theorem rangeDown_nil (a s : Int) (h : a ≤ s) : rangeDown a s = [] := by
  have : (a - s).toNat = 0 := by omega
  simp [rangeDown, this]

theorem rangeDown_cons (a s : Int) (h : s < a) : rangeDown a s = a :: rangeDown (a - 1) s := by
  unfold rangeDown
  have : (a - s).toNat = (a - 1 - s).toNat + 1 := by omega
  rw [this, List.range_succ_eq_map]
  simp only [List.map_cons, List.map_map]
  congr 1
  · simp
  · apply List.map_congr_left; intro k _; simp; omega

theorem range_zero_natCast (k : Nat) : range 0 (k : Int) = (List.range k).map fun (g : Nat) => (g : Int) := by
  simp [range]

theorem range_nonpos (k : Int) (h : k ≤ 0) : range 0 k = [] := by
  simp [range, h]

/-! ### the loop of a desugared list comprehension: `acc := []; for x in l: acc := acc ++ [g x]` -/

theorem forIn_append_map {α β : Type} (l : List α) (g : α → β)
    (f : α → List β → Except Exc (ForInStep (List β)))
    (hf : ∀ x ∈ l, ∀ acc, f x acc = .ok (.yield (acc ++ [g x]))) (init : List β) :
    forIn l init f = .ok (init ++ l.map g) := by
  induction l generalizing init with
  | nil => simp; rfl
  | cons x xs ih =>
    rw [List.forIn_cons, hf x (by simp) init]
    show forIn xs (init ++ [g x]) f = _
    rw [ih (fun y hy => hf y (by simp [hy]))]
    simp

/-! ### containers: first / last element, one-element slices, masks computed from the array itself -/

theorem getItem_zero {α : Type} (l : List α) :
    getItem l 0 = match l.head? with | some v => .ok v | none => .error .indexError := by
  cases l with
  | nil => rfl
  | cons x xs => rfl

theorem getItem_neg_one {α : Type} (l : List α) :
    getItem l (-1) = match l.getLast? with | some v => .ok v | none => .error .indexError := by
  cases l with
  | nil => rfl
  | cons x xs =>
    have hl : (x :: xs).getLast? = some ((x :: xs).getLast (by simp)) := List.getLast?_eq_some_getLast _
    rw [hl]
    unfold getItem
    have h1 : ((-1 : Int) + ((x :: xs).length : Int)).toNat = xs.length := by simp; omega
    have h2 : ¬ ((-1 : Int) + ((x :: xs).length : Int) < 0) := by simp; omega
    simp only [show ((-1 : Int) < 0) from by decide, if_true, h1, h2, if_false]
    have h3 : (x :: xs)[xs.length]? = some ((x :: xs).getLast (by simp)) := by
      rw [List.getLast_eq_getElem]; simp
    rw [h3]

theorem slice_last {α : Type} (l : List α) :
    slice l (some (-1)) none = match l.getLast? with | some v => [v] | none => [] := by
  cases l with
  | nil => rfl
  | cons x xs =>
    have hl : (x :: xs).getLast? = some ((x :: xs).getLast (by simp)) := List.getLast?_eq_some_getLast _
    rw [hl]
    unfold slice
    have h1 : (max 0 ((-1 : Int) + ((x :: xs).length : Int))).toNat = xs.length := by simp; omega
    simp only [show ((-1 : Int) < 0) from by decide, if_true, h1]
    have : (x :: xs).length - xs.length = 1 := by simp
    rw [this, List.take_one, List.head?_drop]
    have h3 : (x :: xs)[xs.length]? = some ((x :: xs).getLast (by simp)) := by
      rw [List.getLast_eq_getElem]; simp
    rw [h3]; rfl

theorem slice_first {α : Type} (l : List α) :
    slice l none (some 1) = match l.head? with | some v => [v] | none => [] := by
  cases l with
  | nil => rfl
  | cons x xs =>
    unfold slice
    have h1 : (min (1 : Int) ((x :: xs).length : Int)).toNat = 1 := by simp; omega
    simp only [show ¬ ((1 : Int) < 0) from by decide, if_false, h1]
    simp

theorem maskSelect_map {α : Type} (l : List α) (p : α → Bool) : maskSelect l (l.map p) = .ok (l.filter p) := by
  unfold maskSelect
  rw [if_pos (by simp)]
  congr 1
  induction l with
  | nil => rfl
  | cons x xs ih =>
    simp only [List.map_cons, List.zip_cons_cons, List.filter_cons]
    by_cases h : p x = true
    · simp only [h, if_true, List.map_cons, ih]
    · have h' : p x = false := by simpa using h
      simp only [h', Bool.false_eq_true, if_false, ih]

theorem truthArr_single (b : Bool) : truthArr [b] = .ok b := rfl

theorem pyAbs_of_nonneg (x : Int) (h : 0 ≤ x) : pyAbs x = x := by
  unfold pyAbs; rw [if_neg (by omega)]

end Hdc.GenGlue
