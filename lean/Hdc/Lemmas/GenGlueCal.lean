import Hdc.Lemmas.GenGlue
import Hdc.Model.Discrete
import Hdc.Model.Stats
import Hdc.Lemmas.SpiGroup
import Hdc.Lemmas.SpiSearch
/-
Hypotheses about the library parameters of `get_calibration_indices` / `PixelAlgorithms.spi` and the bridge from the
boolean-mask selection `time[groups == ix]` to the model's `gatherGrp` (no generated program is mentioned here).
-/
namespace Hdc.GenGlue
open Hdc Hdc.PyGlue

/-- assumed behaviour of `ndarray.searchsorted(v, side)`: on an ASCENDING array the insertion points of NumPy's documentation
    (`left`: number of entries `< v`, `right`: number of entries `≤ v`), which are the model's `searchLeft` / `searchRight`.
    Nothing is assumed about unsorted arrays (NumPy's binary search gives no guarantee there) nor about other `side`s. -/
def SearchsortedSpec (ss : List Int → Int → String → Except Exc Int) : Prop :=
  ∀ (a : List Int) (v : Int), a.Pairwise (· ≤ ·) →
    ss a v "left" = .ok (Py.searchLeft a v : Nat) ∧ ss a v "right" = .ok (Py.searchRight a v : Nat)

/-- assumed behaviour of `np.array(table, dtype="int16")`: the table itself when every entry is an int16 value
    (NumPy raises OverflowError otherwise: nothing is assumed then) -/
def Int16TableSpec (arr16 : List (List Int) → Except Exc (List (List Int))) : Prop :=
  ∀ t : List (List Int), (∀ r ∈ t, ∀ v ∈ r, -32768 ≤ v ∧ v ≤ 32767) → arr16 t = .ok t

/-- `time[groups == g]` (boolean mask of the same length) is the model's `gatherGrp` -/
theorem maskSelect_eq_gatherGrp {β : Type} (xx : List β) (groups : List Nat) (g : Nat)
    (hlen : groups.length = xx.length) :
    maskSelect xx (groups.map fun k => decide (k = g)) = .ok (gatherGrp xx groups g) := by
  unfold maskSelect gatherGrp
  rw [if_pos (by simp [hlen])]
  congr 1
  rw [List.zip_map_right, List.filter_map, List.map_map]
  have : (fun p : β × Bool => p.1) ∘ Prod.map id (fun k => decide (k = g)) = fun p : β × Nat => p.1 := by
    funext p; rfl
  rw [this]
  congr 1

theorem gatherGrp_ascending (time : List Int) (h : time.Pairwise (· ≤ ·)) (groups : List Nat) (g : Nat) :
    (gatherGrp time groups g).Pairwise (· ≤ ·) :=
  List.Pairwise.sublist (Hdc.Spi.gatherGrp_sublist g groups time) h

/-- `if o is None: o = v`, in front of a join point `k` of the `do` block -/
theorem arg_default {α β : Type} (o : Option α) (v : α) (k : Unit → Option α → β) :
    (if o.isNone = true then k () (some v) else k () o) = k () (some (o.getD v)) := by
  cases o <;> rfl

/-- the loop of a comprehension over `range(k)` that appends `row g` in pass `g` -/
theorem forIn_range_rows {β : Type} (k : Nat) (row : Nat → β) (f : Int → List β → Except Exc (ForInStep (List β)))
    (hf : ∀ (g : Nat) acc, f g acc = .ok (.yield (acc ++ [row g]))) :
    forIn (range 0 (k : Int)) [] f = .ok ((List.range k).map row) := by
  rw [range_zero_natCast, forIn_append_map _ fun x : Int => row x.toNat]
  · simp [List.map_map, Function.comp_def]
  · intro x hx acc
    obtain ⟨g, _, rfl⟩ := List.mem_map.1 hx
    rw [hf g acc, Int.toNat_natCast]

end Hdc.GenGlue
