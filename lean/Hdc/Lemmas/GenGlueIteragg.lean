import Hdc.Gen.GlueIteragg
import Hdc.Lemmas.GenGlue
import Hdc.Model.Discrete
/-
The loop of `_iteragg` against the model's `iterWindows`; the default of `n` and a failing lookup of `begin` in the generated program.
-/
namespace Hdc.GenGlue
open Hdc Hdc.PyGlue Hdc.Gen.Glue

theorem iterWindows_nil (n e b : Nat) (h : b ≤ e) : iterWindows n e b = [] := by
  cases b with
  | zero => rfl
  | succ b => simp [iterWindows, h]

theorem iterWindows_int_step (n : Nat) (e b : Int) (he : 0 ≤ e) (h1 : ¬ b ≤ e) :
    iterWindows n e.toNat b.toNat =
      if 0 ≤ b - n then ((b - n).toNat, b.toNat) :: iterWindows n e.toNat (b - 1).toNat
      else iterWindows n e.toNat (b - 1).toNat := by
  obtain ⟨m, hm⟩ : ∃ m : Nat, b.toNat = m + 1 := ⟨b.toNat - 1, by omega⟩
  have hm' : (b - 1).toNat = m := by omega
  rw [hm, hm', iterWindows]
  have c1 : ¬ (m + 1 ≤ e.toNat) := by omega
  rw [if_neg c1]
  by_cases h2 : 0 ≤ b - n
  · have c2 : n ≤ m + 1 := by omega
    have c3 : (b - n).toNat = m + 1 - n := by omega
    rw [if_pos h2, if_pos c2, c3]
  · have c2 : ¬ n ≤ m + 1 := by omega
    rw [if_neg h2, if_neg c2]

/-- `for ii in range(b, 0, -1)` whose body behaves like the source's (break at `ii ≤ e`, one object `F (ii - n) ii` appended
    when `ii - n ≥ 0`) appends the model's windows, newest first. -/
theorem forIn_rangeDown_iterWindows {Obj : Type} (F : Int → Int → Obj) (n : Nat) (e : Int) (he : 0 ≤ e)
    (f : Int → List Obj → Except Exc (ForInStep (List Obj)))
    (hf : ∀ (ii : Int) (out : List Obj), 0 < ii → f ii out =
      if ii ≤ e then .ok (.done out) else if 0 ≤ ii - n then .ok (.yield (out ++ [F (ii - n) ii])) else .ok (.yield out))
    (b : Int) (out : List Obj) :
    forIn (rangeDown b 0) out f
      = .ok (out ++ (iterWindows n e.toNat b.toNat).map fun p => F (p.1 : Int) (p.2 : Int)) := by
  obtain ⟨k, hk⟩ : ∃ k, b.toNat = k := ⟨_, rfl⟩
  induction k generalizing b out with
  | zero =>
    rw [rangeDown_nil b 0 (by omega), iterWindows_nil n _ _ (by omega)]
    simp; rfl
  | succ k ih =>
    rw [rangeDown_cons b 0 (by omega), List.forIn_cons, hf b out (by omega)]
    by_cases h1 : b ≤ e
    · rw [if_pos h1, iterWindows_nil n _ _ (by omega)]
      simp; rfl
    · rw [if_neg h1, iterWindows_int_step n e b he h1]
      by_cases h2 : 0 ≤ b - n
      · rw [if_pos h2, if_pos h2]
        show forIn (rangeDown (b - 1) 0) _ f = _
        rw [ih (b - 1) _ (by omega)]
        have c1 : ((b - n).toNat : Int) = b - n := by omega
        have c2 : (b.toNat : Int) = b := by omega
        simp only [List.map_cons, List.append_assoc, List.singleton_append, c1, c2]
      · rw [if_neg h2, if_neg h2]
        show forIn (rangeDown (b - 1) 0) _ f = _
        rw [ih (b - 1) _ (by omega)]

/-- three successful steps that differ in the appended object only -/
theorem ok_yield_ite {Obj : Type} (c d : Bool) (x y z : Obj) (out : List Obj) :
    (if c = true then if d = true then (.ok (.yield (out ++ [x])) : Except Exc (ForInStep (List Obj))) else .ok (.yield (out ++ [y]))
      else .ok (.yield (out ++ [z])))
      = .ok (.yield (out ++ [if c = true then (if d = true then x else y) else z])) := by
  cases c <;> cases d <;> rfl

/-- `n=None` stands for the length of the axis -/
theorem iteragg_n_getD {Lbl Obj : Type} (hd : Bool) (ds sd : Int) (gi : Option Lbl → Except Exc Int)
    (mk : Int → Int → Obj) (sel : Obj → Int → Int → Obj) (fg : Bool) (red : Obj → Obj) (dt : Bool) (ex : Obj → Int → Obj)
    (n : Option Int) (b e : Option Lbl) :
    iteragg hd ds gi sd mk sel fg red dt ex n b e = iteragg hd ds gi sd mk sel fg red dt ex (some (n.getD ds)) b e := by
  cases n with
  | some k => rfl
  | none =>
    show _ = iteragg hd ds gi sd mk sel fg red dt ex (some ds) b e
    unfold iteragg
    glue_eval

/-- a failing lookup of `begin`: `KeyError` is turned into ValueError, any other exception propagates -/
theorem iteragg_begin_error {Lbl Obj : Type} (ds sd : Int) (gi : Option Lbl → Except Exc Int)
    (mk : Int → Int → Obj) (sel : Obj → Int → Int → Obj) (fg : Bool) (red : Obj → Obj) (dt : Bool) (ex : Obj → Int → Obj)
    (n : Option Int) (l : Lbl) (e : Option Lbl) (x : Exc) (hn : n.getD ds ≠ 0) (hk : gi (some l) = .error x) :
    iteragg true ds gi sd mk sel fg red dt ex n (some l) e = .error (if x = .keyError then .valueError else x) := by
  rw [iteragg_n_getD]
  unfold iteragg
  rw [hk]
  glue_eval
  glue_norm
  rw [if_neg hn]
  by_cases hx : x = .keyError
  · rw [if_pos hx, if_pos hx]
    rfl
  · rw [if_neg hx, if_neg hx]
    rfl

end Hdc.GenGlue
