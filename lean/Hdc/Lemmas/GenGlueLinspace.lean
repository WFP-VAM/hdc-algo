import Hdc.Lemmas.GenGlue
import Hdc.Lemmas.SpiSearch
import Hdc.Model.Discrete
/-
NumPy vector steps of `to_linspace` (in-place sort of a sorted array, masked assignment, fancy indexing, `np.where`) on the
list representation.  No generated program is mentioned here.
-/
namespace Hdc.GenGlue
open Hdc Hdc.PyGlue Hdc.Spi

section
variable {β : Type} [LinearOrder β]

/-- sorting a strictly ascending array leaves it unchanged (`keys.sort()` after `np.unique`) -/
theorem npSort_of_sorted : ∀ (l : List β), l.Pairwise (· < ·) → npSort l = l
  | [], _ => rfl
  | a :: as, h => by
    have ih := npSort_of_sorted as (List.Pairwise.of_cons h)
    show insertAsc a (npSort as) = a :: as
    rw [ih]
    cases as with
    | nil => rfl
    | cons b bs =>
      have hab : a < b := (List.pairwise_cons.mp h).1 b (by simp)
      simp [insertAsc, hab]

end

theorem getItem_natCast {α : Type} (a : List α) (n : Nat) (h : n < a.length) : getItem a (n : Int) = .ok a[n] := by
  unfold getItem
  have h1 : ¬ ((n : Int) < 0) := by omega
  simp only [h1, if_false, Int.toNat_natCast, List.getElem?_eq_getElem h]

/-- fancy indexing with positions computed from a list `l`: element-wise -/
theorem gather_of {α γ : Type} (a : List α) (l : List γ) (c : γ → Int) (g : γ → α)
    (h : ∀ v ∈ l, getItem a (c v) = .ok (g v)) : gather a (l.map c) = .ok (l.map g) := by
  unfold gather
  induction l with
  | nil => rfl
  | cons v vs ih =>
    simp only [List.map_cons, List.mapM_cons, h v (by simp), ih (fun w hw => h w (by simp [hw]))]
    rfl

theorem maskAssign_none {α : Type} (a : List α) (p : α → Bool) (v : α) (h : ∀ x ∈ a, p x = false) :
    maskAssign a (a.map p) v = .ok a := by
  unfold maskAssign
  rw [if_pos (by simp), List.zipWith_map_right, List.zipWith_self]
  exact congrArg _ ((List.map_congr_left fun x hx => by simp [h x hx]).trans (List.map_id _))

theorem zipWithArr_self {α γ : Type} (f : α → α → γ) (l : List α) : zipWithArr f l l = .ok (l.map fun x => f x x) := by
  unfold zipWithArr
  rw [if_pos rfl, List.zipWith_self]

/-- `np.where` with an all-true mask returns the array (here: mask and array computed from the same list) -/
theorem npWhereS_all_true {α γ : Type} (l : List γ) (c : γ → α) (s : α) :
    npWhereS (l.map fun _ => true) (l.map c) s = .ok (l.map c) := by
  unfold npWhereS
  rw [if_pos (by simp), List.zipWith_map, List.zipWith_self]
  rfl

/-- `np.arange(k)[n] = n` -/
theorem getItem_range (k n : Nat) (h : n < k) : getItem (range 0 (k : Int)) (n : Int) = .ok (n : Int) := by
  rw [range_zero_natCast, getItem_natCast _ n (by simpa using h)]
  simp

end Hdc.GenGlue
