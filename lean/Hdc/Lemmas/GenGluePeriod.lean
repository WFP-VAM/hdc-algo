import Hdc.Gen.GluePeriod
import Hdc.Props.C11
/-
Helper lemmas for Hdc/Props/GenGluePeriod.lean: `List.mapM` in `Except`, and the per-instant bridge between the GENERATED dekad
class (`Hdc.Gen.Dekad`, through the C11 theorems) and the declarative specification `Hdc.AccPeriod` (Hdc/Model/AccPeriod.lean).
-/
namespace Hdc.GenGluePeriod
open Hdc Hdc.Py Hdc.PyDate Hdc.AccPeriod Hdc.C11

/-! ### `List.mapM` in `Except` -/

theorem mapM_nil' {ε α β : Type} (f : α → Except ε β) : List.mapM f [] = .ok [] := rfl

theorem mapM_cons_ok {ε α β : Type} (f : α → Except ε β) (a : α) (l : List α) (b : β) (h : f a = .ok b) :
    List.mapM f (a :: l) = (List.mapM f l).map (fun r => b :: r) := by
  rw [List.mapM_cons, h]
  cases List.mapM f l <;> rfl

theorem mapM_cons_error {ε α β : Type} (f : α → Except ε β) (a : α) (l : List α) (e : ε) (h : f a = .error e) :
    List.mapM f (a :: l) = .error e := by
  rw [List.mapM_cons, h]; rfl

theorem mapM_ok_of_forall {ε α β : Type} (f : α → Except ε β) (g : α → β) :
    ∀ l : List α, (∀ x ∈ l, f x = .ok (g x)) → List.mapM f l = .ok (l.map g)
  | [], _ => rfl
  | a :: l, h => by
    rw [mapM_cons_ok f a l (g a) (h a (List.mem_cons_self ..)),
      mapM_ok_of_forall f g l (fun x hx => h x (List.mem_cons_of_mem _ hx))]
    rfl

theorem mapM_ok_getElem {ε α β : Type} (f : α → Except ε β) :
    ∀ (l : List α) (r : List β), List.mapM f l = .ok r →
      r.length = l.length ∧ ∀ (i : Nat) (t : α), l[i]? = some t → ∃ v, f t = .ok v ∧ r[i]? = some v
  | [], r, h => by
    cases h
    exact ⟨rfl, fun i t ht => by simp at ht⟩
  | a :: l, r, h => by
    cases hfa : f a with
    | error e => rw [mapM_cons_error f a l e hfa] at h; cases h
    | ok b =>
      rw [mapM_cons_ok f a l b hfa] at h
      cases hl : List.mapM f l with
      | error e => rw [hl] at h; cases h
      | ok r' =>
        rw [hl] at h
        cases h
        obtain ⟨h1, h2⟩ := mapM_ok_getElem f l r' hl
        refine ⟨by simp [h1], ?_⟩
        intro i t ht
        cases i with
        | zero =>
          simp only [List.getElem?_cons_zero, Option.some.injEq] at ht
          subst ht
          exact ⟨b, hfa, rfl⟩
        | succ j =>
          simp only [List.getElem?_cons_succ] at ht ⊢
          exact h2 j t ht

theorem mapM_error_of_mem {ε α β : Type} (f : α → Except ε β) :
    ∀ (l : List α) (t : α), t ∈ l → (∃ e, f t = .error e) → ∃ e, List.mapM f l = .error e
  | a :: l, t, hm, ⟨e, he⟩ => by
    cases hfa : f a with
    | error e' => exact ⟨e', mapM_cons_error f a l e' hfa⟩
    | ok b =>
      rw [mapM_cons_ok f a l b hfa]
      have ht : t ∈ l := by
        rcases List.mem_cons.1 hm with rfl | h
        · rw [he] at hfa; cases hfa
        · exact h
      obtain ⟨e', he'⟩ := mapM_error_of_mem f l t ht ⟨e, he⟩
      exact ⟨e', by rw [he']; rfl⟩

/-! ### the per-instant bridge -/

theorem valid_date {t : Instant} (h : t.ValidDay) : ValidDate t.year t.month t.day := h

theorem inRange_of {t : Instant} (h : t.ValidDay) : InRange (Gen.Dekad.ofDate t.year t.month t.day) :=
  ofDate_inRange (valid_date h)

theorem inRange_succ_of {t : Instant} (h : t.ValidDay) (hl : ¬ t.inLastDekad) :
    InRange (Gen.Dekad.ofDate t.year t.month t.day + 1) := by
  have hr := inRange_of h
  obtain ⟨h1, h2, h3, h4, h5, h6⟩ := h
  have := daysInMonth_bounds t.year t.month
  unfold Instant.inLastDekad at hl
  unfold InRange at hr ⊢
  rw [ofDate_eq] at hr ⊢
  omega

theorem inLast_succ_not_inRange {t : Instant} (h : t.ValidDay) (hl : t.inLastDekad) :
    Gen.Dekad.ofDate t.year t.month t.day = 359999 := by
  obtain ⟨h1, h2, h3, h4, h5, h6⟩ := h
  have := daysInMonth_bounds t.year t.month
  obtain ⟨a, b, c⟩ := hl
  rw [ofDate_eq]
  omega

theorem idx_spec {t : Instant} (h : t.ValidDay) : Gen.Dekad.idx (Gen.Dekad.ofDate t.year t.month t.day) = dekadIdx t := by
  rw [idx_ofDate (valid_date h)]
  obtain ⟨h1, h2, h3, h4, h5, h6⟩ := h
  have := daysInMonth_bounds t.year t.month
  unfold dekadIdx
  omega

theorem yidx_spec {t : Instant} (h : t.ValidDay) : Gen.Dekad.yidx (Gen.Dekad.ofDate t.year t.month t.day) = dekadYidx t := by
  rw [yidx_month_idx, month_ofDate (valid_date h), idx_spec h]
  rfl

theorem raw_spec {t : Instant} (h : t.ValidDay) : Gen.Dekad.raw (Gen.Dekad.ofDate t.year t.month t.day) = dekadRaw t := by
  rw [raw_decomp, year_ofDate (valid_date h), month_ofDate (valid_date h), idx_spec h]
  unfold dekadRaw dekadYidx
  omega

theorem str_spec {t : Instant} (h : t.ValidDay) : Gen.Dekad.str (Gen.Dekad.ofDate t.year t.month t.day) = dekadLabel t := by
  simp only [Gen.Dekad.str]
  rw [year_ofDate (valid_date h), month_ofDate (valid_date h), idx_spec h]
  rfl

theorem start_spec {t : Instant} (h : t.ValidDay) :
    Gen.Dekad.start_date (Gen.Dekad.ofDate t.year t.month t.day) = .ok (dekadStart t) := by
  rw [start_date_ok (inRange_of h), year_ofDate (valid_date h), month_ofDate (valid_date h), day_ofDate (valid_date h)]
  rfl

theorem ndays_spec {t : Instant} (h : t.ValidDay) (hl : ¬ t.inLastDekad) :
    Gen.Dekad.ndays (Gen.Dekad.ofDate t.year t.month t.day) = .ok (dekadNdays t) := by
  rw [ndays_eq (inRange_of h) (inRange_succ_of h hl), len_ofDate (valid_date h)]
  rfl

theorem endDay_eq (t : Instant) : dekadEndDay t = dekadStartDay t + dekadNdays t - 1 := by
  unfold dekadEndDay dekadStartDay dekadNdays
  split <;> split <;> omega

theorem end_spec {t : Instant} (h : t.ValidDay) (hl : ¬ t.inLastDekad) :
    Gen.Dekad.end_date (Gen.Dekad.ofDate t.year t.month t.day) = .ok (dekadEnd t) := by
  rw [end_date_ok (inRange_of h) (inRange_succ_of h hl), startOrd_succ, startOrd_ofDate (valid_date h),
    len_ofDate (valid_date h), day_ofDate (valid_date h)]
  unfold dekadEnd
  rw [endDay_eq, ← ymd2ord_add_day]
  unfold dekadStartDay dekadNdays
  congr 2
  unfold ymd2ord
  omega

theorem end_last {t : Instant} (h : t.ValidDay) (hl : t.inLastDekad) :
    Gen.Dekad.end_date (Gen.Dekad.ofDate t.year t.month t.day) = .error .valueError := by
  rw [inLast_succ_not_inRange h hl]; exact end_date_last

theorem ndays_last' {t : Instant} (h : t.ValidDay) (hl : t.inLastDekad) :
    Gen.Dekad.ndays (Gen.Dekad.ofDate t.year t.month t.day) = .error .valueError := by
  rw [inLast_succ_not_inRange h hl]; exact ndays_last

/-! ### the specification alone -/

theorem startDay_le (t : Instant) (h : t.ValidDay) : dekadStartDay t ≤ t.day ∧ t.day ≤ dekadEndDay t := by
  obtain ⟨h1, h2, h3, h4, h5, h6⟩ := h
  unfold dekadStartDay dekadEndDay
  split <;> (try split) <;> omega

theorem start_le_end_spec (t : Instant) (h : t.Valid) :
    (dekadStart t).totalUs ≤ t.totalUs ∧ t.totalUs ≤ (dekadEnd t).totalUs := by
  obtain ⟨a, b⟩ := startDay_le t h.1
  obtain ⟨_, h7, h8⟩ := h
  unfold dekadStart dekadEnd DateTime.totalUs Instant.totalUs ymd2ord
  simp only []
  unfold usPerDay at *
  omega

theorem ndays_span_spec (t : Instant) :
    (dekadEnd t).totalUs + 1 - (dekadStart t).totalUs = dekadNdays t * usPerDay := by
  unfold dekadStart dekadEnd DateTime.totalUs ymd2ord
  simp only []
  rw [endDay_eq]
  unfold usPerDay
  omega

/-- a dekad is its year, month and index, and so is a dekad of the specification -/
theorem ofDate_eq_iff {a b : Instant} (ha : a.ValidDay) (hb : b.ValidDay) :
    Gen.Dekad.ofDate a.year a.month a.day = Gen.Dekad.ofDate b.year b.month b.day ↔ sameDekad a b := by
  have va := valid_date ha
  have vb := valid_date hb
  constructor
  · intro h
    have hy := congrArg Gen.Dekad.year h
    have hm := congrArg Gen.Dekad.month h
    have hi := congrArg Gen.Dekad.idx h
    rw [year_ofDate va, year_ofDate vb] at hy
    rw [month_ofDate va, month_ofDate vb] at hm
    rw [idx_spec ha, idx_spec hb] at hi
    exact ⟨hy, hm, hi⟩
  · rintro ⟨hy, hm, hi⟩
    have ea := eq_fields (Gen.Dekad.ofDate a.year a.month a.day)
    have eb := eq_fields (Gen.Dekad.ofDate b.year b.month b.day)
    rw [year_ofDate va, month_ofDate va, idx_spec ha] at ea
    rw [year_ofDate vb, month_ofDate vb, idx_spec hb] at eb
    rw [ea, eb, hy, hm, hi]

end Hdc.GenGluePeriod
