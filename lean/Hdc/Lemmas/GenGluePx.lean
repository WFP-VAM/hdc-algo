import Hdc.PyXr
import Hdc.Model.Discrete
import Hdc.Lemmas.GenGlue
/-
Helper lemmas for the translator-tied pixel accessors (harness/py2lean_glue_px.py): the per-pixel xarray semantics of
Hdc/PyXr.lean against the hand model of `croo` (Hdc/Model/Discrete.lean).  Nothing here mentions a generated program.
-/
namespace Hdc.GenGluePx
open Hdc Hdc.PyGlue Hdc.PyXr

/-- a NaN-free pixel series -/
def liftSer (ps : List (Int × Nat)) : PxSer := ps.map fun p => (p.1, some p.2)

/-! ### `sortby("time", ascending=False)` = the model's `sortDesc` -/

/-- `Hdc.insertDesc` on series with NaN -/
def insertDescX (p : Int × PxVal) : PxSer → PxSer
  | [] => [p]
  | q :: qs => if q.1 < p.1 then p :: q :: qs else q :: insertDescX p qs

theorem insertDescX_append_of_ge (p : Int × PxVal) (M : PxSer) (h : ∀ q ∈ M, p.1 ≤ q.1) : insertDescX p M = M ++ [p] := by
  induction M with
  | nil => rfl
  | cons q qs ih =>
    have h1 : ¬ q.1 < p.1 := by have := h q (by simp); omega
    simp only [insertDescX, h1, if_false, List.cons_append]
    rw [ih (fun r hr => h r (by simp [hr]))]

theorem insertDescX_append_lt (p q : Int × PxVal) (M : PxSer) (h : q.1 < p.1) :
    insertDescX p (M ++ [q]) = insertDescX p M ++ [q] := by
  induction M with
  | nil => simp [insertDescX, h]
  | cons r rs ih =>
    simp only [List.cons_append, insertDescX]
    by_cases hr : r.1 < p.1
    · simp [hr]
    · simp [hr, ih]

theorem mem_insertAsc (p x : Int × PxVal) (L : PxSer) : x ∈ insertAscT p L ↔ x = p ∨ x ∈ L := by
  induction L with
  | nil => simp [insertAscT]
  | cons q qs ih =>
    simp only [insertAscT]
    by_cases h : p.1 ≤ q.1
    · simp [h]
    · simp only [h, if_false, List.mem_cons, ih]
      constructor
      · rintro (h1 | h1 | h1) <;> simp [h1]
      · rintro (h1 | h1 | h1) <;> simp [h1]

theorem insertAsc_sorted (p : Int × PxVal) (L : PxSer) (hs : L.Pairwise (fun a b => a.1 ≤ b.1)) :
    (insertAscT p L).Pairwise (fun a b => a.1 ≤ b.1) := by
  induction L with
  | nil => simp [insertAscT]
  | cons q qs ih =>
    have hs' := List.pairwise_cons.1 hs
    simp only [insertAscT]
    by_cases h : p.1 ≤ q.1
    · rw [if_pos h]
      refine List.pairwise_cons.2 ⟨?_, hs⟩
      intro r hr
      rcases List.mem_cons.1 hr with rfl | hr
      · exact h
      · have := hs'.1 r hr; omega
    · rw [if_neg h]
      refine List.pairwise_cons.2 ⟨?_, ih hs'.2⟩
      intro r hr
      rcases (mem_insertAsc p r qs).1 hr with rfl | hr
      · omega
      · exact hs'.1 r hr

theorem sortAsc_sorted (x : PxSer) : (sortAscT x).Pairwise (fun a b => a.1 ≤ b.1) := by
  induction x with
  | nil => simp [sortAscT]
  | cons p ps ih => exact insertAsc_sorted p _ ih

theorem reverse_insertAsc (p : Int × PxVal) (L : PxSer) (hs : L.Pairwise (fun a b => a.1 ≤ b.1)) :
    (insertAscT p L).reverse = insertDescX p L.reverse := by
  induction L with
  | nil => rfl
  | cons q qs ih =>
    have hs' := List.pairwise_cons.1 hs
    simp only [insertAscT]
    by_cases h : p.1 ≤ q.1
    · rw [if_pos h]
      simp only [List.reverse_cons]
      rw [insertDescX_append_of_ge]
      intro r hr
      rcases List.mem_append.1 hr with hr | hr
      · have := hs'.1 r (List.mem_reverse.1 hr); omega
      · have : r = q := by simpa using hr
        subst this; exact h
    · rw [if_neg h]
      simp only [List.reverse_cons]
      rw [ih hs'.2, insertDescX_append_lt _ _ _ (by omega)]

theorem reverse_sortAsc (x : PxSer) : (sortAscT x).reverse = x.foldr insertDescX [] := by
  induction x with
  | nil => rfl
  | cons p ps ih =>
    show (insertAscT p (sortAscT ps)).reverse = insertDescX p (ps.foldr insertDescX [])
    rw [reverse_insertAsc p _ (sortAsc_sorted ps), ih]

theorem insertDescX_liftSer (p : Int × Nat) (l : List (Int × Nat)) :
    insertDescX (p.1, some p.2) (liftSer l) = liftSer (insertDesc p l) := by
  induction l with
  | nil => rfl
  | cons q qs ih =>
    simp only [liftSer, List.map_cons, insertDescX, insertDesc]
    by_cases h : q.1 < p.1
    · simp [h]
    · simp only [h, if_false, List.map_cons]
      congr 1

/-- the descending sort of xarray (stable ascending order, reversed) on a NaN-free series is the model's `sortDesc`, for
    ANY keys (duplicates included: both put the later-stored of two equal keys first) -/
theorem sortbyTime_desc_liftSer (ps : List (Int × Nat)) : sortbyTime (liftSer ps) false = liftSer (sortDesc ps) := by
  simp only [sortbyTime, Bool.false_eq_true, if_false]
  rw [reverse_sortAsc]
  induction ps with
  | nil => rfl
  | cons p ps ih =>
    show insertDescX (p.1, some p.2) ((liftSer ps).foldr insertDescX []) = liftSer (insertDesc p (sortDesc ps))
    rw [ih, insertDescX_liftSer]

/-! ### `where(x == 1).cumsum(skipna=False)`, `where(~isnull, 0)` = the model's `crooCum` -/

theorem croo_cells (S : List (Int × Nat)) (acc : Option Nat) :
    (whereNotnullElse (cumsumFrom false acc (whereEq (liftSer S) 1)) 0).map (·.2)
      = ((crooCum acc (S.map (·.2))).map fun o => o.getD 0).map some := by
  induction S generalizing acc with
  | nil => rfl
  | cons p S ih =>
    simp only [liftSer, List.map_cons, whereEq, cumsumFrom, whereNotnullElse, crooCum] at ih ⊢
    rcases acc with _ | k
    · simpa using ih none
    · by_cases h : p.2 = 1
      · simpa [h] using ih (some (k + 1))
      · simpa [h] using ih none

/-! ### `argmax` = the model's `argmaxFirst` -/

theorem argmaxGo_some (l : List Nat) (i bi bv : Nat) :
    argmaxGo (l.map some) i (some (bi, bv))
      = some ((l.foldl (fun (st : Nat × Nat × Nat) v =>
          let (bi, bv, i) := st
          if v > bv then (i, v, i + 1) else (bi, bv, i + 1)) (bi, bv, i)).1,
          (l.foldl (fun (st : Nat × Nat × Nat) v =>
          let (bi, bv, i) := st
          if v > bv then (i, v, i + 1) else (bi, bv, i + 1)) (bi, bv, i)).2.1) := by
  induction l generalizing i bi bv with
  | nil => rfl
  | cons v vs ih =>
    simp only [List.map_cons, argmaxGo, List.foldl_cons]
    by_cases h : v > bv
    · simp only [h, if_true]; exact ih _ _ _
    · simp only [h, if_false]; exact ih _ _ _

theorem argmaxTime_of_cells (x : PxSer) (l : List Nat) (hl : l ≠ []) (h : x.map (·.2) = l.map some) :
    argmaxTime x = .ok (argmaxFirst l) := by
  unfold argmaxTime
  rw [h]
  cases l with
  | nil => exact absurd rfl hl
  | cons v vs => simp only [List.map_cons, argmaxGo, argmaxGo_some, argmaxFirst]

theorem crooCum_ne_nil (acc : Option Nat) (v : Nat) (vs : List Nat) :
    ((crooCum acc (v :: vs)).map fun o => o.getD 0) ≠ [] := by
  simp [crooCum]

theorem argmaxGo_isSome (vs : List PxVal) (i : Nat) (b : Nat × Nat) : (argmaxGo vs i (some b)).isSome = true := by
  induction vs generalizing i b with
  | nil => rfl
  | cons v vs ih =>
    rcases v with _ | v
    · exact ih _ _
    · obtain ⟨bi, bv⟩ := b
      simp only [argmaxGo]
      split <;> exact ih _ _

theorem argmaxTime_ok_of_head (t : Int) (a : Nat) (xs : PxSer) : ∃ k, argmaxTime ((t, some a) :: xs) = .ok k := by
  unfold argmaxTime
  simp only [List.map_cons, argmaxGo]
  have h := argmaxGo_isSome (xs.map (·.2)) (0 + 1) (0, a)
  rcases hh : argmaxGo (xs.map (·.2)) (0 + 1) (some (0, a)) with _ | ⟨k, w⟩
  · rw [hh] at h; cases h
  · exact ⟨k, rfl⟩

end Hdc.GenGluePx
