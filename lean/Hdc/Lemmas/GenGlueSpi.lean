import Hdc.Lemmas.GenGlueCal
/-
The steps of `PixelAlgorithms.spi` that its two variants (`groups` absent / given) share, each as a statement about an
arbitrary continuation `k` (the join point the `do` block passes the updated variables to): the `nodata` precedence, a defaulted
bound, a guard `if c: raise e`, the two recorded attributes.  Then the NumPy checks of the grouped branch on a table of rows
`[start, stop]` (`np.any(t[:, 0] >= t[:, 1])`, `np.any(np.diff(t, axis=1) <= 1)`) against the model's `List.any` tests.
No generated program is mentioned here.
-/
namespace Hdc.GenGlue
open Hdc Hdc.PyGlue

/-- `if nodata is None: nodata = attrs.get('nodata'); if nodata is None: raise ValueError`: the argument when given, else the
    attribute -/
theorem nodata_default {V β : Type} (nd an : Option V) (h : (nd.orElse fun _ => an).isSome)
    (k : Unit → Option V → Except Exc β) :
    (if nd.isNone = true then
        if an.isNone = true then raise Exc.valueError >>= fun r => k r an else k () an
      else k () nd) = k () (nd.orElse fun _ => an) := by
  cases nd with
  | some v => rfl
  | none =>
    cases an with
    | some w => rfl
    | none => cases h

/-- `if bound is None: bound = x`, for an `x` that evaluates to `v` -/
theorem bound_default {β : Type} (o : Option Int) {x : Except Exc Int} {v : Int} (hx : x = .ok v)
    (k : Unit → Option Int → Except Exc β) :
    (if o.isNone = true then x >>= fun t => k () (some t) else k () o) = k () (some (o.getD v)) := by
  subst hx
  cases o <;> rfl

theorem raise_guard {β : Type} (c : Bool) (e : Exc) (k : Unit → Except Exc β) :
    (if c = true then raise e >>= k else k ()) = if c = true then .error e else k () := rfl

/-- `tix[tix >= b][0]`, `tix[tix <= e][-1]`: the model's `spiAttrs`; an empty selection raises IndexError -/
theorem attrs_eval {β : Type} (tix : List Int) (b e : Int) (k : Int → Int → β) :
    (maskSelect tix (tix.map fun x => decide (x ≥ b)) >>= fun m => getItem m 0 >>= fun a =>
      maskSelect tix (tix.map fun x => decide (x ≤ e)) >>= fun m' => getItem m' (-1) >>= fun z => pure (k a z))
      = match spiAttrs tix b e with
        | (some a, some z) => .ok (k a z)
        | _ => .error .indexError := by
  simp only [maskSelect_map, ok_bind, getItem_zero, getItem_neg_one, spiAttrs, ge_iff_le]
  cases (tix.filter fun t => decide (b ≤ t)).head? <;> cases (tix.filter fun t => decide (t ≤ e)).getLast? <;> rfl

/-- `abs(stop - start) <= 1`, evaluated after `start >= stop` has been excluded, is the model's test in natural numbers -/
theorem short_window_guard {β : Type} (i j : Nat) (A X : β) :
    (if j ≤ i then A else if pyAbs ((j : Int) - i) ≤ 1 then A else X) = if j ≤ i then A else if j - i ≤ 1 then A else X := by
  by_cases h : j ≤ i
  · rw [if_pos h, if_pos h]
  · rw [if_neg h, if_neg h, pyAbs_of_nonneg _ (by omega)]
    congr 1
    exact propext (by omega)

/-- the (n, 2) table of the windows -/
def rowsOf (ws : List (Nat × Nat)) : List (List Int) := ws.map fun p => [(p.1 : Int), (p.2 : Int)]

theorem npCol_rows0 (ws : List (Nat × Nat)) : npCol (rowsOf ws) 0 = .ok (ws.map fun p => (p.1 : Int)) := by
  unfold npCol rowsOf
  induction ws with
  | nil => rfl
  | cons p ps ih =>
    simp only [List.map_cons, List.mapM_cons, ih]
    rfl

theorem npCol_rows1 (ws : List (Nat × Nat)) : npCol (rowsOf ws) 1 = .ok (ws.map fun p => (p.2 : Int)) := by
  unfold npCol rowsOf
  induction ws with
  | nil => rfl
  | cons p ps ih =>
    simp only [List.map_cons, List.mapM_cons, ih]
    rfl

theorem zipWithArr_map {α β γ δ : Type} (f : β → γ → δ) (g : α → β) (h : α → γ) (l : List α) :
    zipWithArr f (l.map g) (l.map h) = .ok (l.map fun x => f (g x) (h x)) := by
  unfold zipWithArr
  rw [if_pos (by simp), List.zipWith_map, List.zipWith_self]

theorem npAny_map {α : Type} (l : List α) (q : α → Bool) : npAny (l.map q) = l.any q := by
  unfold npAny
  rw [List.any_map]
  rfl

/-- `np.any(t[:, 0] >= t[:, 1])` is the model's first test -/
theorem any_reversed_rows (ws : List (Nat × Nat)) :
    npAny (ws.map fun p => decide ((p.1 : Int) ≥ (p.2 : Int))) = ws.any fun (i, j) => decide (j ≤ i) := by
  rw [npAny_map]
  congr 1
  funext p
  obtain ⟨i, j⟩ := p
  simp

/-- `np.any(np.diff(t, axis=1) <= 1)`, evaluated (as in the source and in the model) after the first test has passed, is the
    model's second test (natural-number subtraction) -/
theorem any_short_rows (ws : List (Nat × Nat)) (h : (ws.any fun (i, j) => decide (j ≤ i)) = false) :
    npAny2 ((npDiffRows (rowsOf ws)).map (List.map fun x => decide (x ≤ (1 : Int))))
      = ws.any fun (i, j) => decide (j - i ≤ 1) := by
  have hrow : ∀ p ∈ ws, p.1 < p.2 := by simpa using h
  unfold npAny2 npDiffRows rowsOf
  rw [Bool.eq_iff_iff]
  simp only [List.map_map, List.any_map, List.any_eq_true, Function.comp_apply, List.tail_cons, List.zipWith_cons_cons,
    List.zipWith_nil_right, List.map_cons, List.map_nil, List.any_cons, List.any_nil, Bool.or_false, id, decide_eq_true_eq]
  exact exists_congr fun p => and_congr_right fun hp => by have := hrow p hp; omega

end Hdc.GenGlue
