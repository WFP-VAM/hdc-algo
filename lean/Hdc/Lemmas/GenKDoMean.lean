import Hdc.Lemmas.PyNpT
import Hdc.Model.Discrete
/-
Loop invariants for `Gen.Kernels.do_mean` against the model `Hdc.zonalMean` / `Hdc.zoneStats` (one time step of the
row-major flattened pixel cube at a time).
-/
namespace Hdc.GenKDoMean
open Hdc Hdc.PyNpT Hdc.GenKernels Hdc.Gen.Kernels

/-! ### the statistics of zone `k` over a list of (pixel, zone label) cells -/

/-- the cells that count for zone `k` -/
def zsel (nd znd k : Int) (l : List (Int × Int)) : List (Int × Int) :=
  l.filter fun p => decide (p.1 ≠ nd ∧ p.2 ≠ znd ∧ p.2 = k)

def zsum (nd znd k : Int) (l : List (Int × Int)) : Int := ((zsel nd znd k l).map fun p => p.1).sum
def zcnt (nd znd k : Int) (l : List (Int × Int)) : ℕ := (zsel nd znd k l).length

theorem zoneStats_eq (pix zones : List Int) (nd znd k : Int) :
    zoneStats pix zones nd znd k = (zsum nd znd k (pix.zip zones), zcnt nd znd k (pix.zip zones)) := by
  unfold zoneStats zsum zcnt zsel
  rw [foldl_pair]
  simp only [Int.zero_add, Nat.zero_add]

theorem zsum_snoc (nd znd k : Int) (l : List (Int × Int)) (v z : Int) :
    zsum nd znd k (l ++ [(v, z)])
      = if v ≠ nd ∧ z ≠ znd ∧ z = k then zsum nd znd k l + v else zsum nd znd k l := by
  unfold zsum zsel
  by_cases h : v ≠ nd ∧ z ≠ znd ∧ z = k
  · rw [if_pos h]; obtain ⟨h1, h2, rfl⟩ := h; simp [List.filter_append, h1, h2]
  · rw [if_neg h]; simp [List.filter_append, h]

theorem zcnt_snoc (nd znd k : Int) (l : List (Int × Int)) (v z : Int) :
    zcnt nd znd k (l ++ [(v, z)])
      = if v ≠ nd ∧ z ≠ znd ∧ z = k then zcnt nd znd k l + 1 else zcnt nd znd k l := by
  unfold zcnt zsel
  by_cases h : v ≠ nd ∧ z ≠ znd ∧ z = k
  · rw [if_pos h]; obtain ⟨h1, h2, rfl⟩ := h; simp [List.filter_append, h1, h2]
  · rw [if_neg h]; simp [List.filter_append, h]

/-! ### the accumulation loops (`for rw`, `for cl`) -/

variable {β : Type}

/-- `sums` / `counts` hold the statistics of every zone over the cells `done` -/
structure ZAcc (F : FloatOps β) (nd znd : Int) (nz : ℕ) (done : List (Int × Int)) (sums : Array β)
    (counts : Array Int) : Prop where
  ssize : sums.size = nz
  csize : counts.size = nz
  cell : ∀ k < nz, gv counts k = zcnt nd znd (k : ℕ) done ∧
    gD sums k (F.lit 0) = F.lit (zsum nd znd (k : ℕ) done)

/-- `sums[:] = 0; counts[:] = 0` -/
theorem ZAcc.init (F : FloatOps β) (nd znd : Int) {nz : ℕ} {sums : Array β} {counts : Array Int}
    (hs : sums.size = nz) (hc : counts.size = nz) :
    ZAcc F nd znd nz [] (sums.map fun _ => F.lit 0) (counts.map fun _ => (0 : Int)) := by
  refine ⟨by simpa using hs, by simpa using hc, fun k hk => ?_⟩
  rw [gv_map_const counts 0 k (by omega), gD_map_const sums _ _ k (by omega)]
  exact ⟨rfl, rfl⟩

theorem ZAcc.cast {F : FloatOps β} {nd znd : Int} {nz : ℕ} {done done' : List (Int × Int)}
    {sums : Array β} {counts : Array Int} (h : ZAcc F nd znd nz done sums counts)
    (hd : done = done') : ZAcc F nd znd nz done' sums counts := hd ▸ h

/-- a cell that does not count (nodata pixel or nodata zone) -/
theorem ZAcc.skip {F : FloatOps β} {nd znd : Int} {nz : ℕ} {done : List (Int × Int)}
    {sums : Array β} {counts : Array Int} (h : ZAcc F nd znd nz done sums counts) {v z : Int}
    (hv : ¬ (v ≠ nd ∧ z ≠ znd)) : ZAcc F nd znd nz (done ++ [(v, z)]) sums counts := by
  refine ⟨h.ssize, h.csize, fun k hk => ?_⟩
  rw [zcnt_snoc, zsum_snoc, if_neg (fun hh => hv ⟨hh.1, hh.2.1⟩), if_neg (fun hh => hv ⟨hh.1, hh.2.1⟩)]
  exact h.cell k hk

/-! ### the cells of one time step -/

/-- time step `tix` of the flattened cube, paired with the zone labels -/
def cells (pixels zones : List Int) (nrc tix : ℕ) : List (Int × Int) :=
  ((pixels.drop (tix * nrc)).take nrc).zip zones

theorem mul_add_lt {a b n m : ℕ} (ha : a < n) (hb : b < m) : a * m + b < n * m := by
  calc a * m + b < a * m + m := by omega
    _ = (a + 1) * m := by ring
    _ ≤ n * m := Nat.mul_le_mul_right m (by omega)

/-- the next cell of the double loop `for rw … for cl` -/
theorem cells_take_succ (pixels zones : List Int) (t nr nc tix rw cl : ℕ)
    (hp : pixels.length = t * (nr * nc)) (hz : zones.length = nr * nc) (ht : tix < t)
    (hr : rw < nr) (hc : cl < nc) :
    (cells pixels zones (nr * nc) tix).take (rw * nc + (cl + 1))
      = (cells pixels zones (nr * nc) tix).take (rw * nc + cl)
        ++ [(lv pixels ((tix * nr + rw) * nc + cl), lv zones (rw * nc + cl))] := by
  have hm : rw * nc + cl < nr * nc := mul_add_lt hr hc
  have hpl : tix * (nr * nc) + (rw * nc + cl) < pixels.length := by
    rw [hp]; exact mul_add_lt ht hm
  have hlen : rw * nc + cl < (cells pixels zones (nr * nc) tix).length := by
    simp only [cells, List.length_zip, List.length_take, List.length_drop, hz, hp]
    have : nr * nc ≤ t * (nr * nc) - tix * (nr * nc) := by
      rw [← Nat.sub_mul]
      exact Nat.le_mul_of_pos_left _ (by omega)
    omega
  have hidx : (tix * nr + rw) * nc + cl = tix * (nr * nc) + (rw * nc + cl) := by ring
  have hget : (cells pixels zones (nr * nc) tix)[rw * nc + cl]
      = (lv pixels ((tix * nr + rw) * nc + cl), lv zones (rw * nc + cl)) := by
    simp only [cells, List.getElem_zip, List.getElem_take, List.getElem_drop]
    rw [lv_eq_getElem pixels _ (by omega), lv_eq_getElem zones _ (by omega)]
    simp only [hidx]
  rw [show rw * nc + (cl + 1) = rw * nc + cl + 1 by ring, List.take_add_one,
    List.getElem?_eq_getElem hlen, hget]
  rfl

theorem cells_take_all (pixels zones : List Int) (nrc tix : ℕ) :
    (cells pixels zones nrc tix).take nrc = cells pixels zones nrc tix := by
  apply List.take_of_length_le
  simp only [cells, List.length_zip, List.length_take]
  omega

/-! ### the output loop (`for idx`) and the loop over the time steps -/

/-- the model of time step `tix` -/
def zmodel (pixels zones : List Int) (nrc nz : ℕ) (nd znd : Int) (tix : ℕ) : List (Int × Nat) :=
  zonalMean ((pixels.drop (tix * nrc)).take nrc) zones nz nd znd

/-- the two cells `result[tix, idx, 0]`, `result[tix, idx, 1]` of one zone -/
def zcell (F : FloatOps β) (sc : Int × Nat) : List β := [F.quot F.nan sc.1 sc.2, F.lit (sc.2 : ℕ)]

/-- the flattened result of the first `p` time steps -/
def zdone (F : FloatOps β) (pixels zones : List Int) (nrc nz : ℕ) (nd znd : Int) (p : ℕ) : List β :=
  (List.range p).flatMap fun tix => (zmodel pixels zones nrc nz nd znd tix).flatMap (zcell F)

theorem zmodel_length (pixels zones : List Int) (nrc nz : ℕ) (nd znd : Int) (tix : ℕ) :
    (zmodel pixels zones nrc nz nd znd tix).length = nz := by
  simp [zmodel, zonalMean]

theorem flatMap_zcell_length (F : FloatOps β) (l : List (Int × Nat)) :
    (l.flatMap (zcell F)).length = l.length * 2 := by
  induction l with
  | nil => rfl
  | cons a l ih => simp [List.flatMap_cons, ih, zcell]; omega

theorem zdone_length (F : FloatOps β) (pixels zones : List Int) (nrc nz : ℕ) (nd znd : Int) (p : ℕ) :
    (zdone F pixels zones nrc nz nd znd p).length = p * (nz * 2) := by
  induction p with
  | zero => simp [zdone]
  | succ p ih =>
    unfold zdone at ih ⊢
    rw [List.range_succ, List.flatMap_append, List.length_append, ih]
    simp only [List.flatMap_cons, List.flatMap_nil, List.append_nil, flatMap_zcell_length,
      zmodel_length]
    ring

/-- output loop in time step `tix` after `i` zones -/
structure RIn (F : FloatOps β) (pixels zones : List Int) (t nrc nz : ℕ) (nd znd : Int) (tix i : ℕ)
    (result : Array β) : Prop where
  size : result.size = t * (nz * 2)
  pre : result.toList.take (tix * (nz * 2) + i * 2)
    = zdone F pixels zones nrc nz nd znd tix
      ++ ((zmodel pixels zones nrc nz nd znd tix).take i).flatMap (zcell F)

/-- loop over the time steps after `p` steps -/
structure ROut (F : FloatOps β) (pixels zones : List Int) (t nrc nz : ℕ) (nd znd : Int) (p : ℕ)
    (result : Array β) (sums : Array β) (counts : Array Int) : Prop where
  size : result.size = t * (nz * 2)
  pre : result.toList.take (p * (nz * 2)) = zdone F pixels zones nrc nz nd znd p
  ssize : sums.size = nz
  csize : counts.size = nz

theorem ROut.init (F : FloatOps β) (pixels zones : List Int) (t nrc nz : ℕ) (nd znd : Int) :
    ROut F pixels zones t nrc nz nd znd 0 (npFull ((t : ℤ) * (nz : ℤ) * 2) (F.lit 0))
      (npFull (nz : ℤ) (F.lit 0)) (npFull (nz : ℤ) (0 : Int)) := by
  refine ⟨?_, by simp [zdone], by simp [npFull], by simp [npFull]⟩
  simp only [npFull, Array.size_replicate]
  have : (t : ℤ) * (nz : ℤ) * 2 = ((t * (nz * 2) : ℕ) : ℤ) := by push_cast; ring
  rw [this, Int.toNat_natCast]

/-- entry of the output loop -/
theorem ROut.enter {F : FloatOps β} {pixels zones : List Int} {t nrc nz : ℕ} {nd znd : Int} {p : ℕ}
    {result sums : Array β} {counts : Array Int}
    (h : ROut F pixels zones t nrc nz nd znd p result sums counts) :
    RIn F pixels zones t nrc nz nd znd p 0 result :=
  ⟨h.size, by simpa using h.pre⟩

/-- exit of the output loop: one more time step -/
theorem RIn.exit {F : FloatOps β} {pixels zones : List Int} {t nrc nz : ℕ} {nd znd : Int} {p : ℕ}
    {result sums : Array β} {counts : Array Int}
    (h : RIn F pixels zones t nrc nz nd znd p nz result) (hs : sums.size = nz)
    (hc : counts.size = nz) : ROut F pixels zones t nrc nz nd znd (p + 1) result sums counts := by
  refine ⟨h.size, ?_, hs, hc⟩
  have := h.pre
  have e : (zmodel pixels zones nrc nz nd znd p).take nz = zmodel pixels zones nrc nz nd znd p :=
    List.take_of_length_le (by rw [zmodel_length])
  rw [e] at this
  rw [show (p + 1) * (nz * 2) = p * (nz * 2) + nz * 2 by ring, this]
  unfold zdone
  rw [List.range_succ, List.flatMap_append]
  simp

/-- one zone: `result[tix, idx, 0] = sums[idx] / counts[idx]` or NaN, `result[tix, idx, 1] = counts[idx]` -/
theorem RIn.step {F : FloatOps β} {pixels zones : List Int} {t nr nc nz : ℕ} {nd znd : Int}
    {tix i : ℕ} {result result' sums : Array β} {counts : Array Int}
    (h : RIn F pixels zones t (nr * nc) nz nd znd tix i result) (ht : tix < t) (hi : i < nz)
    (hA : ZAcc F nd znd nz ((cells pixels zones (nr * nc) tix).take (nr * nc)) sums counts)
    {i0 i1 : ℤ} (hi0 : i0 = flat3 (t : ℤ) (nz : ℤ) 2 (tix : ℤ) (i : ℤ) 0)
    (hi1 : i1 = flat3 (t : ℤ) (nz : ℤ) 2 (tix : ℤ) (i : ℤ) 1) {v0 : β}
    (hv0 : v0 = if rd counts i > 0 then F.div (rdD sums i (F.lit 0)) (F.lit (rd counts i)) else F.nan)
    (hr : result' = wrG (wrG result i0 v0) i1 (F.lit (rd counts i))) :
    RIn F pixels zones t (nr * nc) nz nd znd tix (i + 1) result' := by
  subst hr
  rw [cells_take_all] at hA
  replace hi0 : i0 = (((tix * nz + i) * 2 + 0 : ℕ) : ℤ) := by
    rw [hi0, ← flat3_nat t nz 2 tix i 0]; rfl
  replace hi1 : i1 = (((tix * nz + i) * 2 + 1 : ℕ) : ℤ) := by
    rw [hi1, ← flat3_nat t nz 2 tix i 1]; rfl
  have hL : tix * (nz * 2) + i * 2 + 1 < t * (nz * 2) := by
    have := mul_add_lt (m := nz * 2) ht (show i * 2 + 1 < nz * 2 by omega)
    omega
  refine ⟨by rw [size_wrG, size_wrG]; exact h.size, ?_⟩
  have hm : (zmodel pixels zones (nr * nc) nz nd znd tix).take (i + 1)
      = (zmodel pixels zones (nr * nc) nz nd znd tix).take i
        ++ [(zsum nd znd (i : ℕ) (cells pixels zones (nr * nc) tix),
             zcnt nd znd (i : ℕ) (cells pixels zones (nr * nc) tix))] := by
    rw [List.take_add_one]
    congr 1
    simp only [zmodel, zonalMean, List.getElem?_map, List.getElem?_range hi, Option.map_some,
      zoneStats_eq, cells]
    rfl
  rw [hm, List.flatMap_append, ← List.append_assoc, ← h.pre]
  simp only [List.flatMap_cons, List.flatMap_nil, List.append_nil, zcell]
  rw [show tix * (nz * 2) + (i + 1) * 2 = (tix * (nz * 2) + i * 2 + 1) + 1 by ring,
    take_wrG _ _ _ _ (by rw [hi1]; congr 1; ring) (by rw [size_wrG, h.size]; exact hL),
    take_wrG _ _ _ _ (by rw [hi0]; congr 1; ring) (by rw [h.size]; omega),
    List.append_assoc]
  congr 2
  rw [rd_of_eq _ _ i rfl, rdD_of_eq _ _ _ i rfl, (hA.cell i hi).1, (hA.cell i hi).2] at *
  subst hv0
  simp only [List.cons_append, List.nil_append, FloatOps.quot, List.cons.injEq, and_true]
  by_cases hc : zcnt nd znd (i : ℕ) (cells pixels zones (nr * nc) tix) = 0
  · rw [if_pos hc, if_neg (by omega)]
  · rw [if_neg hc, if_pos (by omega)]

/-- the whole array once all time steps are done -/
theorem ROut.final {F : FloatOps β} {pixels zones : List Int} {t nrc nz : ℕ} {nd znd : Int}
    {result sums : Array β} {counts : Array Int}
    (h : ROut F pixels zones t nrc nz nd znd t result sums counts) :
    result.toList = zdone F pixels zones nrc nz nd znd t := by
  rw [← h.pre, List.take_of_length_le (by rw [Array.length_toList, h.size])]

end Hdc.GenKDoMean
