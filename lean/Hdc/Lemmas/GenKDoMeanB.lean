import Hdc.Lemmas.GenKDoMean
import Hdc.Model.RoundAcc
import Hdc.Lemmas.RoundFloatOps
/-
The step `sums[z_idx] += pix` of `Gen.Kernels.do_mean` (invariant `ZAcc` of Hdc/Lemmas/GenKDoMean.lean) under a BOUNDED
exactness of the floating addition: the step needs that per zone the sum of the absolute values of the cells that are added
stays within the range `B`.
-/
namespace Hdc.GenKDoMean
open Hdc Hdc.PyNpT Hdc.GenKernels Hdc.Gen.Kernels

/-- sum of the absolute values of the cells of `l` that count for zone `k` -/
def zasum (nd znd k : Int) (l : List (Int × Int)) : ℕ := ((zsel nd znd k l).map fun p => p.1.natAbs).sum

theorem zoneAbsSum_eq (pix zones : List Int) (nd znd k : Int) :
    zoneAbsSum pix zones nd znd k = zasum nd znd k (pix.zip zones) := rfl

theorem zasum_snoc (nd znd k : Int) (l : List (Int × Int)) (v z : Int) :
    zasum nd znd k (l ++ [(v, z)])
      = if v ≠ nd ∧ z ≠ znd ∧ z = k then zasum nd znd k l + v.natAbs else zasum nd znd k l := by
  unfold zasum zsel
  by_cases h : v ≠ nd ∧ z ≠ znd ∧ z = k
  · rw [if_pos h]; obtain ⟨h1, h2, rfl⟩ := h; simp [List.filter_append, h1, h2]
  · rw [if_neg h]; simp [List.filter_append, h]

theorem zasum_take_le (nd znd k : Int) (l : List (Int × Int)) (q : ℕ) :
    zasum nd znd k (l.take q) ≤ zasum nd znd k l :=
  sum_map_filter_take_le _ _ l q

/-- every partial sum is bounded by the sum of the absolute values -/
theorem natAbs_zsum_le (nd znd k : Int) (l : List (Int × Int)) :
    (zsum nd znd k l).natAbs ≤ zasum nd znd k l :=
  le_of_le_of_eq (natAbs_sum_le _) (by rw [List.map_map]; rfl)

variable {β : Type}

/-- a cell that counts: `sums[z_idx] += pix; counts[z_idx] += 1`, the addition exact because the zone's absolute values
    (the new cell included) sum to at most `B`; a label `≥ num_zones` writes beyond the arrays: dropped -/
theorem ZAcc.addB {F : FloatOps β} {B : ℕ}
    (hadd : ∀ a b : Int, a.natAbs ≤ B → b.natAbs ≤ B → (a + b).natAbs ≤ B →
      F.add (F.lit a) (F.lit b) = F.lit (a + b))
    {nd znd : Int} {nz : ℕ} {done : List (Int × Int)} {sums sums' : Array β}
    {counts counts' : Array Int} (h : ZAcc F nd znd nz done sums counts) {v z : Int}
    (hB : ∀ k < nz, zasum nd znd (k : ℕ) (done ++ [(v, z)]) ≤ B)
    (hv : v ≠ nd) (hz : z ≠ znd) (h0 : 0 ≤ z)
    (hs : sums' = wrG sums z (F.add (rdD sums z (F.lit 0)) (F.lit v)))
    (hc : counts' = wr counts z (rd counts z + 1)) :
    ZAcc F nd znd nz (done ++ [(v, z)]) sums' counts' := by
  subst hs hc
  by_cases hzn : z < (nz : ℤ)
  · have hzt : z = ((z.toNat : ℕ) : ℤ) := by omega
    have hzl : z.toNat < nz := by omega
    refine ⟨by rw [size_wrG]; exact h.ssize, by rw [size_wr]; exact h.csize, fun k hk => ?_⟩
    rw [zcnt_snoc, zsum_snoc]
    by_cases hk2 : z = (k : ℤ)
    · have : k = z.toNat := by omega
      subst this
      have hb := hB _ hk
      rw [zasum_snoc, if_pos ⟨hv, hz, hk2⟩] at hb
      have h2 := natAbs_zsum_le nd znd (z.toNat : ℕ) done
      have h3 := natAbs_zsum_le nd znd (z.toNat : ℕ) (done ++ [(v, z)])
      rw [zsum_snoc, zasum_snoc, if_pos ⟨hv, hz, hk2⟩, if_pos ⟨hv, hz, hk2⟩] at h3
      rw [if_pos ⟨hv, hz, hk2⟩, if_pos ⟨hv, hz, hk2⟩, gv_wr_self _ _ _ _ hzt (by rw [h.csize]; exact hzl),
        gD_wrG_self _ _ _ _ _ hzt (by rw [h.ssize]; exact hzl), rd_nonneg _ _ h0, rdD_nonneg _ _ _ h0,
        (h.cell _ hk).1, (h.cell _ hk).2, hadd _ _ (by omega) (by omega) (by omega)]
      exact ⟨by push_cast; rfl, rfl⟩
    · rw [if_neg (fun hh => hk2 hh.2.2), if_neg (fun hh => hk2 hh.2.2), gv_wr_ne _ _ _ _ h0 hk2,
        gD_wrG_ne _ _ _ _ _ h0 hk2]
      exact h.cell k hk
  · rw [wrG_out _ _ _ (by rw [h.ssize]; omega), wr_out _ _ _ (by rw [h.csize]; omega)]
    refine ⟨h.ssize, h.csize, fun k hk => ?_⟩
    rw [zcnt_snoc, zsum_snoc, if_neg (fun hh => by omega), if_neg (fun hh => by omega)]
    exact h.cell k hk

/-- one cell of the double loop: counted (`sums[z_idx] += pix; counts[z_idx] += 1`) or not; `hB`: in every time step the
    absolute values of the cells of each zone sum to at most `B` -/
theorem ZAcc.cellB {F : FloatOps β} {B : ℕ}
    (hadd : ∀ a b : Int, a.natAbs ≤ B → b.natAbs ≤ B → (a + b).natAbs ≤ B →
      F.add (F.lit a) (F.lit b) = F.lit (a + b))
    {pixels zones : List Int} {t nr nc nz tix rw cl : ℕ} {nd znd : Int}
    (hB : ∀ tix < t, ∀ k < nz, zasum nd znd (k : ℕ) (cells pixels zones (nr * nc) tix) ≤ B)
    (hlab : ∀ z ∈ zones, z = znd ∨ 0 ≤ z)
    (hp : pixels.length = t * (nr * nc)) (hz : zones.length = nr * nc) (ht : tix < t)
    (hr : rw < nr) (hc : cl < nc) {sums : Array β} {counts : Array Int}
    (h : ZAcc F nd znd nz ((cells pixels zones (nr * nc) tix).take (rw * nc + cl)) sums counts)
    {v z : Int} (hv : v = rd pixels.toArray (flat3 (t : ℤ) (nr : ℤ) (nc : ℤ) (tix : ℤ) (rw : ℤ) (cl : ℤ)))
    (hzv : z = rd zones.toArray (flat2 (nr : ℤ) (nc : ℤ) (rw : ℤ) (cl : ℤ))) :
    (v ≠ nd ∧ z ≠ znd → ZAcc F nd znd nz ((cells pixels zones (nr * nc) tix).take (rw * nc + (cl + 1)))
      (wrG sums z (F.add (rdD sums z (F.lit 0)) (F.lit v))) (wr counts z (rd counts z + 1))) ∧
    (¬ (v ≠ nd ∧ z ≠ znd) → ZAcc F nd znd nz
      ((cells pixels zones (nr * nc) tix).take (rw * nc + (cl + 1))) sums counts) := by
  have hBt : ∀ k < nz, zasum nd znd (k : ℕ)
      ((cells pixels zones (nr * nc) tix).take (rw * nc + (cl + 1))) ≤ B := fun k hk =>
    Nat.le_trans (zasum_take_le nd znd _ _ _) (hB tix ht k hk)
  rw [flat3_nat, rd_natCast, gv_toArray] at hv
  rw [flat2_nat, rd_natCast, gv_toArray] at hzv
  rw [cells_take_succ pixels zones t nr nc tix rw cl hp hz ht hr hc, ← hv, ← hzv] at hBt ⊢
  refine ⟨fun hh => ?_, fun hh => h.skip hh⟩
  have hm : rw * nc + cl < zones.length := by rw [hz]; exact mul_add_lt hr hc
  have h0 : 0 ≤ z := by
    rcases hlab z (by rw [hzv]; exact lv_mem zones _ hm) with h1 | h1
    · exact absurd h1 hh.2
    · exact h1
  exact h.addB hadd hBt hh.1 hh.2 h0 rfl rfl

end Hdc.GenKDoMean
