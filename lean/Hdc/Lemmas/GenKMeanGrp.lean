import Hdc.Lemmas.PyNpT
import Hdc.Model.Discrete
/-
Loop invariants for `Gen.Kernels.mean_grp` against the model `Hdc.meanGrp` / `Hdc.grpStats`.
-/
namespace Hdc.GenKMeanGrp
open Hdc Hdc.PyNpT Hdc.GenKernels

/-- sum of the valid cells of `l` -/
def vsum (nd : Int) (l : List Int) : Int := (l.filter fun v => decide (v ≠ nd)).sum

/-- number of valid cells of `l` -/
def vcnt (nd : Int) (l : List Int) : ℕ := (l.filter fun v => decide (v ≠ nd)).length

theorem vsum_snoc (nd : Int) (l : List Int) (a : Int) :
    vsum nd (l ++ [a]) = if a = nd then vsum nd l else vsum nd l + a := by
  unfold vsum
  by_cases h : a = nd <;> simp [List.filter_append, h]

theorem vcnt_snoc (nd : Int) (l : List Int) (a : Int) :
    vcnt nd (l ++ [a]) = if a = nd then vcnt nd l else vcnt nd l + 1 := by
  unfold vcnt
  by_cases h : a = nd <;> simp [List.filter_append, h]

/-- the model's statistics of group `g` are the sum and the number of the valid cells of `xx[groups == g]` -/
theorem grpStats_eq (xx groups : List Int) (nd g : Int) :
    grpStats xx groups nd g = (vsum nd (gsel xx groups g), vcnt nd (gsel xx groups g)) := by
  unfold grpStats vsum vcnt gsel
  rw [foldl_pair, List.filter_map, List.filter_filter]
  simp only [Int.zero_add, Nat.zero_add, List.length_map]
  have : (fun a : Int × Int => decide (a.2 = g ∧ a.1 ≠ nd))
      = (fun a => ((fun v => decide (v ≠ nd)) ∘ fun p : Int × Int => p.1) a && decide (a.2 = g)) := by
    funext a; simp [Bool.and_comm]
  have h2 : (fun (x : Int × Int) => match x with | (v, k) => decide (k = g ∧ v ≠ nd))
      = (fun a : Int × Int => decide (a.2 = g ∧ a.1 ≠ nd)) := by
    funext ⟨v, k⟩; rfl
  rw [h2, this]

/-! ### the inner loop: `for pixv in pix` -/

variable {β : Type}

/-- after `q` cells of `pix`: `n` counts the valid ones, `avg` is their sum (once there is one) -/
structure MgInner (F : FloatOps β) (nd : Int) (sel : List Int) (q : ℕ) (n : Int) (avg : β) : Prop where
  cnt : n = vcnt nd (sel.take q)
  acc : n ≠ 0 → avg = F.lit (vsum nd (sel.take q))

theorem MgInner.init (F : FloatOps β) (nd : Int) (sel : List Int) (avg : β) :
    MgInner F nd sel 0 0 avg :=
  ⟨by simp [vcnt], fun h => absurd rfl h⟩

theorem take_succ_lv (sel : List Int) (q : ℕ) (h : q < sel.length) :
    sel.take (q + 1) = sel.take q ++ [lv sel q] := by
  rw [List.take_add_one, List.getElem?_eq_getElem h, lv_eq_getElem sel q h]
  rfl

/-- a nodata cell: `continue` -/
theorem MgInner.skip {F : FloatOps β} {nd : Int} {sel : List Int} {q : ℕ} {n : Int} {avg : β}
    (h : MgInner F nd sel q n avg) (hq : q < sel.length) (hv : lv sel q = nd) :
    MgInner F nd sel (q + 1) n avg := by
  refine ⟨?_, fun hn => ?_⟩
  · rw [take_succ_lv sel q hq, vcnt_snoc, if_pos hv]; exact h.cnt
  · rw [take_succ_lv sel q hq, vsum_snoc, if_pos hv]; exact h.acc hn

/-- the first valid cell: `avg = pixv` -/
theorem MgInner.first {F : FloatOps β} {nd : Int} {sel : List Int} {q : ℕ} {n : Int} {avg : β}
    (h : MgInner F nd sel q n avg) (hq : q < sel.length) (hv : ¬ lv sel q = nd) (hn : n = 0) :
    MgInner F nd sel (q + 1) (n + 1) (F.lit (lv sel q)) := by
  have h0 : vcnt nd (sel.take q) = 0 := by have := h.cnt; omega
  have hs : vsum nd (sel.take q) = 0 := by
    unfold vcnt at h0; unfold vsum
    rw [List.length_eq_zero_iff.mp h0]; rfl
  refine ⟨?_, fun _ => ?_⟩
  · rw [take_succ_lv sel q hq, vcnt_snoc, if_neg hv, h.cnt]; simp
  · rw [take_succ_lv sel q hq, vsum_snoc, if_neg hv, hs, Int.zero_add]

/-! ### the outer loop: `for grp in range(num_groups)` -/

/-- the value the cells of group `k` receive -/
def mgVal (F : FloatOps β) (xx groups : List Int) (nd : Int) (k : Int) : β :=
  if (grpStats xx groups nd k).2 = 0 then F.lit nd
  else F.div (F.lit (grpStats xx groups nd k).1) (F.lit ((grpStats xx groups nd k).2 : ℕ))

/-- the buffer after the groups `0 .. p-1` -/
def mgAfter (F : FloatOps β) (xx groups : List Int) (nd : Int) (yy0 : List β) (p : ℕ) : List β :=
  List.zipWith (fun k y => if 0 ≤ k ∧ k < (p : Int) then mgVal F xx groups nd k else y) groups yy0

theorem mgAfter_zero (F : FloatOps β) (xx groups : List Int) (nd : Int) (yy0 : List β)
    (h : groups.length = yy0.length) : mgAfter F xx groups nd yy0 0 = yy0 := by
  unfold mgAfter
  apply List.ext_getElem (by simp [h])
  intro j h1 h2
  simp only [List.getElem_zipWith]
  rw [if_neg (by omega)]

/-- exit of the inner loop and the masked store `yy[grp_ix] = avg` -/
theorem mgAfter_step {F : FloatOps β} {xx groups : List Int} {nd : Int} {yy0 : List β} {p : ℕ}
    {yy : Array β} {n : Int} {avg v : β} (hy : yy.toList = mgAfter F xx groups nd yy0 p)
    (hl : groups.length = yy0.length)
    (hI : MgInner F nd (gsel xx groups (p : Int)) (gsel xx groups (p : Int)).length n avg)
    (hv : v = if n = 0 then F.lit nd else F.div avg (F.lit n)) :
    (npMaskSet yy (npEqMask groups.toArray (p : Int)) v).toList
      = mgAfter F xx groups nd yy0 (p + 1) := by
  have hsz : groups.length = yy.size := by
    have := congrArg List.length hy
    simp only [Array.length_toList, mgAfter, List.length_zipWith] at this
    omega
  have hval : v = mgVal F xx groups nd (p : Int) := by
    rw [hv, mgVal, grpStats_eq]
    have hc := hI.cnt
    rw [List.take_length] at hc
    by_cases hn : n = 0
    · rw [if_pos hn, if_pos (by simp only; omega)]
    · rw [if_neg hn, if_neg (by simp only; omega), hI.acc hn, List.take_length, hc]
  rw [npMaskSet_eqMask_toList yy groups _ v hsz, hy]
  unfold mgAfter
  apply List.ext_getElem (by simp)
  intro j h1 h2
  simp only [List.getElem_zipWith]
  by_cases hj : groups[j]'(by simp at h1; omega) = (p : Int)
  · rw [if_pos hj, if_pos (by omega), hj, hval]
  · rw [if_neg hj]
    by_cases hk : 0 ≤ groups[j]'(by simp at h1; omega) ∧ groups[j]'(by simp at h1; omega) < (p : Int)
    · rw [if_pos hk, if_pos (by omega)]
    · rw [if_neg hk, if_neg (by push_cast; omega)]

/-- the model, cell by cell -/
theorem mgAfter_final (F : FloatOps β) (xx groups : List Int) (nd : Int) (yy0 : List β) (p : ℕ) :
    mgAfter F xx groups nd yy0 p
      = List.zipWith (fun (o : Option (Int × Nat)) (y : β) =>
          o.elim y fun sc => F.quot (F.lit nd) sc.1 sc.2)
        (meanGrp xx groups p nd) yy0 := by
  unfold mgAfter meanGrp
  rw [List.zipWith_map_left]
  congr 1
  funext k y
  by_cases hk : 0 ≤ k ∧ k < (p : Int)
  · simp only [if_pos hk, mgVal, Option.elim, FloatOps.quot]
  · simp only [if_neg hk, Option.elim]

end Hdc.GenKMeanGrp
