import Hdc.Lemmas.GenKMeanGrp
import Hdc.Model.RoundAcc
import Hdc.Lemmas.RoundFloatOps
/-
The step `avg += pixv` of `Gen.Kernels.mean_grp` (invariant `MgInner` of Hdc/Lemmas/GenKMeanGrp.lean) under a BOUNDED
exactness of the floating addition: the step needs that the sum of the absolute values of the valid cells of the group stays
within the range `B`.
-/
namespace Hdc.GenKMeanGrp
open Hdc Hdc.PyNpT Hdc.GenKernels

/-- sum of the absolute values of the valid cells of `l` -/
def vasum (nd : Int) (l : List Int) : ℕ := ((l.filter fun v => decide (v ≠ nd)).map Int.natAbs).sum

theorem vasum_snoc (nd : Int) (l : List Int) (a : Int) :
    vasum nd (l ++ [a]) = if a = nd then vasum nd l else vasum nd l + a.natAbs := by
  unfold vasum
  by_cases h : a = nd <;> simp [List.filter_append, h]

theorem vasum_take_le (nd : Int) (l : List Int) (q : ℕ) : vasum nd (l.take q) ≤ vasum nd l :=
  sum_map_filter_take_le _ _ l q

/-- every partial sum is bounded by the sum of the absolute values -/
theorem natAbs_vsum_le (nd : Int) (l : List Int) : (vsum nd l).natAbs ≤ vasum nd l :=
  natAbs_sum_le _

/-- the bound of the theorems, on the cells of `xx[groups == g]` -/
theorem grpAbsSum_eq (xx groups : List Int) (nd g : Int) :
    grpAbsSum xx groups nd g = vasum nd (gsel xx groups g) := by
  unfold grpAbsSum vasum gsel
  rw [List.filter_map, List.filter_filter, List.map_map]
  have h2 : (fun (x : Int × Int) => match x with | (v, k) => decide (k = g ∧ v ≠ nd))
      = (fun a => ((fun v => decide (v ≠ nd)) ∘ fun p : Int × Int => p.1) a && decide (a.2 = g)) := by
    funext ⟨v, k⟩; simp [Bool.and_comm]
  rw [h2]
  rfl

variable {β : Type}

/-- a further valid cell: `avg += pixv`, exact because everything stays within the range `B` of `hadd` -/
theorem MgInner.moreB {F : FloatOps β} {B : ℕ} {nd : Int} {sel : List Int} {q : ℕ} {n : Int} {avg : β}
    (hadd : ∀ a b : Int, a.natAbs ≤ B → b.natAbs ≤ B → (a + b).natAbs ≤ B →
      F.add (F.lit a) (F.lit b) = F.lit (a + b))
    (hB : vasum nd sel ≤ B)
    (h : MgInner F nd sel q n avg) (hq : q < sel.length) (hv : ¬ lv sel q = nd) (hn : ¬ n = 0) :
    MgInner F nd sel (q + 1) (n + 1) (F.add avg (F.lit (lv sel q))) := by
  have h1 : vasum nd (sel.take (q + 1)) ≤ B := Nat.le_trans (vasum_take_le nd sel (q + 1)) hB
  have h2 := natAbs_vsum_le nd (sel.take q)
  have h3 := natAbs_vsum_le nd (sel.take (q + 1))
  rw [take_succ_lv sel q hq, vasum_snoc, if_neg hv] at h1
  rw [take_succ_lv sel q hq, vsum_snoc, if_neg hv, vasum_snoc, if_neg hv] at h3
  refine ⟨?_, fun _ => ?_⟩
  · rw [take_succ_lv sel q hq, vcnt_snoc, if_neg hv, h.cnt]; simp
  · rw [take_succ_lv sel q hq, vsum_snoc, if_neg hv, h.acc hn,
      hadd _ _ (by omega) (by omega) (by omega)]

end Hdc.GenKMeanGrp
