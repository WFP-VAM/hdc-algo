import Hdc.Gen.KernelsBase
import Hdc.Lemmas.ArrCommon
/-
Generic lemmas for the refinement proofs "generated translation of a loop kernel = hand model"
(Hdc/Props/GenKAC.lean, GenKLroo.lean, GenKMk.lean, GenKRS*.lean): `rd` / `wr` / `pyRange` / `whereEq` / `pySlice` of `Hdc.Gen.Kernels`
(Python index semantics on `Array Int`) in terms of ℕ-indexed reads `gv a j`.

Nothing in this file mentions a generated kernel.  `ix` and `pyRange` are written out again in `Hdc.Gen.Ws2d` and
`Hdc.Gen.NumKernels`; Hdc/Lemmas/Ws2dGen.lean and Hdc/Lemmas/GenNum.lean take their lemmas, and the tactic `py_ranges`,
from here.  The tactic `py_name` is the one of Hdc/Lemmas/ArrCommon.lean.
-/
namespace Hdc.GenKernels
open Hdc.Gen.Kernels

/-- an integer array read as a function (0 outside) -/
def gv (a : Array Int) (j : ℕ) : Int := a.getD j 0

/-- a list read as a function (0 outside) -/
def lv (l : List Int) (j : ℕ) : Int := l.getD j 0

theorem ix_of_eq (n : ℕ) (i : ℤ) (j : ℕ) (h : i = (j : ℤ)) : ix n i = j := by
  subst h
  have : ¬ ((j : ℤ) < 0) := by omega
  simp [ix, this]

theorem rd_of_eq (a : Array Int) (i : ℤ) (j : ℕ) (h : i = (j : ℤ)) : rd a i = gv a j := by
  simp only [rd, gv, ix_of_eq a.size i j h]

@[simp] theorem size_wr (a : Array Int) (i : ℤ) (v : Int) : (wr a i v).size = a.size := by
  simp [wr]

theorem gv_wr_self (a : Array Int) (i : ℤ) (v : Int) (j : ℕ) (h : i = (j : ℤ)) (hj : j < a.size) :
    gv (wr a i v) j = v := by
  simp only [wr, ix_of_eq a.size i j h, gv]
  simp [Array.getElem?_setIfInBounds_self_of_lt hj]

theorem gv_wr_ne (a : Array Int) (i : ℤ) (v : Int) (j : ℕ) (hi : 0 ≤ i) (h : i ≠ (j : ℤ)) :
    gv (wr a i v) j = gv a j := by
  simp only [wr, ix_of_eq a.size i i.toNat (by omega), gv]
  have : i.toNat ≠ j := by omega
  simp [Array.getElem?_setIfInBounds_ne this]

theorem gv_toArray (l : List Int) (j : ℕ) : gv l.toArray j = lv l j := by
  simp [gv, lv]

theorem lv_eq_getElem (l : List Int) (j : ℕ) (h : j < l.length) : lv l j = l[j] := by
  simp [lv, h]

/-- `a` is `a0` with cell `k` overwritten by `v` -/
structure Upd (a a0 : Array Int) (k : ℕ) (v : Int) : Prop where
  size : a.size = a0.size
  self : gv a k = v
  other : ∀ j, j ≠ k → gv a j = gv a0 j

/-- the effect of one Python assignment `a[i] = v` with `0 ≤ i < len(a)` -/
theorem wr_upd {a a0 : Array Int} {i : ℤ} {v : Int} (ha : a = wr a0 i v) (k : ℕ)
    (hi : i = (k : ℤ)) (hk : k < a0.size) : Upd a a0 k v := by
  subst ha
  exact ⟨size_wr _ _ _, gv_wr_self _ _ _ _ hi hk,
    fun j hj => gv_wr_ne _ _ _ _ (by omega) (by omega)⟩

theorem toList_eq_of_gv (z : Array Int) (l : List Int) (hs : z.size = l.length)
    (h : ∀ j < l.length, gv z j = lv l j) : z.toList = l := by
  apply List.ext_getElem (by simpa using hs)
  intro j h1 h2
  have := h j h2
  have h3 : j < z.size := by simpa using h1
  simp only [gv, lv, Array.getD_eq_getD_getElem?, Array.getElem?_eq_getElem h3, Option.getD_some,
    List.getD_eq_getElem?_getD, List.getElem?_eq_getElem h2] at this
  simpa using this

/-! ### `range(a, b)` -/

@[simp] theorem pyRange_length (a b : ℤ) : (pyRange a b).length = (b - a).toNat := by
  simp [pyRange]

/-- the current element of `for i in range(a, b)` after `pref` iterations -/
theorem pyRange_split (a b : ℤ) (pref suff : List ℤ) (cur : ℤ)
    (h : pyRange a b = pref ++ cur :: suff) :
    cur = a + (pref.length : ℤ) ∧ a + (pref.length : ℤ) < b := by
  obtain ⟨hlt, hget⟩ := Hdc.Ws2dGen.split_getElem _ _ _ _ h
  rw [pyRange_length] at hlt
  refine ⟨?_, by omega⟩
  rw [← hget]
  simp [pyRange]



/-- the loop variable of `for i in range(a, b)` -/
theorem pyRange_mem {a b cur : ℤ} {pref suff : List ℤ} (h : pyRange a b = pref ++ cur :: suff) :
    a ≤ cur ∧ cur < b := by
  obtain ⟨h1, h2⟩ := pyRange_split a b pref suff cur h
  omega

theorem rd_nonneg (a : Array Int) (i : ℤ) (h : 0 ≤ i) : rd a i = gv a i.toNat :=
  rd_of_eq a i i.toNat (by omega)

open Lean Elab Tactic Meta in
/-- `py_ranges`: for every hypothesis `h : pyRange a b = pref ++ cur :: suff` (the position of a
    `for … in range(a, b)` loop, as the verification-condition generator records it) add the fact
    `cur = a + pref.length ∧ a + pref.length < b` to the context.  The hypothesis is matched up to unfolding, so the
    `pyRange` of `Hdc.Gen.NumKernels` and `Hdc.Gen.Ws2d` are found as well. -/
elab "py_ranges" : tactic => withMainContext do
  let lctx ← getLCtx
  let mut facts : Array Expr := #[]
  for decl in lctx do
    if decl.isImplementationDetail then continue
    try
      let e ← mkAppOptM ``Hdc.GenKernels.pyRange_split
        #[none, none, none, none, none, some decl.toExpr]
      facts := facts.push e
    catch _ => pure ()
  for e in facts do
    liftMetaTactic fun g => do
      let t ← inferType e
      let g ← g.assert `hrange t e
      let (_, g) ← g.intro1P
      return [g]

end Hdc.GenKernels
