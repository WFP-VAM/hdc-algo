import Hdc.Lemmas.PyNpT
import Hdc.Model.Stats
/-
Loop invariant for `Gen.Kernels.autocorr_sums` against the model `Hdc.acAccum` (at `Int`), and the two
slices `data[:-1]`, `data[1:]` of the source.
-/
namespace Hdc.GenKernels
open Hdc Hdc.Gen.Kernels

/-! ### `data[:-1]` and `data[1:]` -/

/-- `data[:-1]` is `dropLast` (any length, including 0) -/
theorem pySlice_init (l : List Int) : pySlice l.toArray 0 (-1) = l.dropLast.toArray :=
  Hdc.PyNpT.pySliceG_init l

/-- `data[1:]` is `tail` (any length, including 0) -/
theorem pySlice_tail (l : List Int) : pySlice l.toArray 1 (l.length : ℤ) = l.tail.toArray :=
  Hdc.PyNpT.pySliceG_tail l

theorem size_pySlice_init (l : List Int) : (pySlice l.toArray 0 (-1)).size = l.length - 1 := by
  rw [pySlice_init, List.size_toArray, List.length_dropLast]

theorem gv_pySlice_init (l : List Int) (j : ℕ) (h : j + 1 < l.length) :
    gv (pySlice l.toArray 0 (-1)) j = lv l j := by
  rw [pySlice_init, gv_toArray, lv, lv, List.getD_eq_getElem?_getD, List.getD_eq_getElem?_getD,
    List.dropLast_eq_take, List.getElem?_take_of_lt (by omega)]

theorem gv_pySlice_tail (l : List Int) (j : ℕ) :
    gv (pySlice l.toArray 1 (l.length : ℤ)) j = lv l (j + 1) := by
  rw [pySlice_tail, gv_toArray]
  cases l <;> simp [lv]

/-! ### the loop -/

/-- the model's input: `none` = nodata cell -/
def acOpt (data : List Int) (nodata : Int) : List (Option Int) :=
  data.map fun v => if v = nodata then none else some v

abbrev Tup10 := ℤ × ℤ × ℤ × ℤ × ℤ × ℤ × ℤ × ℤ × ℤ × ℤ

/-- the accumulators in the order of the loop state: `Sx_, Sy_, Sxy, nxy, Sx, Sxx, nx, Sy, Syy, ny` -/
def acTuple (S : ACSums Int) : Tup10 :=
  (S.sx_, S.sy_, S.sxy, (S.nxy : ℤ), S.sx, S.sxx, (S.nx : ℤ), S.sy, S.syy, (S.ny : ℤ))

/-- the accumulators in the order of the `return` statement -/
def acResult (S : ACSums Int) : Tup10 :=
  (S.sxy, S.sx_, S.sy_, (S.nxy : ℤ), S.sx, S.sxx, (S.nx : ℤ), S.sy, S.syy, (S.ny : ℤ))

/-- the effect of one iteration on the accumulators, cells `x = data[i]`, `y = data[i+1]` -/
def acNext (nodata x y : ℤ) (t : Tup10) : Tup10 :=
  let sx_ := t.1; let sy_ := t.2.1; let sxy := t.2.2.1; let nxy := t.2.2.2.1
  let sx := t.2.2.2.2.1; let sxx := t.2.2.2.2.2.1; let nx := t.2.2.2.2.2.2.1
  let sy := t.2.2.2.2.2.2.2.1; let syy := t.2.2.2.2.2.2.2.2.1; let ny := t.2.2.2.2.2.2.2.2.2
    (if x ≠ nodata ∧ y ≠ nodata then sx_ + x else sx_,
     if x ≠ nodata ∧ y ≠ nodata then sy_ + y else sy_,
     if x ≠ nodata ∧ y ≠ nodata then sxy + x * y else sxy,
     if x ≠ nodata ∧ y ≠ nodata then nxy + 1 else nxy,
     if x ≠ nodata then sx + x else sx,
     if x ≠ nodata then sxx + x * x else sxx,
     if x ≠ nodata then nx + 1 else nx,
     if y ≠ nodata then sy + y else sy,
     if y ≠ nodata then syy + y * y else syy,
     if y ≠ nodata then ny + 1 else ny)

/-- after `p` iterations: the model, continued from cell `p` with the current accumulators, returns
    its final accumulators -/
def AcInv (data : List Int) (nodata : Int) (p : ℕ) (t : Tup10) : Prop :=
  ∃ S : ACSums Int, t = acTuple S ∧
    acAccum ((acOpt data nodata).drop p) S = acAccum (acOpt data nodata) ACSums.zero

theorem AcInv.init (data : List Int) (nodata : Int) :
    AcInv data nodata 0 (0, 0, 0, 0, 0, 0, 0, 0, 0, 0) :=
  ⟨ACSums.zero, by simp [acTuple, ACSums.zero, nat], rfl⟩

theorem acAccum_cons2 (a b : Option Int) (rest : List (Option Int)) (s : ACSums Int) :
    acAccum (a :: b :: rest) s = acAccum (b :: rest)
      (let s1 := match a with
        | some x => { s with sx := s.sx + x, sxx := s.sxx + x * x, nx := s.nx + 1 }
        | none => s
      let s2 := match b with
        | some y => { s1 with sy := s1.sy + y, syy := s1.syy + y * y, ny := s1.ny + 1 }
        | none => s1
      match a, b with
        | some x, some y =>
          { s2 with sx_ := s2.sx_ + x, sy_ := s2.sy_ + y, sxy := s2.sxy + x * y, nxy := s2.nxy + 1 }
        | _, _ => s2) := by
  cases a <;> cases b <;> simp only [acAccum]

theorem AcInv.step {data : List Int} {nodata : Int} {p : ℕ} {t t' : Tup10}
    (h : AcInv data nodata p t) (hp : p + 1 < data.length) {j0 j1 : ℕ} (hj0 : j0 = p)
    (hj1 : j1 = p + 1) {x y : ℤ}
    (hx : x = lv data j0) (hy : y = lv data j1) (ht : t' = acNext nodata x y t) :
    AcInv data nodata (p + 1) t' := by
  subst hj1; subst j0
  obtain ⟨S, rfl, hS⟩ := h
  have hlen : (acOpt data nodata).length = data.length := by simp [acOpt]
  have hd1 : (acOpt data nodata).drop p
      = (if x = nodata then none else some x) :: (acOpt data nodata).drop (p + 1) := by
    rw [List.drop_eq_getElem_cons (by omega)]
    simp [acOpt, hx, lv_eq_getElem data p (by omega)]
  have hd2 : (acOpt data nodata).drop (p + 1)
      = (if y = nodata then none else some y) :: (acOpt data nodata).drop (p + 1 + 1) := by
    rw [List.drop_eq_getElem_cons (by omega)]
    simp [acOpt, hy, lv_eq_getElem data (p + 1) (by omega)]
  rw [hd1, hd2, acAccum_cons2, ← hd2] at hS
  refine ⟨_, ?_, hS⟩
  rw [ht]
  by_cases h1 : x = nodata <;> by_cases h2 : y = nodata <;>
    simp [acNext, acTuple, h1, h2]

theorem AcInv.final {data : List Int} {nodata : Int} {p : ℕ} {t : Tup10}
    (h : AcInv data nodata p t) (hp : data.length ≤ p + 1) :
    ∃ S, t = acTuple S ∧ S = acAccum (acOpt data nodata) ACSums.zero := by
  obtain ⟨S, rfl, hS⟩ := h
  refine ⟨S, rfl, ?_⟩
  have hlen : (acOpt data nodata).length = data.length := by simp [acOpt]
  rw [← hS]
  rcases hl : (acOpt data nodata).drop p with _ | ⟨a, _ | ⟨b, r⟩⟩
  · rw [acAccum]
    simp
  · rw [acAccum]
    simp
  · have := congrArg List.length hl
    simp only [List.length_drop, List.length_cons] at this
    omega

theorem AcInv.cast {data : List Int} {nodata : Int} {p : ℕ} {t t' : Tup10} (h : AcInv data nodata p t)
    (ht : t = t') : AcInv data nodata p t' := ht ▸ h

/-- one iteration as the loop states it: the position comes from the `range`, `x = xx[i]` and `y = yy[i]` from the two
    slices of `data` -/
theorem AcInv.step_range {data : List Int} {nodata : Int} {pref suff : List ℤ} {cur : ℤ} {t : Tup10}
    (h : AcInv data nodata pref.length t)
    (hr : pyRange 0 ((pySlice data.toArray 0 (-1)).size : ℤ) = pref ++ cur :: suff) (x y : ℤ)
    (hx : x = rd (pySlice data.toArray 0 (-1)) cur)
    (hy : y = rd (pySlice data.toArray 1 (data.toArray.size : ℤ)) cur) :
    AcInv data nodata (pref ++ [cur]).length (acNext nodata x y t) := by
  obtain ⟨hc, hlt⟩ := pyRange_split _ _ _ _ _ hr
  rw [size_pySlice_init] at hlt
  have hp : pref.length + 1 < data.length := by omega
  rw [List.length_append, List.length_singleton]
  refine h.step hp rfl rfl ?_ ?_ rfl
  · rw [hx, rd_of_eq _ _ pref.length (by omega), gv_pySlice_init data _ hp]
  · rw [hy, List.size_toArray, rd_of_eq _ _ pref.length (by omega), gv_pySlice_tail data _]

/-- exit of the loop: the `return` permutes the accumulators -/
theorem AcInv.final_range {data : List Int} {nodata : Int} {t : Tup10}
    (h : AcInv data nodata (pyRange 0 ((pySlice data.toArray 0 (-1)).size : ℤ)).length t) :
    (t.2.2.1, t.1, t.2.1, t.2.2.2) = acResult (acAccum (acOpt data nodata) ACSums.zero) := by
  obtain ⟨S, rfl, rfl⟩ := h.final (by rw [pyRange_length, size_pySlice_init]; omega)
  rfl

end Hdc.GenKernels
