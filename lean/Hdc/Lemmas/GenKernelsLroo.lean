import Hdc.Lemmas.GenKernels
import Hdc.Model.Discrete
/-
Loop invariant for `Gen.Kernels.lroo` against the model `Hdc.lroo` (`dotsFrom`, `lrooLoop`, `lrooRaw`).
-/
namespace Hdc.GenKernels
open Hdc Hdc.Gen.Kernels

/-! ### `np.where(data == 1)[0]` -/

theorem dotsFrom_eq (data : List ℕ) (i : ℕ) :
    dotsFrom i data
      = ((List.range data.length).filter fun j => decide (data.getD j 0 = 1)).map (· + i) := by
  induction data generalizing i with
  | nil => simp [dotsFrom]
  | cons a t ih =>
    rw [List.length_cons, List.range_succ_eq_map, List.filter_cons, List.filter_map]
    simp only [dotsFrom, ih (i + 1)]
    have hf : ((fun j => decide ((a :: t).getD j 0 = 1)) ∘ Nat.succ)
        = fun j => decide (t.getD j 0 = 1) := by
      funext j; simp
    have hg : ((fun x => x + i) ∘ Nat.succ) = ((fun x => x + (i + 1)) : ℕ → ℕ) := by
      funext j; simp only [Function.comp]; omega
    rw [hf]
    by_cases ha : a = 1 <;> simp [ha, List.map_map, hg]

theorem whereEq_ofNat (data : List ℕ) :
    whereEq (data.map Int.ofNat).toArray 1 = ((dotsFrom 0 data).map Int.ofNat).toArray := by
  rw [dotsFrom_eq]
  simp only [whereEq, List.size_toArray, List.length_map, Nat.add_zero, List.map_id']
  congr 2
  apply List.filter_congr
  intro j hj
  have hj : j < data.length := List.mem_range.mp hj
  simp only [Array.getD_eq_getD_getElem?, List.getElem?_toArray, List.getElem?_map,
    List.getD_eq_getElem?_getD, List.getElem?_eq_getElem hj, Option.map_some, Option.getD_some,
    decide_eq_decide]
  exact ⟨fun h => by simpa using h, fun h => by simp [h]⟩

/-- the `j`-th dot as the source reads it -/
theorem gv_dots (D : List ℕ) (j : ℕ) (h : j < D.length) :
    gv (D.map Int.ofNat).toArray j = (D.getD j 0 : ℕ) := by
  simp [gv, h]

/-! ### the loop -/

/-- state after `p` iterations: the model's loop, started from dot `p` with the current `cr`, `mr`
    on the remaining dots, returns the final `mr` -/
def LrooInv (data : List ℕ) (p : ℕ) (cr mr : ℤ) : Prop :=
  ∃ c m : ℕ, cr = c ∧ mr = m ∧
    lrooLoop ((dotsFrom 0 data).getD p 0) c m ((dotsFrom 0 data).drop (p + 1)) = lrooRaw data

theorem LrooInv.init (data : List ℕ) : LrooInv data 0 1 0 := by
  refine ⟨1, 0, rfl, rfl, ?_⟩
  unfold lrooRaw
  cases dotsFrom 0 data with
  | nil => rfl
  | cons d ds => simp

theorem drop_succ_getD (D : List ℕ) (p : ℕ) (h : p + 1 < D.length) :
    D.drop (p + 1) = D.getD (p + 1) 0 :: D.drop (p + 2) := by
  rw [List.drop_eq_getElem_cons h]
  simp [h]

/-- one iteration as the loop states it: the position `p + 1` comes from the `range`, the dots `p + 1` and `p` are read
    from `np.where(data == 1)[0]`; `hcr`/`hmr` describe the updates of `cr` and `mr` -/
theorem LrooInv.step_range {data : List ℕ} {pref suff : List ℤ} {cur cr mr cr' mr' d : ℤ}
    (h : LrooInv data pref.length cr mr)
    (hr : pyRange 1 ((whereEq (data.map Int.ofNat).toArray 1).size : ℤ) = pref ++ cur :: suff)
    (hd : d = rd (whereEq (data.map Int.ofNat).toArray 1) cur
      - rd (whereEq (data.map Int.ofNat).toArray 1) (cur - 1))
    (hcr : cr' = if d = 1 then cr + 1 else 1)
    (hmr : mr' = if d = 1 then (if cr + 1 > mr then cr + 1 else mr) else mr) :
    LrooInv data (pref ++ [cur]).length cr' mr' := by
  obtain ⟨hc, hlt⟩ := pyRange_split _ _ _ _ _ hr
  rw [whereEq_ofNat, List.size_toArray, List.length_map] at hlt
  have hp : pref.length + 1 < (dotsFrom 0 data).length := by omega
  rw [whereEq_ofNat, rd_of_eq _ _ (pref.length + 1) (by omega), rd_of_eq _ _ pref.length (by omega),
    gv_dots _ _ hp, gv_dots _ _ (by omega)] at hd
  rw [List.length_append, List.length_singleton]
  obtain ⟨c, m, rfl, rfl, hl⟩ := h
  rw [drop_succ_getD _ _ hp, lrooLoop] at hl
  have hiff : d = 1 ↔ (dotsFrom 0 data).getD (pref.length + 1) 0 - (dotsFrom 0 data).getD pref.length 0 = 1 := by
    omega
  by_cases h1 : d = 1
  · rw [if_pos (hiff.mp h1)] at hl
    rw [if_pos h1] at hcr hmr
    by_cases h2 : c + 1 > m
    · refine ⟨c + 1, c + 1, by rw [hcr]; simp, ?_, by simpa [h2] using hl⟩
      rw [hmr, if_pos (by omega)]; simp
    · refine ⟨c + 1, m, by rw [hcr]; simp, ?_, by simpa [h2] using hl⟩
      rw [hmr, if_neg (by omega)]
  · rw [if_neg (fun h => h1 (hiff.mpr h))] at hl
    rw [if_neg h1] at hcr hmr
    exact ⟨1, m, by rw [hcr]; simp, hmr, hl⟩

/-- exit of the loop -/
theorem LrooInv.final_range {data : List ℕ} {cr mr : ℤ}
    (h : LrooInv data (pyRange 1 ((whereEq (data.map Int.ofNat).toArray 1).size : ℤ)).length cr mr) :
    mr = (lrooRaw data : ℕ) := by
  obtain ⟨c, m, rfl, rfl, hl⟩ := h
  rw [pyRange_length, whereEq_ofNat, List.size_toArray, List.length_map, List.drop_eq_nil_of_le (by omega),
    lrooLoop] at hl
  rw [hl]

/-- the final `if mr > 1` -/
theorem lroo_cast (data : List ℕ) :
    (lroo data : ℤ) = if (lrooRaw data : ℤ) > 1 then (lrooRaw data : ℤ) else 0 := by
  unfold lroo
  by_cases h : lrooRaw data > 1
  · have h' : (lrooRaw data : ℤ) > 1 := by omega
    simp only [h, h', if_true]
  · have h' : ¬ (lrooRaw data : ℤ) > 1 := by omega
    simp only [h, h', if_false, Nat.cast_zero]

/-- `out[0] = v` on a one-cell buffer -/
theorem wr_single (o : Array Int) (ho : o.size = 1) (v : Int) : wr o 0 v = #[v] := by
  apply Array.ext
  · simp [ho]
  · intro i h1 h2
    have : i = 0 := by simp at h2; omega
    subst this
    simp [wr, ix]

end Hdc.GenKernels
