import Hdc.Lemmas.GenKernels
import Hdc.Model.Stats
/-
Loop invariants for the translations of `mk_score` (`Gen.Kernels.mk_score_counts` on `Int`, `Gen.NumKernels.mk_score` over a
field: Hdc/Lemmas/GenNumMkScore.lean) against the model `Hdc.mkCounts`, over any linear order; a list is read `x.getD j 0`.
`above x k q` / `below x k q`: what the inner loop has counted for row `k` after `q` iterations;
`preA x p` / `preB x p`: what the outer loop has counted after `p` rows.
-/
namespace Hdc.GenKernels
open Hdc Hdc.Gen.Kernels

section order
variable {α : Type} [LinearOrder α] [Zero α]

/-- number of `v` among `x[k+1 .. k+1+q)` with `x[k] < v` -/
def above (x : List α) (k q : ℕ) : ℕ :=
  (((x.drop (k + 1)).take q).filter fun v => decide (x.getD k 0 < v)).length

/-- number of `v` among `x[k+1 .. k+1+q)` with `v < x[k]` -/
def below (x : List α) (k q : ℕ) : ℕ :=
  (((x.drop (k + 1)).take q).filter fun v => decide (v < x.getD k 0)).length

def preA (x : List α) : ℕ → ℕ
  | 0 => 0
  | p + 1 => preA x p + above x p (x.length - (p + 1))

def preB (x : List α) : ℕ → ℕ
  | 0 => 0
  | p + 1 => preB x p + below x p (x.length - (p + 1))

@[simp] theorem above_zero (x : List α) (k : ℕ) : above x k 0 = 0 := by simp [above]
@[simp] theorem below_zero (x : List α) (k : ℕ) : below x k 0 = 0 := by simp [below]

omit [LinearOrder α] in
theorem getD_of_lt (x : List α) (j : ℕ) (h : j < x.length) : x.getD j 0 = x[j] := by
  rw [List.getD_eq_getElem?_getD, List.getElem?_eq_getElem h, Option.getD_some]

omit [LinearOrder α] in
theorem take_succ_drop (x : List α) (k q : ℕ) (h : k + 1 + q < x.length) :
    (x.drop (k + 1)).take (q + 1) = (x.drop (k + 1)).take q ++ [x.getD (k + 1 + q) 0] := by
  rw [List.take_add_one, List.getElem?_drop, List.getElem?_eq_getElem h, getD_of_lt x _ h]
  rfl

theorem above_succ (x : List α) (k q : ℕ) (h : k + 1 + q < x.length) :
    above x k (q + 1) = above x k q + if x.getD k 0 < x.getD (k + 1 + q) 0 then 1 else 0 := by
  unfold above
  rw [take_succ_drop x k q h, List.filter_append, List.length_append]
  by_cases hc : x.getD k 0 < x.getD (k + 1 + q) 0 <;>
    simp only [List.filter_cons, List.filter_nil, hc, decide_true, decide_false, if_true, if_false, List.length_cons,
      List.length_nil, Bool.false_eq_true]

theorem below_succ (x : List α) (k q : ℕ) (h : k + 1 + q < x.length) :
    below x k (q + 1) = below x k q + if x.getD (k + 1 + q) 0 < x.getD k 0 then 1 else 0 := by
  unfold below
  rw [take_succ_drop x k q h, List.filter_append, List.length_append]
  by_cases hc : x.getD (k + 1 + q) 0 < x.getD k 0 <;>
    simp only [List.filter_cons, List.filter_nil, hc, decide_true, decide_false, if_true, if_false, List.length_cons,
      List.length_nil, Bool.false_eq_true]

theorem mkCounts_drop (x : List α) (p : ℕ) (h : p < x.length) :
    mkCounts (x.drop p) = ((mkCounts (x.drop (p + 1))).1 + above x p (x.length - (p + 1)),
      (mkCounts (x.drop (p + 1))).2 + below x p (x.length - (p + 1))) := by
  have ht : (x.drop (p + 1)).take (x.length - (p + 1)) = x.drop (p + 1) :=
    List.take_of_length_le (by simp)
  rw [List.drop_eq_getElem_cons h]
  simp only [above, below, ht, getD_of_lt x p h]
  rfl

theorem pre_add_mkCounts (x : List α) (p : ℕ) (h : p ≤ x.length) :
    preA x p + (mkCounts (x.drop p)).1 = (mkCounts x).1 ∧
    preB x p + (mkCounts (x.drop p)).2 = (mkCounts x).2 := by
  induction p with
  | zero => simp [preA, preB]
  | succ p ih =>
    have ih := ih (by omega)
    rw [mkCounts_drop x p (by omega)] at ih
    simp only [preA, preB]
    omega

/-- the outer loop stops one row early: the last row has no partner -/
theorem mkCounts_eq_pre (x : List α) :
    mkCounts x = (preA x (x.length - 1), preB x (x.length - 1)) := by
  have h := pre_add_mkCounts x (x.length - 1) (by omega)
  have h0 : mkCounts (x.drop (x.length - 1)) = (0, 0) := by
    rcases Nat.eq_zero_or_pos x.length with h0 | h0
    · rw [List.length_eq_zero_iff.mp h0]; rfl
    · rw [List.drop_eq_getElem_cons (by omega)]
      have : x.drop (x.length - 1 + 1) = [] := List.drop_eq_nil_of_le (by omega)
      rw [this]; rfl
  rw [h0] at h
  ext <;> simp only <;> omega

/-- one pair of the double loop as the loops state it: the positions `k`, `kk` come from the two `range`s, `a` and `b` are
    the cells the program reads there (`hak`, `hbk`: what its `rd` returns at a non-negative index) -/
theorem above_below_range {x : List α} {pk sk pkk skk : List ℤ} {k kk : ℤ} {a b : α}
    (hk : pyRange 0 ((x.length : ℤ) - 1) = pk ++ k :: sk)
    (hkk : pyRange (k + 1) (x.length : ℤ) = pkk ++ kk :: skk)
    (hak : 0 ≤ k → a = x.getD k.toNat 0) (hbk : 0 ≤ kk → b = x.getD kk.toNat 0) :
    (above x k.toNat (pkk ++ [kk]).length : ℤ) = above x k.toNat pkk.length + (if a < b then 1 else 0) ∧
      (below x k.toNat (pkk ++ [kk]).length : ℤ) = below x k.toNat pkk.length + (if b < a then 1 else 0) := by
  obtain ⟨h1, h2⟩ := pyRange_split _ _ _ _ _ hk
  obtain ⟨h3, h4⟩ := pyRange_split _ _ _ _ _ hkk
  rw [List.length_append, List.length_singleton, hak (by omega), hbk (by omega),
    show kk.toNat = k.toNat + 1 + pkk.length by omega, above_succ x _ _ (by omega), below_succ x _ _ (by omega)]
  constructor <;> split <;> simp

end order

end Hdc.GenKernels
