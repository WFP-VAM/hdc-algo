import Hdc.Lemmas.GenKernels
import Hdc.Model.Discrete
/-
The exact model `Hdc.rollingSum` cell by cell (`rsCell`, `rollingSum_eq`): the window `winPre`, the sum `vsum` and the
number `vcnt` of its valid cells.  The loop invariants of `Gen.Kernels.rolling_sum_r` (Hdc/Lemmas/GenKernelsRSround.lean)
are stated through `winPre` and `vcnt` and use their lemmas; the sum they speak of is the rounded `vsumR` of that file.
The window size is an integer `w` in the source; the model is taken at `w.toNat` (for `w < 0` the
source writes nodata everywhere, as the model does for the window 0).
-/
namespace Hdc.GenKernels
open Hdc Hdc.Gen.Kernels

/-- sum of the valid cells of `l` -/
def vsum (nd : Int) (l : List Int) : Int := (l.filter fun v => v ≠ nd).foldl (· + ·) 0

/-- number of valid cells of `l` -/
def vcnt (nd : Int) (l : List Int) : ℕ := (l.filter fun v => v ≠ nd).length

/-- the first `q` cells of the window that ends at cell `k` -/
def winPre (xx : List Int) (W k q : ℕ) : List Int := (xx.drop (k + 1 - W)).take q

/-- cell `k` of the model -/
def rsCell (xx : List Int) (W : ℕ) (nd : Int) (k : ℕ) : Int :=
  if k + 1 < W then nd
  else if vcnt nd (winPre xx W k W) = 0 then nd else vsum nd (winPre xx W k W)

theorem rollingSum_eq (xx : List Int) (W : ℕ) (nd : Int) :
    rollingSum xx W nd = (List.range xx.length).map (rsCell xx W nd) := rfl

theorem lv_rollingSum (xx : List Int) (W : ℕ) (nd : Int) (k : ℕ) (h : k < xx.length) :
    lv (rollingSum xx W nd) k = rsCell xx W nd k := by
  simp [lv, rollingSum_eq, h]

theorem vsum_snoc (nd : Int) (l : List Int) (a : Int) :
    vsum nd (l ++ [a]) = if a = nd then vsum nd l else vsum nd l + a := by
  unfold vsum
  by_cases h : a = nd <;> simp [List.filter_append, h]

theorem vcnt_snoc (nd : Int) (l : List Int) (a : Int) :
    (vcnt nd (l ++ [a]) : ℤ) = if a = nd then (vcnt nd l : ℤ) else vcnt nd l + 1 := by
  unfold vcnt
  by_cases h : a = nd <;> simp [List.filter_append, h]

@[simp] theorem winPre_zero (xx : List Int) (W k : ℕ) : winPre xx W k 0 = [] := by simp [winPre]

theorem winPre_succ (xx : List Int) (W k q j : ℕ) (hj : j = k + 1 - W + q) (h : j < xx.length) :
    winPre xx W k (q + 1) = winPre xx W k q ++ [lv xx j] := by
  subst hj
  unfold winPre
  rw [List.take_add_one, List.getElem?_drop, List.getElem?_eq_getElem h, lv_eq_getElem xx _ h]
  rfl

theorem gv_map_zero (a : Array Int) (j : ℕ) : gv (a.map fun _ => (0 : Int)) j = 0 := by
  simp only [gv, Array.getD_eq_getD_getElem?, Array.getElem?_map]
  cases a[j]? <;> rfl

end Hdc.GenKernels
