import Hdc.Lemmas.GenKernelsRS
import Hdc.Model.RoundAcc
/-
Loop invariants for `Gen.Kernels.rolling_sum_r` (the translation of `rolling_sum` with every store into the float32
array `yy` wrapped by a rounding `rnd`) against the rounding-aware model `Hdc.rollingSumR`.

The invariants speak of the rounded accumulation `vsumR R` (= `accR R`) of the valid cells; `winPre`, `vcnt` and their
lemmas come from Hdc/Lemmas/GenKernelsRS.lean.  The program without rounding is the case `R = IntRound.ideal`.
The stores of the sentinel are `wr yy ii (rnd nodata)` in the generated program: the lemmas take the stored value `v` with
`v = nd` as a hypothesis, which the refinement theorem discharges from `R.rnd nd = nd`.
-/
namespace Hdc.GenKernels
open Hdc Hdc.Gen.Kernels

/-- rounded accumulation of the valid cells of `l` -/
def vsumR (R : IntRound) (nd : Int) (l : List Int) : Int := accR R (l.filter fun v => v ≠ nd)

/-- cell `k` of the rounding-aware model -/
def rsCellR (R : IntRound) (xx : List Int) (W : ℕ) (nd : Int) (k : ℕ) : Int :=
  if k + 1 < W then nd
  else if vcnt nd (winPre xx W k W) = 0 then nd else vsumR R nd (winPre xx W k W)

theorem rollingSumR_eq (R : IntRound) (xx : List Int) (W : ℕ) (nd : Int) :
    rollingSumR R xx W nd = (List.range xx.length).map (rsCellR R xx W nd) := rfl

theorem lv_rollingSumR (R : IntRound) (xx : List Int) (W : ℕ) (nd : Int) (k : ℕ) (h : k < xx.length) :
    lv (rollingSumR R xx W nd) k = rsCellR R xx W nd k := by
  simp [lv, rollingSumR_eq, h]

/-- without rounding the rounding-aware model is the exact one -/
theorem rollingSumR_ideal (B : Nat) (xx : List Int) (W : ℕ) (nd : Int) :
    rollingSumR (IntRound.ideal B) xx W nd = rollingSum xx W nd := by
  unfold rollingSumR rollingSum
  apply List.map_congr_left
  intro ii _
  simp only [accR_ideal, foldl_add_sum, Int.zero_add]

theorem vsumR_nil (R : IntRound) (nd : Int) : vsumR R nd [] = 0 := rfl

/-- one more cell: skipped when nodata, otherwise added AND ROUNDED -/
theorem vsumR_snoc (R : IntRound) (nd : Int) (l : List Int) (a : Int) :
    vsumR R nd (l ++ [a]) = if a = nd then vsumR R nd l else R.rnd (vsumR R nd l + a) := by
  unfold vsumR
  by_cases h : a = nd
  · simp [List.filter_append, h]
  · rw [if_neg h, List.filter_append, List.filter_cons_of_pos (by simpa using h), List.filter_nil, accR_snoc]

/-! ### invariants -/

/-- outer loop after `p` cells: cells `< p` hold the model, cells `≥ p` are still zero -/
structure RsOuterR (R : IntRound) (xx : List Int) (W : ℕ) (nd : Int) (p : ℕ) (yy : Array Int) : Prop where
  size : yy.size = xx.length
  done : ∀ j < p, gv yy j = rsCellR R xx W nd j
  zero : ∀ j, p ≤ j → gv yy j = 0

/-- inner loop in cell `k` after `q` cells of the window: `yy[k]` holds the rounded accumulation of the valid ones,
    `n_valid` their number -/
structure RsInnerR (R : IntRound) (xx : List Int) (W : ℕ) (nd : Int) (k q : ℕ) (yy : Array Int)
    (nv : Int) : Prop where
  size : yy.size = xx.length
  done : ∀ j < k, gv yy j = rsCellR R xx W nd j
  zero : ∀ j, k < j → gv yy j = 0
  acc : gv yy k = vsumR R nd (winPre xx W k q)
  cnt : nv = vcnt nd (winPre xx W k q)

/-- `yy[:] = 0` (the stored value is `rnd 0 = 0`: 0 is within every exactness range) -/
theorem RsOuterR.init (R : IntRound) (xx : List Int) (W : ℕ) (nd : Int) (yy0 : Array Int)
    (h : yy0.size = xx.length) : RsOuterR R xx W nd 0 (yy0.map fun _ => R.rnd (0 : Int)) := by
  rw [R.exact 0 (Nat.zero_le _)]
  exact ⟨by simpa using h, fun j hj => by omega, fun j _ => gv_map_zero yy0 j⟩

/-- an incomplete window: the cell gets the (stored) sentinel -/
theorem RsOuterR.step_short {R : IntRound} {xx : List Int} {W : ℕ} {nd v : Int} {p : ℕ}
    {yy yy' : Array Int} (h : RsOuterR R xx W nd p yy) (hu : Upd yy' yy p v) (hv : v = nd)
    (hw : p + 1 < W) : RsOuterR R xx W nd (p + 1) yy' := by
  rw [hv] at hu
  refine ⟨hu.size.trans h.size, fun j hj => ?_, fun j hj => ?_⟩
  · by_cases hjp : j = p
    · subst hjp; rw [hu.self, rsCellR, if_pos hw]
    · rw [hu.other j hjp]; exact h.done j (by omega)
  · rw [hu.other j (by omega)]; exact h.zero j (by omega)

/-- entry of the inner loop (the value of `n_valid` is reset to 0) -/
theorem RsOuterR.enter {R : IntRound} {xx : List Int} {W : ℕ} {nd : Int} {p : ℕ} {yy : Array Int}
    (h : RsOuterR R xx W nd p yy) : RsInnerR R xx W nd p 0 yy 0 :=
  ⟨h.size, h.done, fun j hj => h.zero j (by omega),
    by rw [h.zero p (le_refl _), winPre_zero, vsumR_nil], by simp [vcnt]⟩

/-- a nodata cell of the window is skipped -/
theorem RsInnerR.skip {R : IntRound} {xx : List Int} {W : ℕ} {nd : Int} {k q : ℕ} {yy : Array Int}
    {nv : Int} (h : RsInnerR R xx W nd k q yy nv) {j : ℕ} (hj : j = k + 1 - W + q)
    (hlt : j < xx.length) (hnd : lv xx j = nd) : RsInnerR R xx W nd k (q + 1) yy nv := by
  refine ⟨h.size, h.done, h.zero, ?_, ?_⟩
  · rw [winPre_succ xx W k q j hj hlt, vsumR_snoc, if_pos hnd]; exact h.acc
  · rw [winPre_succ xx W k q j hj hlt, vcnt_snoc, if_pos hnd]; exact h.cnt

/-- a valid cell of the window is added: the stored value is `rnd (yy[k] + xx[j])` -/
theorem RsInnerR.add {R : IntRound} {xx : List Int} {W : ℕ} {nd : Int} {k q : ℕ}
    {yy yy' : Array Int} {nv v : Int} (h : RsInnerR R xx W nd k q yy nv) {j : ℕ}
    (hj : j = k + 1 - W + q) (hlt : j < xx.length) (hnd : ¬ lv xx j = nd) (hu : Upd yy' yy k v)
    (hv : v = R.rnd (gv yy k + lv xx j)) : RsInnerR R xx W nd k (q + 1) yy' (nv + 1) := by
  refine ⟨hu.size.trans h.size, fun i hi => ?_, fun i hi => ?_, ?_, ?_⟩
  · rw [hu.other i (by omega)]; exact h.done i hi
  · rw [hu.other i (by omega)]; exact h.zero i hi
  · rw [winPre_succ xx W k q j hj hlt, vsumR_snoc, if_neg hnd, hu.self, hv, h.acc]
  · rw [winPre_succ xx W k q j hj hlt, vcnt_snoc, if_neg hnd, h.cnt]

/-- exit of the inner loop with at least one valid cell: the cell is final -/
theorem RsInnerR.exit_some {R : IntRound} {xx : List Int} {W : ℕ} {nd : Int} {k : ℕ}
    {yy : Array Int} {nv : Int} (h : RsInnerR R xx W nd k W yy nv) (hw : ¬ k + 1 < W)
    (hnv : ¬ nv = 0) : RsOuterR R xx W nd (k + 1) yy := by
  refine ⟨h.size, fun j hj => ?_, fun j hj => h.zero j (by omega)⟩
  by_cases hjk : j = k
  · subst hjk
    have : ¬ vcnt nd (winPre xx W j W) = 0 := fun h0 => hnv (by rw [h.cnt, h0]; rfl)
    rw [h.acc, rsCellR, if_neg hw, if_neg this]
  · exact h.done j (by omega)

/-- exit of the inner loop without a valid cell: the cell gets the (stored) sentinel -/
theorem RsInnerR.exit_none {R : IntRound} {xx : List Int} {W : ℕ} {nd v : Int} {k : ℕ}
    {yy yy' : Array Int} {nv : Int} (h : RsInnerR R xx W nd k W yy nv) (hw : ¬ k + 1 < W)
    (hnv : nv = 0) (hu : Upd yy' yy k v) (hv : v = nd) : RsOuterR R xx W nd (k + 1) yy' := by
  rw [hv] at hu
  refine ⟨hu.size.trans h.size, fun j hj => ?_, fun j hj => ?_⟩
  · by_cases hjk : j = k
    · subst hjk
      have : vcnt nd (winPre xx W j W) = 0 := by
        have := h.cnt; rw [hnv] at this; exact_mod_cast this.symm
      rw [hu.self, rsCellR, if_neg hw, if_pos this]
    · rw [hu.other j hjk]; exact h.done j (by omega)
  · rw [hu.other j (by omega)]; exact h.zero j (by omega)

theorem RsOuterR.toList_eq {R : IntRound} {xx : List Int} {W : ℕ} {nd : Int} {yy : Array Int}
    (h : RsOuterR R xx W nd xx.length yy) : yy.toList = rollingSumR R xx W nd := by
  have hl : (rollingSumR R xx W nd).length = xx.length := by simp [rollingSumR_eq]
  apply toList_eq_of_gv yy _ (by rw [h.size, hl])
  intro j hj
  rw [hl] at hj
  rw [h.done j hj, lv_rollingSumR R xx W nd j hj]

theorem RsOuterR.cast {R : IntRound} {xx : List Int} {W : ℕ} {nd : Int} {p p' : ℕ} {yy : Array Int}
    (h : RsOuterR R xx W nd p yy) (hp : p = p') : RsOuterR R xx W nd p' yy := hp ▸ h

theorem RsInnerR.cast {R : IntRound} {xx : List Int} {W : ℕ} {nd : Int} {k k' q q' : ℕ}
    {yy : Array Int} {nv : Int} (h : RsInnerR R xx W nd k q yy nv) (hk : k = k') (hq : q = q') :
    RsInnerR R xx W nd k' q' yy nv :=
  hk ▸ hq ▸ h

end Hdc.GenKernels
