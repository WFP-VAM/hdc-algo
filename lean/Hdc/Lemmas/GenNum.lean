import Hdc.Gen.NumBase
import Hdc.Lemmas.GenKernels
import Hdc.Lemmas.PyNpT
/-
Generic lemmas for the refinement proofs "generated translation of a floating-point loop kernel =
hand model" (Hdc/Props/GenNum*.lean):

  (a) `rd` / `wr` / `rdI` / `pyRange` of `Hdc.Gen.NumKernels` (Python index semantics) in terms of the
      ℕ-indexed reads `av` (Hdc/Lemmas/ArrCommon.lean) and `gv` (Hdc/Lemmas/GenKernels.lean);
  (b) `range(a, b)`; the tactic `pyn_ranges` is the `py_ranges` of Hdc/Lemmas/GenKernels.lean;
  (c) the loop invariant of `brentq` (over the bare operator classes: no field axiom is used).

Nothing in this file mentions a generated kernel.
-/
namespace Hdc.GenNum
open Hdc.Gen.NumKernels
open Hdc.Ws2dGen (av Upd)
open Hdc.GenKernels (gv)

/-! ### (a) arrays read as functions -/

/- `ix`, `pyRange`, `wr` of `Hdc.Gen.NumKernels` are the functions of `Hdc.Gen.Kernels` / `Hdc.PyNpT` (`wrG`) written out
   again: their lemmas carry over by unfolding. -/

theorem ix_of_eq (n : ℕ) (i : ℤ) (j : ℕ) (h : i = (j : ℤ)) : ix n i = j :=
  Hdc.GenKernels.ix_of_eq n i j h

theorem ix_of_neg (n : ℕ) (i : ℤ) (j : ℕ) (hi : i < 0) (h : i + (n : ℤ) = (j : ℤ)) : ix n i = j := by
  simp only [ix, hi, if_true]
  omega

section field
variable {α : Type} [Field α]

theorem rd_of_eq (a : Array α) (i : ℤ) (j : ℕ) (h : i = (j : ℤ)) : rd a i = av a j := by
  simp only [rd, av, nat, ix_of_eq a.size i j h, Nat.cast_zero]

theorem rd_nonneg (a : Array α) (i : ℤ) (h : 0 ≤ i) : rd a i = av a i.toNat :=
  rd_of_eq a i i.toNat (by omega)

/-- reading at a negative index: Python wrap-around -/
theorem rd_of_neg (a : Array α) (i : ℤ) (j : ℕ) (hi : i < 0) (h : i + (a.size : ℤ) = (j : ℤ)) :
    rd a i = av a j := by
  simp only [rd, av, nat, ix_of_neg a.size i j hi h, Nat.cast_zero]

omit [Field α] in
@[simp] theorem size_wr (a : Array α) (i : ℤ) (v : α) : (wr a i v).size = a.size := by
  simp [wr]

theorem av_wr_self (a : Array α) (i : ℤ) (v : α) (j : ℕ) (h : i = (j : ℤ)) (hj : j < a.size) :
    av (wr a i v) j = v :=
  Hdc.PyNpT.gD_wrG_self a i v 0 j h hj

theorem av_wr_ne (a : Array α) (i : ℤ) (v : α) (j : ℕ) (hi : 0 ≤ i) (h : i ≠ (j : ℤ)) :
    av (wr a i v) j = av a j :=
  Hdc.PyNpT.gD_wrG_ne a i v 0 j hi h

/-- the effect of one Python assignment `a[i] = v` with `0 ≤ i < len(a)` -/
theorem wr_upd {a a0 : Array α} {i : ℤ} {v : α} (ha : a = wr a0 i v) (k : ℕ)
    (hi : i = (k : ℤ)) (hk : k < a0.size) : Upd a a0 k v := by
  rw [ha, wr, ix_of_eq _ _ k hi]
  exact Upd.setIfInBounds a0 k v hk

/-- the effect of one Python assignment `a[i] = v` with `-len(a) ≤ i < 0` -/
theorem wr_upd_neg {a a0 : Array α} {i : ℤ} {v : α} (ha : a = wr a0 i v) (k : ℕ)
    (hi : i < 0) (hik : i + (a0.size : ℤ) = (k : ℤ)) : Upd a a0 k v := by
  rw [ha, wr, ix_of_neg _ _ k hi hik]
  exact Upd.setIfInBounds a0 k v (by omega)

omit [Field α] in
/-- a write outside the array does nothing (Python raises; the translation keeps the array) -/
theorem wr_out (a : Array α) (i : ℤ) (v : α) (hi : (a.size : ℤ) ≤ i) : wr a i v = a :=
  Hdc.PyNpT.wrG_out a i v hi

end field

theorem rdI_of_eq (a : Array Int) (i : ℤ) (j : ℕ) (h : i = (j : ℤ)) : rdI a i = gv a j := by
  simp only [rdI, gv, ix_of_eq a.size i j h]

theorem rdI_nonneg (a : Array Int) (i : ℤ) (h : 0 ≤ i) : rdI a i = gv a i.toNat :=
  rdI_of_eq a i i.toNat (by omega)

/-! ### (b) `range(a, b)` -/

@[simp] theorem pyRange_length (a b : ℤ) : (pyRange a b).length = (b - a).toNat :=
  Hdc.GenKernels.pyRange_length a b

/-- the current element of `for i in range(a, b)` after `pref` iterations -/
theorem pyRange_split (a b : ℤ) (pref suff : List ℤ) (cur : ℤ)
    (h : pyRange a b = pref ++ cur :: suff) :
    cur = a + (pref.length : ℤ) ∧ a + (pref.length : ℤ) < b :=
  Hdc.GenKernels.pyRange_split a b pref suff cur h

/-- `pyn_ranges`: `py_ranges` (Hdc/Lemmas/GenKernels.lean); the `pyRange` of `Hdc.Gen.NumKernels` unfolds to the one of
    `Hdc.Gen.Kernels`, so the same tactic finds the loop positions of both. -/
macro "pyn_ranges" : tactic => `(tactic| py_ranges)

/-! ### (c) Brent's root finder: the model continued from the current state -/

section brent
variable {α : Type} [Add α] [Sub α] [Mul α] [Div α] [Neg α] [NatCast α] [LT α] [DecidableLT α]

/-- after `p` passes the model, continued from the state `s` with the remaining budget, returns
    `final` (the value of the model on the whole input) -/
def BCont (f : α → α) (xtol rtol final : α) (p : ℕ) (s : BState α) : Prop :=
  p ≤ 100 ∧ brentLoop f xtol rtol (100 - p) s = final

theorem BCont.step {f : α → α} {xtol rtol final : α} {p : ℕ} {s s' : BState α}
    (h : BCont f xtol rtol final p s) (hp : p < 100) (hs : brentStep f xtol rtol s = .inr s') :
    BCont f xtol rtol final (p + 1) s' := by
  refine ⟨hp, ?_⟩
  have := h.2
  rw [show 100 - p = (100 - (p + 1)) + 1 by omega, brentLoop, hs] at this
  exact this

theorem BCont.ret {f : α → α} {xtol rtol final : α} {p : ℕ} {s : BState α} {x : α}
    (h : BCont f xtol rtol final p s) (hp : p < 100) (hs : brentStep f xtol rtol s = .inl x) :
    x = final := by
  have := h.2
  rw [show 100 - p = (100 - (p + 1)) + 1 by omega, brentLoop, hs] at this
  exact this

/-- the budget is used up: `return xcur` after the loop -/
theorem BCont.final {f : α → α} {xtol rtol final : α} {p : ℕ} {s : BState α}
    (h : BCont f xtol rtol final p s) (hp : p = 100) : s.xcur = final := by
  have := h.2
  rw [hp, Nat.sub_self, brentLoop] at this
  exact this

end brent

end Hdc.GenNum
