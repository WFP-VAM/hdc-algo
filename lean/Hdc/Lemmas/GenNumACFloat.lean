import Hdc.Lemmas.GenNum
import Hdc.Lemmas.PyNpT
import Hdc.Lemmas.SafeBasic
import Hdc.Model.Stats
import Mathlib.Algebra.Order.Field.Basic
import Mathlib.Algebra.Order.Ring.Rat
/-
Loop invariant for `Gen.NumKernels.autocorr_1d_float` against the model `Hdc.acAccum` / `Hdc.autocorr1d` over an ordered
field: the ten accumulators (the three counters are floating in the source, naturals in the model).
-/
namespace Hdc.GenNumACFloat
open Hdc Hdc.Gen.NumKernels Hdc.PyNpT
open Hdc.Ws2dGen (av)
open Hdc.Ws2d (fnl)

set_option linter.unusedSectionVars false

variable {α : Type} [Field α] [LinearOrder α] [IsStrictOrderedRing α]

/-- the model's input: `none` = a cell that `isnan` reports missing -/
def acOpt (isnan : α → Bool) (data : List α) : List (Option α) :=
  data.map fun v => if isnan v then none else some v

/-- the state tuple of the accumulation loop of `autocorr_1d`: ten accumulators -/
abbrev Tup10 (α : Type) := α × α × α × α × α × α × α × α × α × α

/-- the accumulators in the order of the loop state: `Sxy, Sx_, Sy_, nxy, Sx, Sxx, nx, Sy, Syy, ny` -/
def acTuple (S : ACSums α) : Tup10 α :=
  (S.sxy, S.sx_, S.sy_, (S.nxy : α), S.sx, S.sxx, (S.nx : α), S.sy, S.syy, (S.ny : α))

/-- the effect of one iteration on the accumulators, cells `x = data[i]`, `y = data[i+1]`, with the outcomes
    `xok = not isnan(x)`, `yok = not isnan(y)` of the two tests -/
def acNext (xok yok : Bool) (x y : α) (t : Tup10 α) : Tup10 α :=
  let sxy := t.1; let sx_ := t.2.1; let sy_ := t.2.2.1; let nxy := t.2.2.2.1
  let sx := t.2.2.2.2.1; let sxx := t.2.2.2.2.2.1; let nx := t.2.2.2.2.2.2.1
  let sy := t.2.2.2.2.2.2.2.1; let syy := t.2.2.2.2.2.2.2.2.1; let ny := t.2.2.2.2.2.2.2.2.2
    (if xok = true ∧ yok = true then sxy + x * y else sxy,
     if xok = true ∧ yok = true then sx_ + x else sx_,
     if xok = true ∧ yok = true then sy_ + y else sy_,
     if xok = true ∧ yok = true then nxy + nat 1 else nxy,
     if xok = true then sx + x else sx,
     if xok = true then sxx + x * x else sxx,
     if xok = true then nx + nat 1 else nx,
     if yok = true then sy + y else sy,
     if yok = true then syy + y * y else syy,
     if yok = true then ny + nat 1 else ny)

/-- after `p` iterations: the model, continued from cell `p` with the current accumulators, returns its final ones -/
def AcInv (isnan : α → Bool) (data : List α) (p : ℕ) (t : Tup10 α) : Prop :=
  ∃ S : ACSums α, t = acTuple S ∧
    acAccum ((acOpt isnan data).drop p) S = acAccum (acOpt isnan data) ACSums.zero

theorem AcInv.init (isnan : α → Bool) (data : List α) :
    AcInv isnan data 0 (nat 0, nat 0, nat 0, nat 0, nat 0, nat 0, nat 0, nat 0, nat 0, nat 0) :=
  ⟨ACSums.zero, by simp [acTuple, ACSums.zero, nat], rfl⟩

theorem acAccum_cons2 (a b : Option α) (rest : List (Option α)) (s : ACSums α) :
    acAccum (a :: b :: rest) s = acAccum (b :: rest)
      (let s1 := match a with
        | some x => { s with sx := s.sx + x, sxx := s.sxx + x * x, nx := s.nx + 1 }
        | none => s
      let s2 := match b with
        | some y => { s1 with sy := s1.sy + y, syy := s1.syy + y * y, ny := s1.ny + 1 }
        | none => s1
      match a, b with
        | some x, some y =>
          { s2 with sx_ := s2.sx_ + x, sy_ := s2.sy_ + y, sxy := s2.sxy + x * y, nxy := s2.nxy + 1 }
        | _, _ => s2) := by
  cases a <;> cases b <;> simp only [acAccum]

/-- position `i` of `for i in range(len(data[:-1]))` after `pref` iterations: `i = len(pref)`, and `data[i]`, `data[i + 1]`
    both exist -/
theorem pair_index {γ : Type} {l : List γ} {pref suff : List ℤ} {cur : ℤ}
    (hr : pyRange 0 ((pySliceG l.toArray 0 (-1)).size : ℤ) = pref ++ cur :: suff) :
    cur = (pref.length : ℤ) ∧ pref.length + 1 < l.length := by
  have := GenNum.pyRange_split _ _ _ _ _ hr
  rw [pySliceG_init, List.size_toArray, List.length_dropLast] at this
  omega

/-- one pass of the loop in the form of its verification condition: `x = xx[i]`, `y = yy[i]` at the position `i` after `pref`,
    `xok`, `yok` the outcomes of the two `isnan` tests -/
theorem AcInv.step_range {isnan : α → Bool} {data : List α} {pref suff : List ℤ} {cur : ℤ} {x y : α} {xok yok : Bool}
    {t t' : Tup10 α}
    (hr : pyRange 0 ((pySliceG data.toArray 0 (-1)).size : ℤ) = pref ++ cur :: suff)
    (h : AcInv isnan data pref.length t)
    (hx : x = rd (pySliceG data.toArray 0 (-1)) cur)
    (hy : y = rd (pySliceG data.toArray 1 (data.toArray.size : ℤ)) cur)
    (hxok : xok = !isnan x) (hyok : yok = !isnan y) (ht : t' = acNext xok yok x y t) :
    AcInv isnan data (pref ++ [cur]).length t' := by
  obtain ⟨hc, hp⟩ := pair_index hr
  rw [pySliceG_init, GenNum.rd_of_eq _ _ _ hc, av_toArray, fnl_dropLast _ _ hp] at hx
  rw [pySliceG_tail, GenNum.rd_of_eq _ _ _ hc, av_toArray, fnl_tail] at hy
  rw [List.length_append, List.length_singleton]
  obtain ⟨S, rfl, hS⟩ := h
  have hlen : (acOpt isnan data).length = data.length := by simp [acOpt]
  have hd1 : (acOpt isnan data).drop pref.length
      = (if isnan x then none else some x) :: (acOpt isnan data).drop (pref.length + 1) := by
    rw [List.drop_eq_getElem_cons (by omega)]
    simp [acOpt, hx, fnl_eq_getElem data _ (by omega : pref.length < data.length)]
  have hd2 : (acOpt isnan data).drop (pref.length + 1)
      = (if isnan y then none else some y) :: (acOpt isnan data).drop (pref.length + 1 + 1) := by
    rw [List.drop_eq_getElem_cons (by omega)]
    simp [acOpt, hy, fnl_eq_getElem data _ hp]
  rw [hd1, hd2, acAccum_cons2, ← hd2] at hS
  refine ⟨_, ?_, hS⟩
  rw [ht, hxok, hyok]
  cases isnan x <;> cases isnan y <;> simp [acNext, acTuple, nat]

theorem acAccum_short {β : Type} [Add β] [Mul β] {l : List (Option β)} (h : l.length ≤ 1) (S : ACSums β) :
    acAccum l S = S :=
  match l, h with
  | [], _ => rfl
  | [_], _ => rfl

/-- the tail of the program (the two early `return 0` and the quotient, on the accumulators the loop leaves) computes
    the model -/
theorem autocorr1d_of_final (rsqrt : α → α) (eps : α) {isnan : α → Bool} {data : List α}
    {sxy sx_ sy_ nxy sx sxx nx sy syy ny : α}
    (h : AcInv isnan data (pyRange 0 ((pySliceG data.toArray 0 (-1)).size : ℤ)).length
      (sxy, sx_, sy_, nxy, sx, sxx, nx, sy, syy, ny)) :
    autocorr1d rsqrt eps (acOpt isnan data) =
      if eqv nxy (nat 0) = true then nat 0
      else
        if (decide ((nx * sxx - sx * sx) * nx < eps) || decide ((ny * syy - sy * sy) * ny < eps)) = true then nat 0
        else (nx * ny * sxy - ny * sx * sy_ - nx * sy * sx_ + nxy * sx * sy)
              * rsqrt ((nx * sxx - sx * sx) * nx) * rsqrt ((ny * syy - sy * sy) * ny) := by
  obtain ⟨S, hS, hSeq⟩ := h
  rw [acAccum_short (by
    simp only [List.length_drop, acOpt, List.length_map, GenNum.pyRange_length, pySliceG_init, List.size_toArray,
      List.length_dropLast]
    omega)] at hSeq
  simp only [acTuple, Prod.mk.injEq] at hS
  obtain ⟨rfl, rfl, rfl, rfl, rfl, rfl, rfl, rfl, rfl, rfl⟩ := hS
  -- `nxy == 0` on the floating counter is `s.nxy = 0`: the field has characteristic 0
  simp only [autocorr1d, ← hSeq, Hdc.SafeL.eqv_iff, nat, Nat.cast_zero, Nat.cast_eq_zero, Nat.cast_mul,
    decide_eq_true_eq, Bool.or_eq_true]

end Hdc.GenNumACFloat
