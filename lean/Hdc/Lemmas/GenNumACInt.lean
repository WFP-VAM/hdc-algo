import Hdc.Lemmas.GenNumACFloat
import Hdc.Lemmas.GenKernelsAC
/-
Lemmas for `Gen.NumKernels.autocorr_1d_int` (the whole integer kernel: exact integer accumulators, closing formula over the
carrier): the accumulators of the model over the CAST series are the casts of the integer accumulators, and the closing
formula of the model in terms of the integer accumulators.  The loop invariant is the one of the accumulator loop
(`Hdc.GenKernels.AcInv`, Hdc/Lemmas/GenKernelsAC.lean).
-/
namespace Hdc.GenNumACInt
open Hdc Hdc.GenKernels Hdc.Gen.NumKernels Hdc.PyNpT

variable {α : Type} [Field α] [LinearOrder α] [IsStrictOrderedRing α]

theorem lv_dropLast (l : List Int) (j : ℕ) (h : j + 1 < l.length) : lv l.dropLast j = lv l j := by
  simp only [lv, List.getD_eq_getElem?_getD]
  rw [List.getElem?_dropLast, if_pos (by omega)]

theorem lv_tail (l : List Int) (j : ℕ) : lv l.tail j = lv l (j + 1) := by
  simp only [lv, List.getD_eq_getElem?_getD, List.getElem?_tail]

/-- the model's input for integer data: `none` = nodata cell, a valid cell is cast to the carrier -/
def acOptC (data : List Int) (nodata : Int) : List (Option α) :=
  data.map fun v => if v = nodata then none else some (v : α)

def castS (S : ACSums Int) : ACSums α :=
  ⟨(S.sxy : α), (S.sx_ : α), (S.sy_ : α), S.nxy, (S.sx : α), (S.sxx : α), S.nx, (S.sy : α), (S.syy : α), S.ny⟩

theorem acAccum_cast (l : List (Option Int)) (S : ACSums Int) :
    acAccum (l.map (Option.map fun v : Int => (v : α))) (castS S) = castS (acAccum l S) := by
  induction l generalizing S with
  | nil => simp [acAccum]
  | cons a t ih =>
    cases t with
    | nil => simp [acAccum]
    | cons b r =>
      have := ih
      simp only [List.map_cons] at this ⊢
      rw [Hdc.GenNumACFloat.acAccum_cons2, Hdc.GenKernels.acAccum_cons2, ← this]
      congr 1
      cases a <;> cases b <;> simp [castS]

/-- the model on the cast series, from the INTEGER accumulators of the source -/
theorem acAccum_acOptC (data : List Int) (nodata : Int) :
    acAccum (acOptC data nodata : List (Option α)) ACSums.zero
      = castS (acAccum (acOpt data nodata) ACSums.zero) := by
  have h0 : (castS ACSums.zero : ACSums α) = ACSums.zero := by simp [castS, ACSums.zero, nat]
  have hl : (acOptC data nodata : List (Option α)) = (acOpt data nodata).map (Option.map fun v : Int => (v : α)) := by
    simp only [acOptC, acOpt, List.map_map]
    apply List.map_congr_left
    intro v _
    by_cases h : v = nodata <;> simp [h]
  rw [hl, ← h0, acAccum_cast]

/-- the tail of the program (the two early `return 0` and the quotient, on the integer accumulators the loop leaves)
    computes the model -/
theorem autocorr1d_of_final (rsqrt : α → α) (eps : α) {data : List Int} {nodata : Int}
    {sx_ sy_ sxy nxy sx sxx nx sy syy ny : ℤ}
    (h : AcInv data nodata (pyRange 0 ((pySliceG data.toArray 0 (-1)).size : ℤ)).length
      (sx_, sy_, sxy, nxy, sx, sxx, nx, sy, syy, ny)) :
    autocorr1d rsqrt eps (acOptC data nodata) =
      if decide (nxy = 0) = true then nat 0
      else
        if (decide (((nx : α) * sxx - sx * sx) * nx < eps) || decide (((ny : α) * syy - sy * sy) * ny < eps)) = true
        then nat 0
        else (((nx * ny : ℤ) : α) * sxy - (ny : α) * sx * sy_ - (nx : α) * sy * sx_ + (nxy : α) * sx * sy)
              * rsqrt (((nx : α) * sxx - sx * sx) * nx) * rsqrt (((ny : α) * syy - sy * sy) * ny) := by
  obtain ⟨S, hS, hSeq⟩ := h.final (by
    rw [GenNum.pyRange_length, pySliceG_init, List.size_toArray, List.length_dropLast]
    omega)
  simp only [acTuple, Prod.mk.injEq] at hS
  obtain ⟨rfl, rfl, rfl, rfl, rfl, rfl, rfl, rfl, rfl, rfl⟩ := hS
  simp only [autocorr1d, acAccum_acOptC, ← hSeq, castS, nat, Nat.cast_mul, decide_eq_true_eq, Bool.or_eq_true, Int.natCast_eq_zero, Int.cast_natCast, Int.cast_mul]

end Hdc.GenNumACInt
