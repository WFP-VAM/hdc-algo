import Hdc.Lemmas.PyNpX
import Hdc.Lemmas.GenNum
import Hdc.Props.C15
/-
Lemmas for the refinement of the two pixel-loop wrappers of `hdc/algo/ops/autocorr.py` (`autocorr`: (y, x, t) cube,
`autocorr_tyx`: (t, y, x) cube): Hdc/Props/GenNumACYxt.lean, Hdc/Props/GenNumACTyx.lean.  Nothing here mentions a generated file.

  colSeries / rowSeries   the series of one pixel of a flattened cube, read WITHOUT a default value (`l[i]?`): for a list shorter
                          than the shape says the series is shorter than `nt`
  npCol3_eq_colSeries, npRow3_eq_rowSeries   the slices `tyx[:, r, c]`, `x[r, c, :]` of the translation are these series when
                          the length of the buffer is the product of the dimensions
  toYxt                   the (t, y, x) cube transposed to (y, x, t)
  CellInv                 the invariant of the two pixel loops: the first `n` cells (row-major) of `z` hold `f r c`
-/
namespace Hdc.GenNumACW
set_option linter.unusedVariables false
open Hdc Hdc.Gen.NumKernels Hdc.PyNpT Hdc.PyNpX

/-! ### the series of a pixel -/

/-- `tyx[:, r, c]` of the flattened `(nt, nr, nc)` cube (no default value: only the cells that exist) -/
def colSeries {γ : Type} (tyx : List γ) (nt nr nc r c : ℕ) : List γ :=
  (List.range nt).filterMap fun t => tyx[pos3 nr nc t r c]?

/-- `x[r, c, :]` of the flattened `(nr, nc, nt)` cube (no default value: only the cells that exist) -/
def rowSeries {γ : Type} (x : List γ) (nr nc nt r c : ℕ) : List γ :=
  (List.range nt).filterMap fun t => x[pos3 nc nt r c t]?

theorem filterMap_getElem?_range {γ : Type} (l : List γ) (d : γ) (n : ℕ) (p : ℕ → ℕ)
    (h : ∀ t, t < n → p t < l.length) :
    ((List.range n).filterMap fun t => l[p t]?) = (List.range n).map fun t => gD l.toArray (p t) d := by
  rw [← List.filterMap_eq_map]
  apply List.filterMap_congr
  intro t ht
  have ht' : t < n := by simpa using ht
  have := h t ht'
  simp [gD, this]

theorem length_filterMap_getElem? {γ : Type} (l : List γ) (n : ℕ) (p : ℕ → ℕ) (h : ∀ t, t < n → p t < l.length) :
    ((List.range n).filterMap fun t => l[p t]?).length = n := by
  cases n with
  | zero => rfl
  | succ n => rw [filterMap_getElem?_range l (l[p 0]'(h 0 n.succ_pos)) _ _ h, List.length_map, List.length_range]

@[simp] theorem colSeries_length {γ : Type} (tyx : List γ) (nt nr nc r c : ℕ) (hlen : tyx.length = nt * nr * nc)
    (hr : r < nr) (hc : c < nc) : (colSeries tyx nt nr nc r c).length = nt :=
  length_filterMap_getElem? tyx nt _ fun _ ht => hlen ▸ pos3_lt ht hr hc

@[simp] theorem rowSeries_length {γ : Type} (x : List γ) (nr nc nt r c : ℕ) (hlen : x.length = nr * nc * nt)
    (hr : r < nr) (hc : c < nc) : (rowSeries x nr nc nt r c).length = nt :=
  length_filterMap_getElem? x nt _ fun _ ht => hlen ▸ pos3_lt hr hc ht

/-- `tyx[:, r, c]` as the translation reads it -/
theorem npCol3_eq_colSeries {γ : Type} (tyx : List γ) (d : γ) (nt nr nc r c : ℕ) (hlen : tyx.length = nt * nr * nc)
    (hr : r < nr) (hc : c < nc) :
    npCol3 tyx.toArray d (nt : ℤ) (nr : ℤ) (nc : ℤ) (r : ℤ) (c : ℤ) = (colSeries tyx nt nr nc r c).toArray := by
  rw [npCol3_nat, colSeries, filterMap_getElem?_range tyx d nt _ fun _ ht => hlen ▸ pos3_lt ht hr hc]

/-- `x[r, c, :]` as the translation reads it -/
theorem npRow3_eq_rowSeries {γ : Type} (x : List γ) (d : γ) (nr nc nt r c : ℕ) (hlen : x.length = nr * nc * nt)
    (hr : r < nr) (hc : c < nc) :
    npRow3 x.toArray d (nr : ℤ) (nc : ℤ) (nt : ℤ) (r : ℤ) (c : ℤ) = (rowSeries x nr nc nt r c).toArray := by
  rw [rowSeries, filterMap_getElem?_range x d nt _ fun _ ht => hlen ▸ pos3_lt hr hc ht]
  simp only [npRow3, Int.toNat_natCast, flat3_pos3, rdD_natCast]

/-- the series of a pixel depends on `(r, c)` only through the row-major pixel number `r * nc + c` (Numba does no bounds check:
    `x[r, c + nc, :]` is `x[r + 1, c, :]`) -/
theorem rowSeries_alias {γ : Type} (x : List γ) (nr nc nt : ℕ) {r c r' c' : ℕ} (h : r * nc + c = r' * nc + c') :
    rowSeries x nr nc nt r c = rowSeries x nr nc nt r' c' := by
  simp only [rowSeries, pos3, h]

theorem colSeries_alias {γ : Type} (tyx : List γ) (nt nr nc : ℕ) {r c r' c' : ℕ} (h : r * nc + c = r' * nc + c') :
    colSeries tyx nt nr nc r c = colSeries tyx nt nr nc r' c' := by
  have : ∀ t, pos3 nr nc t r c = pos3 nr nc t r' c' := fun t => by
    simp only [pos3, Nat.add_mul, Nat.add_assoc, h]
  simp only [colSeries, this]

/-- the pixel `(i / nc, i % nc)` with the number `i = r * nc + c < nr * nc` -/
theorem pix_of_lt {nr nc r c : ℕ} (h : r * nc + c < nr * nc) :
    (r * nc + c) / nc < nr ∧ (r * nc + c) % nc < nc ∧ (r * nc + c) / nc * nc + (r * nc + c) % nc = r * nc + c := by
  have hnc : 0 < nc := by
    rcases Nat.eq_zero_or_pos nc with h0 | h0
    · subst h0; simp at h
    · exact h0
  exact ⟨by rw [Nat.div_lt_iff_lt_mul hnc]; exact h, Nat.mod_lt _ hnc, Nat.div_add_mod' _ _⟩

/-! ### the (t, y, x) cube transposed to (y, x, t) -/

/-- `np.transpose(tyx, (1, 2, 0))`, flattened: cell `(r, c, t)` is cell `(t, r, c)` of `tyx` -/
def toYxt {γ : Type} (tyx : List γ) (nt nr nc : ℕ) : List γ :=
  (List.range (nr * nc * nt)).filterMap fun i => tyx[pos3 nr nc (i % nt) (i / nt / nc) (i / nt % nc)]?

theorem unflat {nc nt r c t : ℕ} (hc : c < nc) (ht : t < nt) :
    pos3 nc nt r c t % nt = t ∧ pos3 nc nt r c t / nt / nc = r ∧ pos3 nc nt r c t / nt % nc = c := by
  have hnt : 0 < nt := by omega
  have hnc : 0 < nc := by omega
  have h1 : pos3 nc nt r c t / nt = r * nc + c := by
    unfold pos3
    rw [Nat.add_comm, Nat.add_mul_div_right _ _ hnt, Nat.div_eq_of_lt ht, Nat.zero_add]
  refine ⟨?_, ?_, ?_⟩
  · unfold pos3
    rw [Nat.add_comm, Nat.add_mul_mod_self_right, Nat.mod_eq_of_lt ht]
  · rw [h1, Nat.add_comm, Nat.add_mul_div_right _ _ hnc, Nat.div_eq_of_lt hc, Nat.zero_add]
  · rw [h1, Nat.add_comm, Nat.add_mul_mod_self_right, Nat.mod_eq_of_lt hc]

theorem toYxt_idx_lt {nt nr nc i : ℕ} (hi : i < nr * nc * nt) :
    pos3 nr nc (i % nt) (i / nt / nc) (i / nt % nc) < nt * nr * nc := by
  have hnt : 0 < nt := by
    rcases Nat.eq_zero_or_pos nt with h | h
    · subst h; simp at hi
    · exact h
  have h1 : i / nt < nr * nc := by
    rw [Nat.div_lt_iff_lt_mul hnt]; exact hi
  have hnc : 0 < nc := by
    rcases Nat.eq_zero_or_pos nc with h | h
    · subst h; simp at h1
    · exact h
  exact pos3_lt (Nat.mod_lt _ hnt) (by rw [Nat.div_lt_iff_lt_mul hnc]; exact h1) (Nat.mod_lt _ hnc)

theorem toYxt_length {γ : Type} (tyx : List γ) (nt nr nc : ℕ) (hlen : tyx.length = nt * nr * nc) :
    (toYxt tyx nt nr nc).length = nr * nc * nt :=
  length_filterMap_getElem? tyx _ _ fun _ hi => hlen ▸ toYxt_idx_lt hi

theorem rowSeries_toYxt {γ : Type} (tyx : List γ) (nt nr nc r c : ℕ) (hlen : tyx.length = nt * nr * nc)
    (hr : r < nr) (hc : c < nc) :
    rowSeries (toYxt tyx nt nr nc) nr nc nt r c = colSeries tyx nt nr nc r c := by
  unfold rowSeries colSeries
  apply List.filterMap_congr
  intro t ht
  have ht' : t < nt := by simpa using ht
  have hj : pos3 nc nt r c t < nr * nc * nt := pos3_lt hr hc ht'
  have hpos : pos3 nr nc t r c < tyx.length := hlen ▸ pos3_lt ht' hr hc
  unfold toYxt
  rw [filterMap_getElem?_range tyx tyx[pos3 nr nc t r c] _ _ fun i hi => hlen ▸ toYxt_idx_lt hi,
    List.getElem?_map, List.getElem?_range hj]
  obtain ⟨h1, h2, h3⟩ := unflat (r := r) hc ht'
  simp [gD, h1, h2, h3, hpos]

/-! ### the pixel loops -/

/-- after `n` pixels (in the order of the loops: `n = rr * nc + cc`) the first `n` cells of `z` are final -/
structure CellInv {α : Type} (nr nc : ℕ) (f : ℕ → ℕ → α) (n : ℕ) (z : Array α) : Prop where
  sz : z.size = nr * nc
  hv : ∀ r c, r < nr → c < nc → r * nc + c < n → z[r * nc + c]? = some (f r c)

theorem pix_lt {nr nc r c : ℕ} (hr : r < nr) (hc : c < nc) : r * nc + c < nr * nc := by
  have := Nat.mul_le_mul_right nc (show r + 1 ≤ nr from hr)
  rw [Nat.add_mul, Nat.one_mul] at this
  omega

theorem CellInv.cast {α : Type} {nr nc : ℕ} {f : ℕ → ℕ → α} {n m : ℕ} {z : Array α}
    (h : CellInv nr nc f n z) (hnm : n = m) : CellInv nr nc f m z := hnm ▸ h

theorem CellInv.final {α : Type} {nr nc : ℕ} {f : ℕ → ℕ → α} {z : Array α} (h : CellInv nr nc f (nr * nc) z)
    {r c : ℕ} (hr : r < nr) (hc : c < nc) : z[r * nc + c]? = some (f r c) :=
  h.hv r c hr hc (pix_lt hr hc)

/-! ### the same facts in the form of the verification conditions of the two `for … in range(…)` loops

`hr`, `hc` are the positions of the row and the column loop as the verification-condition generator records them. -/

theorem CellInv.init' {α : Type} (nr nc : ℕ) (f : ℕ → ℕ → α) (v : α) :
    CellInv nr nc f (([] : List ℤ).length * nc) (Array.replicate ((nr : ℤ) * (nc : ℤ)).toNat v) := by
  refine ⟨?_, fun r c _ _ h => absurd h (by rw [List.length_nil, Nat.zero_mul]; omega)⟩
  rw [Array.size_replicate, ← Nat.cast_mul, Int.toNat_natCast]

theorem CellInv.row_start {α : Type} {nr nc : ℕ} {f : ℕ → ℕ → α} {z : Array α} {ri : ℤ} {pref suff : List ℤ}
    (hr : pyRange 0 (nr : ℤ) = pref ++ ri :: suff) (h : CellInv nr nc f (pref.length * nc) z) :
    CellInv nr nc f (ri.toNat * nc + ([] : List ℤ).length) z := by
  have : ri.toNat = pref.length := by have := GenNum.pyRange_split _ _ _ _ _ hr; omega
  exact h.cast (by rw [this, List.length_nil, Nat.add_zero])

theorem CellInv.row_end {α : Type} {nr nc : ℕ} {f : ℕ → ℕ → α} {z : Array α} {ri : ℤ} {pref suff : List ℤ}
    (hr : pyRange 0 (nr : ℤ) = pref ++ ri :: suff)
    (h : CellInv nr nc f (ri.toNat * nc + (pyRange 0 (nc : ℤ)).length) z) :
    CellInv nr nc f ((pref ++ [ri]).length * nc) z := by
  have : ri.toNat = pref.length := by have := GenNum.pyRange_split _ _ _ _ _ hr; omega
  exact h.cast (by
    rw [this, GenNum.pyRange_length, Int.sub_zero, Int.toNat_natCast, List.length_append, List.length_singleton, Nat.add_mul,
      Nat.one_mul])

/-- `z[rr, cc] = g rr cc` -/
theorem CellInv.loop_step {α : Type} {nr nc : ℕ} {g : ℤ → ℤ → α} {z : Array α} {ri ci : ℤ} {prefR suffR pref suff : List ℤ}
    (hr : pyRange 0 (nr : ℤ) = prefR ++ ri :: suffR) (hc : pyRange 0 (nc : ℤ) = pref ++ ci :: suff)
    (h : CellInv nr nc (fun r c => g (r : ℤ) (c : ℤ)) (ri.toNat * nc + pref.length) z) :
    CellInv nr nc (fun r c => g (r : ℤ) (c : ℤ)) (ri.toNat * nc + (pref ++ [ci]).length)
      (wr z (flat2 (nr : ℤ) (nc : ℤ) ri ci) (g ri ci)) := by
  have hr' := GenNum.pyRange_split _ _ _ _ _ hr
  have hc' := GenNum.pyRange_split _ _ _ _ _ hc
  obtain rfl : ri = (prefR.length : ℤ) := by omega
  obtain rfl : ci = (pref.length : ℤ) := by omega
  rw [Int.toNat_natCast] at h
  rw [Int.toNat_natCast, List.length_append, List.length_singleton, flat2_nat]
  simp only [wr, Hdc.GenNum.ix_of_eq z.size _ (prefR.length * nc + pref.length) rfl]
  have hlt : prefR.length * nc + pref.length < nr * nc := pix_lt (by omega) (by omega)
  refine ⟨by simp [h.sz], fun r' c' hr' hc' hn => ?_⟩
  by_cases he : r' * nc + c' = prefR.length * nc + pref.length
  · obtain ⟨rfl, rfl⟩ := mixed_inj hc' (by omega) he
    rw [Array.getElem?_setIfInBounds_self_of_lt (by rw [h.sz]; exact hlt)]
  · rw [Array.getElem?_setIfInBounds_ne (Ne.symm he)]
    exact h.hv r' c' hr' hc' (by omega)

theorem CellInv.last {α : Type} {nr nc : ℕ} {f : ℕ → ℕ → α} {z : Array α}
    (h : CellInv nr nc f ((pyRange 0 (nr : ℤ)).length * nc) z) : CellInv nr nc f (nr * nc) z :=
  h.cast (by rw [GenNum.pyRange_length, Int.sub_zero, Int.toNat_natCast])

/-- the degenerate series of C15 (at most one cell, no pair of consecutive valid cells, a scaled variance below `eps`, or
    `0 < eps` and all valid cells equal) have the value 0 -/
theorem autocorr1d_degenerate {α : Type} [Field α] [LinearOrder α] [IsStrictOrderedRing α] (rsqrt : α → α) (eps : α)
    (data : List (Option α))
    (hd : data.length ≤ 1 ∨ C15.nPairs (C15.X data) (C15.Y data) = 0 ∨ C15.EpsBranch eps data ∨
      (0 < eps ∧ ∃ k, ∀ v, some v ∈ data → v = k)) :
    Hdc.autocorr1d rsqrt eps data = 0 := by
  rcases hd with h | h | h | ⟨h0, k, h⟩
  · exact C15.autocorr_degenerate_nopair rsqrt eps data (C15.nPairs_short data h)
  · exact C15.autocorr_degenerate_nopair rsqrt eps data h
  · exact C15.autocorr_degenerate_eps rsqrt eps data h
  · exact C15.autocorr_degenerate_const rsqrt eps h0 data k h

theorem array_eq_of_cells {α : Type} {a b : Array α} {nr nc : ℕ} (ha : a.size = nr * nc) (hb : b.size = nr * nc)
    (h : ∀ r c, r < nr → c < nc → a[r * nc + c]? = b[r * nc + c]?) : a = b := by
  apply Array.ext_getElem?
  intro i
  by_cases hi : i < nr * nc
  · have hnc : 0 < nc := by
      rcases Nat.eq_zero_or_pos nc with h0 | h0
      · subst h0; simp at hi
      · exact h0
    have := h (i / nc) (i % nc) (by rw [Nat.div_lt_iff_lt_mul hnc]; exact hi) (Nat.mod_lt _ hnc)
    rwa [Nat.div_add_mod'] at this
  · rw [Array.getElem?_eq_none (by omega), Array.getElem?_eq_none (by omega)]

end Hdc.GenNumACW
