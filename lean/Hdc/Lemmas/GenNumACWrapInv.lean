import Hdc.Props.C15
import Hdc.Lemmas.GenNumACWrap
import Hdc.Props.GenNumACYxt
/-
Helper lemmas for Hdc/Props/GenNumACWrapInv.lean.

  autocorr_affine_ne     the 1-d affine invariance for EVERY `a ≠ 0` (Hdc/Props/C15.lean states it for `0 < a` only); the
                         homogeneity hypothesis on `rsqrt` is then `rsqrt (a² x) = rsqrt x / |a|` (for `0 < a` it is C15's)
  rsqrtR_homogeneous_abs the hypothesis `hh` is satisfiable for every `a ≠ 0` (real inverse square root)
  optF_encF / optI_renod the two re-encodings (`encF`, `renod`) decode to the same optional series
  rowSeries_map / colSeries_map, mem_of_mem_rowSeries / mem_of_mem_colSeries     slices of a re-encoded cube
-/
namespace Hdc.GenNumACWI
open Hdc Hdc.GenNumACW
open Hdc.GenNumACYxt (optF optI)

variable {α : Type} [Field α] [LinearOrder α] [IsStrictOrderedRing α]

set_option linter.unusedSectionVars false

/-- affine invariance of the 1-d model for every `a ≠ 0` (the sign of `a` is irrelevant for a lag-1 autocorrelation) -/
theorem autocorr_affine_ne (rsqrt : α → α) (eps : α) (data : List (Option α)) (a b : α)
    (ha : a ≠ 0) (hh : ∀ x, 0 < x → rsqrt (a ^ 2 * x) = rsqrt x / |a|)
    (hb : C15.EpsBranch eps (C15.amap a b data) ↔ C15.EpsBranch eps data) :
    autocorr1d rsqrt eps (C15.amap a b data) = autocorr1d rsqrt eps data :=
  StatsAC.autocorr1d_affine rsqrt eps data a b ha hh (by
    unfold C15.EpsBranch at hb
    rwa [(C15.scaledVar_amap a b data).1, (C15.scaledVar_amap a b data).2, C15.scaledVar_eq, C15.scaledVar_eq] at hb)

theorem rowSeries_map {γ δ : Type} (f : γ → δ) (x : List γ) (nr nc nt r c : ℕ) :
    rowSeries (x.map f) nr nc nt r c = (rowSeries x nr nc nt r c).map f := by
  unfold rowSeries
  rw [List.map_filterMap]
  apply List.filterMap_congr
  intro t _
  rw [List.getElem?_map]

theorem colSeries_map {γ δ : Type} (f : γ → δ) (x : List γ) (nt nr nc r c : ℕ) :
    colSeries (x.map f) nt nr nc r c = (colSeries x nt nr nc r c).map f := by
  unfold colSeries
  rw [List.map_filterMap]
  apply List.filterMap_congr
  intro t _
  rw [List.getElem?_map]

theorem mem_of_mem_rowSeries {γ : Type} {x : List γ} {nr nc nt r c : ℕ} {v : γ}
    (h : v ∈ rowSeries x nr nc nt r c) : v ∈ x := by
  unfold rowSeries at h
  obtain ⟨t, _, ht⟩ := List.mem_filterMap.1 h
  exact List.mem_of_getElem? ht

theorem mem_of_mem_colSeries {γ : Type} {x : List γ} {nt nr nc r c : ℕ} {v : γ}
    (h : v ∈ colSeries x nt nr nc r c) : v ∈ x := by
  unfold colSeries at h
  obtain ⟨t, _, ht⟩ := List.mem_filterMap.1 h
  exact List.mem_of_getElem? ht

/-- the float/NaN re-encoding of an integer cell: the nodata value becomes `nan`, every other value is cast -/
def encF (nodata : Int) (nan : α) (v : Int) : α := if v = nodata then nan else (v : α)

/-- another placeholder for the missing cells of an integer series -/
def renod (nodata nodata' : Int) (v : Int) : Int := if v = nodata then nodata' else v

theorem optF_encF (isnan : α → Bool) (nodata : Int) (nan : α) (s : List Int) (hnan : isnan nan = true)
    (hval : ∀ v ∈ s, v ≠ nodata → isnan (v : α) = false) :
    optF isnan (s.map (encF nodata nan)) = optI nodata s := by
  unfold optF optI
  rw [List.map_map]
  apply List.map_congr_left
  intro v hv
  by_cases h : v = nodata
  · simp [encF, h, hnan]
  · simp [encF, h, hval v hv h]

theorem optI_renod (nodata nodata' : Int) (s : List Int) (hfresh : ∀ v ∈ s, v ≠ nodata → v ≠ nodata') :
    (optI nodata' (s.map (renod nodata nodata')) : List (Option α)) = optI nodata s := by
  unfold optI
  rw [List.map_map]
  apply List.map_congr_left
  intro v hv
  by_cases h : v = nodata
  · simp [renod, h]
  · simp [renod, h, hfresh v hv h]

/-- `hh` is satisfiable for every `a ≠ 0`: the real inverse square root -/
theorem rsqrtR_homogeneous_abs (a : ℝ) : ∀ v, 0 < v → C15.rsqrtR (a ^ 2 * v) = C15.rsqrtR v / |a| := by
  intro v _
  unfold C15.rsqrtR
  rw [Real.sqrt_mul (sq_nonneg a), Real.sqrt_sq_eq_abs, mul_inv, div_eq_inv_mul]

end Hdc.GenNumACWI
