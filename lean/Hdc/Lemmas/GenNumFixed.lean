import Hdc.Lemmas.GenNum
import Hdc.Lemmas.SmoothIrls
import Hdc.Props.C01gen
import Hdc.PyNpF
import Mathlib.Data.Nat.Cast.Order.Ring
/-
Lemmas for the refinement proofs "generated translation of ws2dgu.py / ws2dpgu.py = hand model
`Hdc.gu` / `Hdc.pgu`" (Hdc/Props/GenNumGu.lean, GenNumPgu.lean).

The generated programs are compositions of the NumPy combinators of `Hdc/PyNpF.lean`; `PyNpF.*_eq` turns each
combinator into the list operation on `toList`.  This file identifies the resulting list expressions with
the list programs of the models:

  * `weights_eq`, `clean_eq`     `1 - np.array([miss x for x in y])`, `np.where(w == 0, 0.0, y)`
                                  = `weightsOf`, `cleanOf`;
  * `sum_weights`, `one_lt_count` `np.sum(w) > 1`  ⇔  `1 < countValid` (the float count is the cast of the ℕ count;
                                  `Nat.cast` is strictly monotone in an ordered field);
  * `asymW_zip`, `l1dist_zip`     `w * wa` after the two masked assignments, `np.sum(np.abs(znew - z))`
                                  = `asymW`, `l1dist`;
  * `gen_ws2d_list`               the translated `ws2d` on arrays that come from lists = the model (C01gen);
  * `PInv`                        the invariant of the re-weighting loop of ws2dpgu (a `for … break` loop);
  * `fitOrPass`                   what both kernels return, given the fitted curve; its size, and when it is the
                                  model's result.

Nothing in this file mentions the generated kernels (Hdc/Lemmas/GenNumGu.lean, GenNumPgu.lean do).
-/
namespace Hdc.GenNum
open Hdc Hdc.Smooth

set_option linter.unusedSectionVars false

variable {α : Type} [Field α] [LinearOrder α] [IsStrictOrderedRing α]

/-! ### weights, count, cleaned data -/

/-- `1 - np.array([miss x for x in y], dtype=float64)` -/
theorem weights_eq (miss : α → Bool) (y : List α) :
    ((y.map miss).map fun b => if b then (nat 1 : α) else nat 0).map (fun v => nat 1 - v)
      = weightsOf miss y := by
  unfold weightsOf
  rw [List.map_map, List.map_map]
  apply List.map_congr_left
  intro x _
  cases h : miss x <;> simp [nat, h]

/-- `np.sum(w)` is the number of valid cells -/
theorem sum_weights (miss : α → Bool) (y : List α) :
    (weightsOf miss y).foldl (· + ·) (nat 0) = ((countValid miss y : ℕ) : α) := by
  rw [foldl_add_eq, nat_zero, zero_add]
  unfold weightsOf countValid
  induction y with
  | nil => simp
  | cons x xs ih =>
    rw [List.map_cons, List.sum_cons, ih, List.filter_cons]
    cases miss x <;> simp [nat, add_comm]

/-- `n > 1` on the float count ⇔ on the ℕ count -/
theorem one_lt_count (c : ℕ) : (nat 1 : α) < (c : α) ↔ 1 < c := by
  rw [nat_one]; exact Nat.one_lt_cast

/-- `np.where(w == 0, 0.0, y)` -/
theorem clean_eq (miss : α → Bool) (y : List α) :
    List.zipWith (fun c v => if c then (nat 0 : α) else v)
        ((weightsOf miss y).map fun u => eqv u (nat 0)) y = cleanOf miss y := by
  unfold weightsOf cleanOf
  induction y with
  | nil => rfl
  | cons x xs ih =>
    simp only [List.map_cons, List.zipWith_cons_cons, ih]
    congr 1
    have h10 : eqv (nat 1 : α) (nat 0) = false := by
      rw [eqv_eq_false_iff]; simp [nat]
    have h00 : eqv (nat 0 : α) (nat 0) = true := by rw [eqv_iff]
    cases miss x
    · simp only [Bool.false_eq_true, if_false, h10]
    · simp only [if_true, h00]

/-! ### the same three assignments on the arrays of the source -/

theorem npWeights_eq (miss : α → Bool) (y : List α) :
    PyNpF.npZipSA (fun u v => u - v) (nat 1) (PyNpF.npBoolToNum (PyNpF.npComp miss y.toArray))
      = (weightsOf miss y).toArray := by
  rw [PyNpF.npComp_eq, PyNpF.npBoolToNum_eq, PyNpF.npZipSA_eq, List.toList_toArray, List.toList_toArray,
    List.toList_toArray, weights_eq]

theorem one_lt_npSum_weights (miss : α → Bool) (y : List α) :
    nat 1 < PyNpF.npSum (weightsOf miss y).toArray ↔ 1 < countValid miss y := by
  rw [PyNpF.npSum_eq, List.toList_toArray, sum_weights, one_lt_count]

theorem npClean_eq (miss : α → Bool) (y : List α) :
    PyNpF.npWhereSA (PyNpF.npZipAS (fun u v => eqv u v) (weightsOf miss y).toArray (nat 0)) (nat 0) y.toArray
      = (cleanOf miss y).toArray := by
  rw [PyNpF.npZipAS_eq, PyNpF.npWhereSA_eq, List.toList_toArray, List.toList_toArray, List.toList_toArray,
    clean_eq]

/-! ### the translated ws2d -/

omit [LinearOrder α] [IsStrictOrderedRing α] in
theorem gen_ws2d_list (y w : List α) (lam : α) (hw : w.length = y.length) (h3 : 3 ≤ y.length) :
    Gen.Ws2d.ws2d y.toArray lam w.toArray = (Hdc.ws2d y lam w).toArray :=
  Array.toList_inj.1 (C01gen.gen_ws2d_eq_model y w lam hw h3)

/-- `z = ws2d(y, lmda, w); np.round(z, 0, out)` on arrays of one length `≥ 3` -/
theorem round_gen_ws2d_list (rnd : α → α) (y w : List α) (out : Array α) (lam : α)
    (hw : w.length = y.length) (ho : out.size = y.length) (h3 : 3 ≤ y.length) :
    PyNpF.npRoundInto rnd (Gen.Ws2d.ws2d y.toArray lam w.toArray) out
      = ((Hdc.ws2d y lam w).map rnd).toArray := by
  rw [gen_ws2d_list y w lam hw h3,
    PyNpF.npRoundInto_eq _ _ _ (by rw [List.size_toArray, C01.ws2d_length _ _ _ hw, ho]), List.toList_toArray]

omit [LinearOrder α] [IsStrictOrderedRing α] in
/-- `out[:] = y[:]` -/
theorem setAll_list (out : Array α) (y : List α) (h : out.size = y.length) :
    PyNpF.npSetAll out y.toArray = y.toArray :=
  PyNpF.npSetAll_eq _ _ (by simpa using h.symm)

/-! ### the branches of the models -/

theorem gu_some (miss : α → Bool) (y : List α) (lam : α) (h0 : eqv lam (nat 0) = false)
    (hc : 1 < countValid miss y) :
    gu miss y lam = some (ws2d (cleanOf miss y) lam (weightsOf miss y)) := by
  unfold gu; rw [h0]; simp only [Bool.false_eq_true, if_false, hc, if_true]

theorem gu_none_lam (miss : α → Bool) (y : List α) (lam : α) (h0 : eqv lam (nat 0) = true) :
    gu miss y lam = none := by
  unfold gu; rw [h0]; simp only [if_true]

theorem gu_none_count (miss : α → Bool) (y : List α) (lam : α) (hc : ¬ 1 < countValid miss y) :
    gu miss y lam = none := by
  unfold gu; simp only [hc, if_false, ite_self]

theorem pgu_some (miss : α → Bool) (y : List α) (lam p : α) (h0 : eqv lam (nat 0) = false)
    (hc : 1 < countValid miss y) :
    pgu miss y lam p = some (expectile (cleanOf miss y) (weightsOf miss y) lam p) := by
  unfold pgu; rw [h0]; simp only [Bool.false_eq_true, if_false, hc, if_true]

theorem pgu_none_lam (miss : α → Bool) (y : List α) (lam p : α) (h0 : eqv lam (nat 0) = true) :
    pgu miss y lam p = none := by
  unfold pgu; rw [h0]; simp only [if_true]

theorem pgu_none_count (miss : α → Bool) (y : List α) (lam p : α)
    (hc : ¬ 1 < countValid miss y) : pgu miss y lam p = none := by
  unfold pgu; simp only [hc, if_false, ite_self]

/-- two valid cells in a series that does not have exactly two cells: at least three cells -/
theorem three_le_of_count (miss : α → Bool) (y : List α) (hc : 1 < countValid miss y)
    (h2 : y.length ≠ 2) : 3 ≤ y.length := by
  have := countValid_le_length miss y
  omega

/-! ### asymmetric weights and the stopping test -/

/-- `envelope = y > z; wa[envelope] = p; wa[~envelope] = 1 - p; ww = w * wa` -/
theorem asymW_zip (p : α) (w y z : List α) :
    List.zipWith (fun u v => u * v) w
        ((List.zipWith (fun u v => decide (v < u)) y z).map fun m => if m then p else nat 1 - p)
      = asymW p w y z := by
  induction w generalizing y z with
  | nil => cases y <;> cases z <;> simp [asymW]
  | cons a ws ih => cases y <;> cases z <;> simp [asymW, ← ih]

/-- `z < y` and `y > z` are the same mask -/
theorem zipWith_lt_swap (a b : List α) :
    List.zipWith (fun u v => decide (u < v)) a b = List.zipWith (fun u v => decide (v < u)) b a :=
  List.zipWith_comm

/-- `np.sum(np.abs(znew - z))` -/
theorem l1dist_zip (a b : List α) :
    ((List.zipWith (fun u v => u - v) a b).map fun u => absv u).foldl (· + ·) (nat 0)
      = l1dist a b := by
  unfold l1dist
  rw [List.map_zipWith]

/-! ### the re-weighting loop of ws2dpgu -/

/-- Invariant of `for _ in range(N): … break … z[:] = znew[:]` after `k` passes (`k = N` also stands for
    "left by `break`"): the work arrays keep their length, and the model's loop, continued from the current curve
    with the remaining fuel, returns `final` (with no fuel left it returns the curve and `ww` as they are; with
    fuel left it does not look at `ww`). -/
structure PInv (y w : List α) (lam p : α) (N : ℕ) (final : List α × List α) (k : ℕ)
    (z znew wa ww : Array α) : Prop where
  zsz : z.size = y.length
  nsz : znew.size = y.length
  asz : wa.size = y.length
  kle : k ≤ N
  cont : irls y w lam p (N - k) z.toList ww.toList = final

/-- entry of the loop: `z = znew = wa = np.zeros(m)` with `m = y.shape[0]`, any `ww` (a pass with fuel left does
    not look at the weights it is handed) -/
theorem PInv.init (y w : List α) (lam p : α) (N m : ℕ) (hm : m = y.length) (ww : Array α) :
    PInv y w lam p (N + 1) (irls y w lam p (N + 1) (zerosLike y) (zerosLike y)) 0 (Array.replicate m (nat 0))
      (Array.replicate m (nat 0)) (Array.replicate m (nat 0)) ww := by
  subst hm
  refine ⟨Array.size_replicate, Array.size_replicate, Array.size_replicate, Nat.zero_le _, ?_⟩
  rw [Array.toList_replicate, nat_zero, ← zerosLike_eq_replicate]
  rfl

/-- a pass that reproduces the curve: `break` -/
theorem PInv.brk {y w : List α} {lam p : α} {N : ℕ} {final : List α × List α} {k : ℕ}
    {z znew wa ww : Array α} (h : PInv y w lam p N final k z znew wa ww) (hk : k < N)
    (znew' wa' : Array α) (hn : znew'.size = y.length) (ha : wa'.size = y.length)
    (hb : eqv (l1dist (ws2d y lam (asymW p w y z.toList)) z.toList) (nat 0) = true) :
    PInv y w lam p N final N z znew' wa' (asymW p w y z.toList).toArray := by
  have h1 := h.cont
  rw [show N - k = (N - (k + 1)) + 1 by omega, irls_succ, pass, if_pos hb] at h1
  exact ⟨h.zsz, hn, ha, N.le_refl, by rw [Nat.sub_self, irls, ← h1]⟩

/-- a pass that changes the curve: `z[:] = znew[:]` -/
theorem PInv.step {y w : List α} {lam p : α} {N : ℕ} {final : List α × List α} {k : ℕ}
    {z znew wa ww : Array α} (h : PInv y w lam p N final k z znew wa ww) (hk : k < N)
    (hw : w.length = y.length) (wa' : Array α) (ha : wa'.size = y.length)
    (hb : ¬ eqv (l1dist (ws2d y lam (asymW p w y z.toList)) z.toList) (nat 0) = true) :
    PInv y w lam p N final (k + 1) (ws2d y lam (asymW p w y z.toList)).toArray
      (ws2d y lam (asymW p w y z.toList)).toArray wa' (asymW p w y z.toList).toArray := by
  have hlen : (ws2d y lam (asymW p w y z.toList)).length = y.length :=
    C01.ws2d_length _ _ _ (by simp [hw, h.zsz])
  have h1 := h.cont
  rw [show N - k = (N - (k + 1)) + 1 by omega, irls_succ, pass, if_neg hb] at h1
  exact ⟨by simpa using hlen, by simpa using hlen, ha, hk, h1⟩

/-- after the loop: `ww` is what the model's loop returns -/
theorem PInv.final {y w : List α} {lam p : α} {N : ℕ} {final : List α × List α} {k : ℕ}
    {z znew wa ww : Array α} (h : PInv y w lam p N final k z znew wa ww) (hk : k = N) :
    ww = final.2.toArray := by
  have h1 := h.cont
  rw [hk, Nat.sub_self, irls] at h1
  rw [← h1]

/-- the invariant of the loop of ws2dpgu for the cleaned data and validity weights of a series `y`
    (10 passes, as in the model's `expectile`) -/
def PInvM (miss : α → Bool) (y : List α) (lam p : α) (k : ℕ) (z znew wa ww : Array α) : Prop :=
  PInv (cleanOf miss y) (weightsOf miss y) lam p 10
    (irls (cleanOf miss y) (weightsOf miss y) lam p 10 (zerosLike (cleanOf miss y))
      (zerosLike (cleanOf miss y))) k z znew wa ww

/-! ### what the two kernels return -/

/-- what `ws2dgu` and `ws2dpgu` return, `z` being the fitted curve: `np.round(z, 0, out)` if `λ ≠ 0` and more
    than one cell is valid, `out[:] = y[:]` otherwise -/
def fitOrPass (rnd : α → α) (miss : α → Bool) (y : List α) (lam : α) (z out : Array α) : Array α :=
  if eqv lam (nat 0) then PyNpF.npSetAll out y.toArray
  else if 1 < countValid miss y then PyNpF.npRoundInto rnd z out
  else PyNpF.npSetAll out y.toArray

theorem size_fitOrPass (rnd : α → α) (miss : α → Bool) (y : List α) (lam : α) (z out : Array α) :
    (fitOrPass rnd miss y lam z out).size = out.size := by
  unfold fitOrPass
  split_ifs <;> simp only [PyNpF.size_npRoundInto, PyNpF.size_npSetAll]

/-- against a model of the form of `Hdc.gu`, `Hdc.pgu`: equal as soon as the fit, when there is one, is the
    model's curve -/
theorem fitOrPass_eq {rnd : α → α} {miss : α → Bool} {y : List α} {lam : α} {z out : Array α}
    (hout : out.size = y.length) (curve : List α)
    (hz : eqv lam (nat 0) = false → 1 < countValid miss y →
      PyNpF.npRoundInto rnd z out = (curve.map rnd).toArray) :
    fitOrPass rnd miss y lam z out =
      match (if eqv lam (nat 0) then none else if 1 < countValid miss y then some curve else none) with
      | some c => (c.map rnd).toArray
      | none => y.toArray := by
  unfold fitOrPass
  split_ifs with h0 hc
  · exact setAll_list out y hout
  · exact hz (Bool.eq_false_iff.2 h0) hc
  · exact setAll_list out y hout

/-- … and the input when such a model passes it through -/
theorem fitOrPass_none {rnd : α → α} {miss : α → Bool} {y : List α} {lam : α} {z out : Array α}
    (hout : out.size = y.length) (curve : List α)
    (hm : (if eqv lam (nat 0) then none else if 1 < countValid miss y then some curve else none) = none) :
    fitOrPass rnd miss y lam z out = y.toArray := by
  unfold fitOrPass
  split_ifs at hm ⊢
  · exact setAll_list out y hout
  · exact setAll_list out y hout

end Hdc.GenNum
