import Hdc.Lemmas.GenNum
import Hdc.Lemmas.SpiBasic
import Hdc.PyNpS
/-
Lemmas for the refinement proofs "generated translation of brentq / gammafit / gammastd = hand model"
(Hdc/Props/GenNumBrent.lean, GenNumGammafit.lean, GenNumGammastd.lean).  Nothing in this file mentions a generated kernel.
-/
namespace Hdc.GenNum
open Hdc Hdc.Gen.NumKernels
open Hdc.Ws2dGen (av)

set_option linter.unusedSectionVars false

/-- the special functions of the model with the root finder instantiated by Brent's method on
    `a ↦ log a − digamma a − s` (what `brentq(xa, xb, s)` of the source computes) -/
def brentRoot {α : Type} [Add α] [Sub α] [Mul α] [Div α] [Neg α] [NatCast α] [LT α] [DecidableLT α]
    (F : GamFns α) (digamma : α → α) (xtol rtol : α) : GamFns α :=
  { F with root := fun xa xb s => Hdc.brentq (fun a => F.log a - digamma a - s) xtol rtol 100 xa xb }

section fields
variable {α : Type} [Add α] [Sub α] [Mul α] [Div α] [Neg α] [NatCast α] [LT α] [DecidableLT α]
  (F : GamFns α) (digamma : α → α) (xtol rtol : α)
@[simp] theorem brentRoot_log : (brentRoot F digamma xtol rtol).log = F.log := rfl
@[simp] theorem brentRoot_sqrt : (brentRoot F digamma xtol rtol).sqrt = F.sqrt := rfl
@[simp] theorem brentRoot_gammainc : (brentRoot F digamma xtol rtol).gammainc = F.gammainc := rfl
@[simp] theorem brentRoot_ndtri : (brentRoot F digamma xtol rtol).ndtri = F.ndtri := rfl
@[simp] theorem brentRoot_c04 : (brentRoot F digamma xtol rtol).c04 = F.c04 := rfl
@[simp] theorem brentRoot_c09 : (brentRoot F digamma xtol rtol).c09 = F.c09 := rfl
end fields

/-! ### One pass of Brent's method (`brentStep`), stage by stage

Each lemma gives its function in the Boolean outcomes `v`, `w` of the tests as the translated program evaluates them
(`decide … = v`, `eqv … = w`), so that a path through the `if`s of the translated loop body, on which every outcome is a
hypothesis, gives the value of `brentStep` going forward: re-bracketing, return or not, choice of the step, new point
(Hdc/Props/GenNumBrent.lean). -/

section brentPass
variable {α : Type} [Add α] [Sub α] [Mul α] [Div α] [Neg α] [NatCast α] [LT α] [DecidableLT α]
  {s s1 t t' : BState α} {δ sbis stry xn : α} {v w : Bool}

theorem ite_decide {β : Type} {c : Prop} [Decidable c] {a b : β} (h : decide c = v) :
    (if c then a else b) = bif v then a else b := by
  cases v
  · exact if_neg (of_decide_eq_false h)
  · exact if_pos (of_decide_eq_true h)

theorem ite_bool {β : Type} {c : Bool} {a b : β} (h : c = v) : (if c = true then a else b) = bif v then a else b := by
  subst h
  cases c <;> rfl

theorem brentBracket_of (h1 : decide (s.fpre * s.fcur < nat 0) = v)
    (hs : s1 = bif v then
      { s with xblk := s.xpre, fblk := s.fpre, spre := s.xcur - s.xpre, scur := s.xcur - s.xpre } else s)
    (h2 : decide (absv s1.fblk < absv s1.fcur) = w) :
    brentBracket s = bif w then
      { s1 with xpre := s1.xcur, xcur := s1.xblk, xblk := s1.xcur, fpre := s1.fcur, fcur := s1.fblk, fblk := s1.fcur }
      else s1 := by
  subst hs
  simp only [brentBracket, ite_decide h1, ite_decide h2]

theorem brentChoose_of (h : (decide (δ < absv t.spre) && decide (absv t.fcur < absv t.fpre)) = v)
    (ht : brentTry t = stry) (h' : decide (nat 2 * absv stry < minv (absv t.spre) (nat 3 * absv sbis - δ)) = w) :
    brentChoose t δ sbis =
      bif v then (bif w then { t with spre := t.scur, scur := stry } else { t with spre := sbis, scur := sbis })
      else { t with spre := sbis, scur := sbis } := by
  subst ht
  cases v
  · rw [Bool.and_eq_false_iff, decide_eq_false_iff_not, decide_eq_false_iff_not, ← not_and_or] at h
    simp only [brentChoose, if_neg h, cond_false]
  · rw [Bool.and_eq_true, decide_eq_true_eq, decide_eq_true_eq] at h
    simp only [brentChoose, if_pos h, ite_decide h', cond_true]

variable {f : α → α} {xtol rtol : α}

theorem brentStep_of (hb : brentBracket s = t) (hδ : (xtol + rtol * absv t.xcur) / nat 2 = δ)
    (hs : (t.xblk - t.xcur) / nat 2 = sbis) (hr : (eqv t.fcur (nat 0) || decide (absv sbis < δ)) = v)
    (hc : brentChoose t δ sbis = t')
    (hx : (if δ < absv t'.scur then t'.xcur + t'.scur
      else t'.xcur + if decide (nat 0 < sbis) = true then δ else -δ) = xn) :
    brentStep f xtol rtol s =
      bif v then .inl t.xcur else .inr { t' with xpre := t'.xcur, fpre := t'.fcur, xcur := xn, fcur := f xn } := by
  subst hδ hs hx hc hb
  cases v
  · rw [Bool.or_eq_false_iff, decide_eq_false_iff_not, ← Bool.not_eq_true, ← not_or] at hr
    simp only [brentStep, if_neg hr, decide_eq_true_eq, cond_false]
  · rw [Bool.or_eq_true, decide_eq_true_eq] at hr
    simp only [brentStep, if_pos hr, cond_true]

end brentPass

variable {α : Type} [Field α] [LinearOrder α] [IsStrictOrderedRing α]

omit [LinearOrder α] [IsStrictOrderedRing α] in
/-- reading a list-backed array inside its bounds -/
theorem rd_list (l : List α) (i : ℤ) (p : ℕ) (h : i = (p : ℤ)) (hp : p < l.length) :
    rd l.toArray i = l[p] := by
  rw [rd_of_eq _ i p h]
  simp [av, hp]

omit [LinearOrder α] [IsStrictOrderedRing α] in
theorem toList_eq_map_of_av (y : Array α) (x : List α) (g : α → α) (hs : y.size = x.length)
    (h : ∀ j (hj : j < x.length), av y j = g x[j]) : y.toList = x.map g := by
  apply List.ext_getElem (by simpa using hs)
  intro j h1 h2
  have hj : j < x.length := by simpa using h2
  have := h j hj
  simp only [av] at this
  rw [Array.getD_eq_getD_getElem?, Array.getElem?_eq_getElem (by rw [hs]; exact hj)] at this
  simpa using this

theorem eqv_self (a : α) : eqv a a = true := (Spi.eqv_iff a a).2 rfl

/-! ### gammafit: the accumulation loop -/

/-- the positive cells among the first `p` -/
def posTake (x : List α) (p : ℕ) : List α := (x.take p).filter fun v => decide (nat 0 < v)

/-- after `p` passes of `for xx in x: if xx > 0: xts += xx; logs += log(xx); n += 1` -/
structure FitInv (lg : α → α) (x : List α) (p : ℕ) (xts logs : α) (n : ℤ) : Prop where
  hx : xts = sumF (posTake x p)
  hl : logs = sumF ((posTake x p).map lg)
  hn : n = ((posTake x p).length : ℤ)

theorem FitInv.init (lg : α → α) (x : List α) : FitInv lg x 0 (nat 0) (nat 0) 0 :=
  ⟨by simp [posTake, sumF], by simp [posTake, sumF], by simp [posTake]⟩

theorem posTake_succ_pos (x : List α) (p : ℕ) (hp : p < x.length) (h : nat 0 < x[p]) :
    posTake x (p + 1) = posTake x p ++ [x[p]] := by
  unfold posTake
  rw [List.take_succ_eq_append_getElem hp, List.filter_append, List.filter_singleton, decide_eq_true h]
  rfl

theorem posTake_succ_neg (x : List α) (p : ℕ) (hp : p < x.length) (h : ¬ nat 0 < x[p]) :
    posTake x (p + 1) = posTake x p := by
  unfold posTake
  rw [List.take_succ_eq_append_getElem hp, List.filter_append, List.filter_singleton, decide_eq_false h]
  simp

omit [LinearOrder α] [IsStrictOrderedRing α] in
theorem sumF_append_singleton (l : List α) (v : α) : sumF (l ++ [v]) = sumF l + v := by
  simp [sumF, List.foldl_append]

theorem FitInv.step_pos {lg : α → α} {x : List α} {p : ℕ} {xts logs : α} {n cur : ℤ}
    (h : FitInv lg x p xts logs n) (hp : p < x.length)
    (hc : nat 0 < rd x.toArray cur) (hcur : cur = (p : ℤ)) :
    FitInv lg x (p + 1) (xts + rd x.toArray cur) (logs + lg (rd x.toArray cur)) (n + 1) := by
  rw [rd_list x cur p hcur hp] at hc ⊢
  refine ⟨?_, ?_, ?_⟩
  · rw [posTake_succ_pos x p hp hc, sumF_append_singleton, h.hx]
  · rw [posTake_succ_pos x p hp hc, List.map_append, List.map_singleton, sumF_append_singleton, h.hl]
  · rw [posTake_succ_pos x p hp hc, h.hn]; simp

theorem FitInv.step_neg {lg : α → α} {x : List α} {p : ℕ} {xts logs : α} {n cur : ℤ}
    (h : FitInv lg x p xts logs n) (hp : p < x.length)
    (hc : ¬ nat 0 < rd x.toArray cur) (hcur : cur = (p : ℤ)) :
    FitInv lg x (p + 1) xts logs n := by
  rw [rd_list x cur p hcur hp] at hc
  refine ⟨?_, ?_, ?_⟩ <;> rw [posTake_succ_neg x p hp hc]
  · exact h.hx
  · exact h.hl
  · exact h.hn

theorem posTake_all (x : List α) (p : ℕ) (hp : x.length ≤ p) :
    posTake x p = x.filter fun v => decide (nat 0 < v) := by
  simp [posTake, List.take_of_length_le hp]

/-- the model `gammafit`, given the three accumulated quantities of the source's loop -/
theorem gammafit_of_inv (F : GamFns α) {x : List α} {p : ℕ} {xts logs : α} {n : ℤ}
    (h : FitInv F.log x p xts logs n) (hp : x.length ≤ p) :
    Hdc.gammafit F x =
      if n = 0 then (nat 0, nat 0)
      else
        if eqv (F.log (xts / (n : α)) - logs / (n : α)) (nat 0) then (nat 0, nat 0)
        else
          let s := F.log (xts / (n : α)) - logs / (n : α)
          let aest := (nat 3 - s + F.sqrt ((s - nat 3) * (s - nat 3) + nat 24 * s)) / (nat 12 * s)
          let a := F.root (aest * (nat 1 - F.c04)) (aest * (nat 1 + F.c04)) s
          if eqv a (nat 0) then (nat 0, nat 0) else (a, xts / (n : α) / a) := by
  have hx := h.hx
  have hl := h.hl
  have hn := h.hn
  rw [posTake_all x p hp] at hx hl hn
  have hc : (n : α) = nat (x.filter fun v => decide (nat 0 < v)).length := by
    rw [hn]; simp [nat]
  unfold Hdc.gammafit
  simp only [← hx, ← hl, ← hc]
  have : (n = 0) ↔ (x.filter fun v => decide (nat 0 < v)).length = 0 := by rw [hn]; omega
  by_cases h0 : n = 0
  · rw [if_pos h0, if_pos (this.1 h0)]
  · rw [if_neg h0, if_neg (fun e => h0 (this.2 e))]

end Hdc.GenNum
