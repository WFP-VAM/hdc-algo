import Hdc.Lemmas.GenNumGamma
/-
Loop invariants for the refinement proof "generated translation of gammastd = hand model `Hdc.gammastd`"
(Hdc/Props/GenNumGammastd.lean).  Nothing in this file mentions a generated kernel.

  * `CntInv`  : the counting loop (`n_zero`, `n_valid` over the cells that are not nodata);
  * `FillInv` : the output loop (`y[ix] = ndtri(p_zero + (1 − p_zero)·gammainc(alpha, x[ix]/beta))` on the valid cells);
  * `gammastd_of_counts` : the model, given the two counters, as the source's chain of early returns.
-/
namespace Hdc.GenNum
open Hdc Hdc.Gen.NumKernels
open Hdc.Ws2dGen (av Upd)

set_option linter.unusedSectionVars false
set_option linter.unusedSimpArgs false

variable {α : Type} [Field α] [LinearOrder α] [IsStrictOrderedRing α]

/-! ### the counting loop -/

/-- the cells among the first `p` that are not nodata -/
def notndTake (x : List α) (nodata : α) (p : ℕ) : List α := (x.take p).filter fun v => !(eqv v nodata)

/-- after `p` passes of the counting loop -/
structure CntInv (x : List α) (nodata : α) (p : ℕ) (nzero nvalid : ℤ) : Prop where
  hz : nzero = (((notndTake x nodata p).filter fun v => eqv v (nat 0)).length : ℤ)
  hv : nvalid = (((notndTake x nodata p).filter fun v => !(decide (v < nat 0))).length : ℤ)

theorem CntInv.init (x : List α) (nodata : α) : CntInv x nodata 0 0 0 :=
  ⟨by simp [notndTake], by simp [notndTake]⟩

theorem notndTake_succ (x : List α) (nodata : α) (p : ℕ) (hp : p < x.length) :
    notndTake x nodata (p + 1) = notndTake x nodata p ++ (if eqv x[p] nodata then [] else [x[p]]) := by
  unfold notndTake
  rw [List.take_succ_eq_append_getElem hp, List.filter_append, List.filter_singleton]
  by_cases h : eqv x[p] nodata = true <;> simp [h]

/-- one pass of the counting loop, whatever path it takes -/
theorem CntInv.step {x : List α} {nodata : α} {p : ℕ} {nz nv nz' nv' cur : ℤ}
    (h : CntInv x nodata p nz nv) (hp : p < x.length) (hcur : cur = (p : ℤ))
    (hz : nz' = if eqv (rd x.toArray cur) nodata then nz
                else if eqv (rd x.toArray cur) (nat 0) then nz + 1 else nz)
    (hv : nv' = if eqv (rd x.toArray cur) nodata then nv
                else if ¬ (rd x.toArray cur < nat 0) then nv + 1 else nv) :
    CntInv x nodata (p + 1) nz' nv' := by
  rw [rd_list x cur p hcur hp] at hz hv
  refine ⟨?_, ?_⟩
  · rw [hz, notndTake_succ x nodata p hp, h.hz]
    by_cases h1 : eqv x[p] nodata = true
    · simp [h1]
    · by_cases h2 : eqv x[p] (0 : α) = true <;> simp [h1, h2, List.filter_append, List.filter_singleton]
  · rw [hv, notndTake_succ x nodata p hp, h.hv]
    by_cases h1 : eqv x[p] nodata = true
    · simp [h1]
    · by_cases h2 : x[p] < (0 : α) <;> simp [h1, h2, List.filter_append, List.filter_singleton]

theorem notndTake_all (x : List α) (nodata : α) (p : ℕ) (hp : x.length ≤ p) :
    notndTake x nodata p = x.filter fun v => !(eqv v nodata) := by
  simp [notndTake, List.take_of_length_le hp]

/-! ### the output loop -/

/-- the model's cell: `none` = nodata or negative, `some` = the standardised value -/
def cellOf (F : GamFns α) (nodata p0 a b v : α) : Option α :=
  if eqv v nodata then none
  else if v < nat 0 then none
  else some (F.ndtri (p0 + (nat 1 - p0) * F.gammainc a (v / b)))

/-- after `p` passes of the output loop: the first `p` cells are the model's, the others still nodata -/
structure FillInv (F : GamFns α) (nodata p0 a b : α) (x : List α) (p : ℕ) (y : Array α) : Prop where
  size : y.size = x.length
  done : ∀ j (hj : j < x.length), j < p → av y j = (cellOf F nodata p0 a b x[j]).getD nodata
  rest : ∀ j, p ≤ j → j < x.length → av y j = nodata

omit [LinearOrder α] [IsStrictOrderedRing α] in
theorem av_replicate (n : ℕ) (v : α) (j : ℕ) (hj : j < n) : av (Array.replicate n v) j = v := by
  simp [av, hj]

theorem FillInv.init (F : GamFns α) (nodata p0 a b : α) (x : List α) (n : ℤ) (hn : n = (x.length : ℤ)) :
    FillInv F nodata p0 a b x 0 (npFull n nodata) :=
  ⟨by simp [npFull, hn], fun j _ hj => by omega,
   fun j _ hj => by rw [npFull, hn]; exact av_replicate _ _ _ (by simpa using hj)⟩

/-- a pass that leaves the cell alone (`continue` on nodata; a negative cell) -/
theorem FillInv.step_skip {F : GamFns α} {nodata p0 a b : α} {x : List α} {p : ℕ} {y : Array α} {cur : ℤ}
    (h : FillInv F nodata p0 a b x p y) (hp : p < x.length) (hcur : cur = (p : ℤ))
    (hc : eqv (rd x.toArray cur) nodata = true ∨ rd x.toArray cur < nat 0) :
    FillInv F nodata p0 a b x (p + 1) y := by
  rw [rd_list x cur p hcur hp] at hc
  refine ⟨h.size, fun j hj hlt => ?_, fun j hj hlt => h.rest j (by omega) hlt⟩
  by_cases hjp : j = p
  · subst hjp
    rw [h.rest j (le_refl _) hj]
    rcases hc with hc | hc
    · simp [cellOf, hc]
    · simp only [Spi.nat_zero] at hc
      by_cases h1 : eqv x[j] nodata = true <;> simp [cellOf, hc, h1]
  · exact h.done j hj (by omega)

/-- a valid cell: the two writes `y[ix] = p0 + (1 − p0)·gammainc(…)`, `y[ix] = ndtri(y[ix])` -/
theorem FillInv.step_valid {F : GamFns α} {nodata p0 a b v w : α} {x : List α} {p : ℕ} {y : Array α} {cur : ℤ}
    (h : FillInv F nodata p0 a b x p y) (hp : p < x.length) (hcur : cur = (p : ℤ))
    (h1 : ¬ eqv (rd x.toArray cur) nodata = true) (h2 : ¬ rd x.toArray cur < nat 0)
    (hv : v = p0 + (nat 1 - p0) * F.gammainc a (rd x.toArray cur / b)) (hw : w = F.ndtri (rd (wr y cur v) cur)) :
    FillInv F nodata p0 a b x (p + 1) (wr (wr y cur v) cur w) := by
  have hps : p < y.size := by rw [h.size]; exact hp
  have hu1 := wr_upd (a0 := y) (v := v) rfl p hcur hps
  have hu2 := wr_upd (a0 := wr y cur v) (v := w) rfl p hcur (by rw [hu1.size]; exact hps)
  rw [rd_of_eq (wr y cur v) cur p hcur, hu1.self] at hw
  rw [rd_list x cur p hcur hp] at h1 h2 hv
  simp only [Spi.nat_zero] at h2
  refine ⟨by rw [hu2.size, hu1.size, h.size], fun j hj hlt => ?_, fun j hj hlt => ?_⟩
  · by_cases hjp : j = p
    · subst hjp
      rw [hu2.self, hw, hv]
      simp [cellOf, h1, h2]
    · rw [hu2.other j hjp, hu1.other j hjp]
      exact h.done j hj (by omega)
  · rw [hu2.other j (by omega), hu1.other j (by omega)]
    exact h.rest j (by omega) hlt

theorem FillInv.final {F : GamFns α} {nodata p0 a b : α} {x : List α} {p : ℕ} {y : Array α}
    (h : FillInv F nodata p0 a b x p y) (hp : x.length ≤ p) :
    y.toList = x.map fun v => (cellOf F nodata p0 a b v).getD nodata :=
  toList_eq_map_of_av y x _ h.size fun j hj => h.done j hj (by omega)

/-! ### the model as the source's chain of early returns -/

theorem gammastd_of_counts (F : GamFns α) (x : List α) (nodata : α) (cs ce : ℕ) {p : ℕ} {nz nv : ℤ}
    (h : CntInv x nodata p nz nv) (hp : x.length ≤ p) :
    (Hdc.gammastd F x nodata cs ce).map (fun o => o.getD nodata) =
      if nv = 0 then List.replicate x.length nodata
      else if F.c09 < (nz : α) / (nv : α) then List.replicate x.length nodata
      else if eqv (Hdc.gammafit F ((x.drop cs).take (ce - cs))).1 (nat 0) = true
            ∨ eqv (Hdc.gammafit F ((x.drop cs).take (ce - cs))).2 (nat 0) = true then
        List.replicate x.length nodata
      else x.map fun v => (cellOf F nodata ((nz : α) / (nv : α))
        (Hdc.gammafit F ((x.drop cs).take (ce - cs))).1 (Hdc.gammafit F ((x.drop cs).take (ce - cs))).2 v).getD nodata := by
  have hz := h.hz
  have hv := h.hv
  rw [notndTake_all x nodata p hp] at hz hv
  have hzc : (nz : α) = nat ((x.filter fun v => !(eqv v nodata)).filter fun v => eqv v (nat 0)).length := by
    rw [hz]; simp [nat]
  have hvc : (nv : α) = nat ((x.filter fun v => !(eqv v nodata)).filter fun v => !(decide (v < nat 0))).length := by
    rw [hv]; simp [nat]
  have h0 : (nv = 0) ↔ ((x.filter fun v => !(eqv v nodata)).filter fun v => !(decide (v < nat 0))).length = 0 := by
    rw [hv]; omega
  have hrep : ∀ l : List α, (l.map fun _ => (none : Option α)).map (fun o => o.getD nodata)
      = List.replicate l.length nodata := fun l => by
    rw [List.map_map]
    exact List.map_const' ..
  unfold Hdc.gammastd
  simp only [← hzc, ← hvc]
  by_cases hnv : nv = 0
  · rw [if_pos hnv, if_pos (h0.1 hnv), hrep]
  · rw [if_neg hnv, if_neg (fun e => hnv (h0.2 e))]
    by_cases h9 : F.c09 < (nz : α) / (nv : α)
    · rw [if_pos h9, if_pos h9, hrep]
    · rw [if_neg h9, if_neg h9]
      rcases hg : Hdc.gammafit F ((x.drop cs).take (ce - cs)) with ⟨a, b⟩
      simp only
      by_cases hab : eqv a (nat 0) = true ∨ eqv b (nat 0) = true
      · rw [if_pos hab, if_pos hab, hrep]
      · rw [if_neg hab, if_neg hab, List.map_map]
        apply List.map_congr_left
        intro v _
        simp only [Function.comp, cellOf]

end Hdc.GenNum
