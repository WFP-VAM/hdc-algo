import Hdc.Lemmas.GenNumGamma
import Hdc.Lemmas.SpiGroup
/-
Lemmas for the refinement proof "generated translation of gammastd_grp = hand model `Hdc.gammastdGrp`"
(Hdc/Props/GenNumGammastdGrp.lean).  Nothing in this file mentions a generated kernel.

  * `gatherL_groups`, `rdI2_cal`       the mask `groups == grp` / the window `cal_indices[grp, :]` against the model;
  * `mergeOut`                          how the model's output (`none` = never written) sits in the output buffer;
  * `merge_scatter_set/_fill`           `yy[grp_ix] = res[:]`, `yy[grp_ix] = nodata` against `scatterGrp`;
  * `scaled_cells`, `unscaled_cells`    `res[valid] = clip(res[valid]·1000, −32768, 32767); round` against `spiCell`;
  * `GrpInv`                            the invariant of the loop over the groups.
-/
namespace Hdc.GenNum
open Hdc Hdc.Gen.NumKernels
open Hdc.Spi (grpResult gammastdGrp_succ gammastdGrp_zero gammastdGrp_length gatherGrp_cons scatterGrp_cons_eq_cons
  scatterGrp_cons_eq_nil scatterGrp_cons_ne scatterGrp_nil_groups scatterGrp_nil_out)

set_option linter.unusedSectionVars false
set_option linter.unusedSimpArgs false

/-! ### masks and windows -/

/-- the labels as the translated kernel receives them -/
def groupsArr (groups : List ℕ) : Array Int := (groups.map Int.ofNat).toArray

/-- the calibration windows as a 2-d integer array of rows `[start, stop]` -/
def calArr (cal : List (ℕ × ℕ)) : Array (Array Int) := (cal.map fun c => #[(c.1 : ℤ), (c.2 : ℤ)]).toArray

/-- `groups == g` as a list of Booleans -/
def grpMask (groups : List ℕ) (g : ℕ) : List Bool := groups.map fun k => decide (k = g)

theorem groupsArr_mask (groups : List ℕ) (g : ℕ) :
    (groupsArr groups).map (fun e => decide (e = (g : ℤ))) = (grpMask groups g).toArray := by
  simp only [groupsArr, grpMask, List.map_toArray, List.map_map]
  congr 1
  apply List.map_congr_left
  intro k _
  simp only [Function.comp, Int.ofNat_eq_natCast]
  by_cases h : k = g
  · simp [h]
  · have : ¬ ((k : ℤ) = (g : ℤ)) := by omega
    simp [h, this]

theorem gatherL_groups {β : Type} (xx : List β) (groups : List ℕ) (g : ℕ) :
    gatherL xx (grpMask groups g) = gatherGrp xx groups g := by
  induction xx generalizing groups with
  | nil => simp [gatherL]
  | cons x xs ih =>
    cases groups with
    | nil => simp [gatherL, grpMask]
    | cons k ks =>
      rw [gatherGrp_cons]
      by_cases h : k = g <;> simp [grpMask, gatherL, h] <;> exact ih ks

theorem rdI2_cal (cal : List (ℕ × ℕ)) (g : ℕ) :
    rdI2 (calArr cal) (g : ℤ) 0 = ((cal.getD g (0, 0)).1 : ℤ) ∧
    rdI2 (calArr cal) (g : ℤ) 1 = ((cal.getD g (0, 0)).2 : ℤ) := by
  unfold rdI2 calArr
  rw [ix_of_eq _ (g : ℤ) g rfl]
  by_cases hg : g < cal.length
  · simp [hg, rdI, ix]
  · have hg' : cal.length ≤ g := by omega
    simp [hg', rdI, ix, List.getD_eq_getElem?_getD, List.getElem?_eq_none hg']

/-! ### the model's output inside the output buffer -/

section merge
variable {α : Type}

/-- the output buffer: cells the model never writes keep the old content -/
def mergeOut (cell : Option α → α) (outs : List (Option (Option α))) (yy0 : List α) : List α :=
  List.zipWith (fun o y => match o with | none => y | some c => cell c) outs yy0

theorem mergeOut_none (cell : Option α → α) (xx yy0 : List α) (h : yy0.length = xx.length) :
    mergeOut cell (xx.map fun _ => none) yy0 = yy0 := by
  induction xx generalizing yy0 with
  | nil => cases yy0 <;> simp_all [mergeOut]
  | cons x xs ih =>
    cases yy0 with
    | nil => simp at h
    | cons y ys => simpa [mergeOut] using ih ys (by simpa using h)

/-- `yy[groups == g] = vals` -/
theorem merge_scatter_set (cell : Option α → α) (g : ℕ) :
    ∀ (groups : List ℕ) (vals : List (Option α)) (outs : List (Option (Option α))) (yy0 : List α),
      outs.length = groups.length → yy0.length = groups.length →
      maskSetL (mergeOut cell outs yy0) (grpMask groups g) (vals.map cell)
        = mergeOut cell (scatterGrp g groups vals outs) yy0
  | [], vals, outs, yy0, h1, h2 => by
    cases outs <;> cases yy0 <;> simp_all [grpMask, mergeOut, maskSetL, scatterGrp_nil_groups]
  | k :: ks, vals, [], yy0, h1, h2 => by simp at h1
  | k :: ks, vals, o :: os, [], h1, h2 => by simp at h2
  | k :: ks, vals, o :: os, y :: ys, h1, h2 => by
    have ih := fun vs => merge_scatter_set cell g ks vs os ys (by simpa using h1) (by simpa using h2)
    by_cases hk : k = g
    · subst hk
      cases vals with
      | nil =>
        rw [scatterGrp_cons_eq_nil]
        simpa [mergeOut, grpMask, maskSetL] using ih []
      | cons v vs =>
        rw [scatterGrp_cons_eq_cons]
        simpa [mergeOut, grpMask, maskSetL] using ih vs
    · rw [scatterGrp_cons_ne g k hk]
      simpa [mergeOut, grpMask, maskSetL, hk] using ih vals

/-- `a[m] = v` as `a[m] = [v, v, …]` -/
theorem maskFillL_eq_maskSetL {β : Type} (v : β) (a : List β) (m : List Bool) (n : ℕ) (h : m.count true ≤ n) :
    maskFillL a m v = maskSetL a m (List.replicate n v) := by
  induction a generalizing m n with
  | nil => simp [maskFillL, maskSetL]
  | cons x xs ih =>
    rcases m with _ | ⟨_ | _, bs⟩
    · simp [maskFillL, maskSetL]
    · simp [maskFillL, maskSetL, ih bs n (by simpa using h)]
    · cases n with
      | zero => simp at h
      | succ n => simp [maskFillL, maskSetL, List.replicate_succ, ih bs n (by simpa using h)]

/-- `yy[groups == g] = nodata` when the model's cells of the group are all `none` -/
theorem merge_scatter_fill (cell : Option α → α) (g : ℕ)
    (groups : List ℕ) (vals : List (Option α)) (outs : List (Option (Option α))) (yy0 : List α)
    (h1 : outs.length = groups.length) (h2 : yy0.length = groups.length)
    (hn : ∀ v ∈ vals, v = none) (hc : groups.count g ≤ vals.length) :
    maskFillL (mergeOut cell outs yy0) (grpMask groups g) (cell none)
      = mergeOut cell (scatterGrp g groups vals outs) yy0 := by
  rw [← merge_scatter_set cell g groups vals outs yy0 h1 h2, List.eq_replicate_of_mem (a := cell none) (l := vals.map cell)
    (by simpa using fun v hv => by rw [hn v hv])]
  refine maskFillL_eq_maskSetL _ _ _ _ (le_trans (le_of_eq ?_) (hc.trans_eq (List.length_map cell).symm))
  simp only [grpMask, List.count, List.countP_map]
  exact List.countP_congr fun k _ => by simp

end merge

/-! ### scaling, saturation and rounding of one group's result -/

section cells
variable {α : Type} [Field α] [LinearOrder α] [IsStrictOrderedRing α]

/-- the cell of the int16 output: the model's `spiCell` with the literals of the source -/
def grpCell (rnd : α → α) (nodata : α) : Option α → α :=
  spiCell rnd (-(nat 32768)) (nat 32767) (nat 1000) nodata

theorem clipv_eq_spiScale (v : α) : clipv (v * nat 1000) (-(nat 32768)) (nat 32767)
    = spiScale (-(nat 32768)) (nat 32767) (nat 1000) v := rfl

/-- `res[valid] = clip(res[valid]·1000, …); np.round(res)`: every cell becomes the model's `spiCell`
    (values never collide with the sentinel, the sentinel is an integer) -/
theorem scaled_cells (rnd : α → α) (nodata : α) (m : List (Option α))
    (hnd : ∀ v, some v ∈ m → v ≠ nodata) (hrnd : rnd nodata = nodata) :
    (m.map fun o => o.getD nodata).map
        (fun e => rnd (if (!(eqv e nodata)) = true then clipv (e * nat 1000) (-(nat 32768)) (nat 32767) else e))
      = m.map (grpCell rnd nodata) := by
  rw [List.map_map]
  apply List.map_congr_left
  intro o ho
  cases o with
  | none => simp [grpCell, spiCell, eqv_self, hrnd]
  | some v =>
    have : eqv v nodata = false := (Spi.eqv_false_iff v nodata).2 (hnd v ho)
    simp only [Function.comp, Option.getD_some, this, Bool.not_false, if_true, grpCell, spiCell, clipv_eq_spiScale]

/-- the same in the shape the source computes it: gather the valid cells, scale, clip, scatter back, round -/
theorem scaled_cells' (rnd : α → α) (nodata : α) (m : List (Option α))
    (hnd : ∀ v, some v ∈ m → v ≠ nodata) (hrnd : rnd nodata = nodata) :
    List.map rnd
        (maskSetL (m.map fun o => o.getD nodata)
          ((m.map fun o => o.getD nodata).map fun e => !(eqv e nodata))
          (((gatherL (m.map fun o => o.getD nodata)
              ((m.map fun o => o.getD nodata).map fun e => !(eqv e nodata))).map fun e => e * nat 1000).map
            fun e => clipv e (-(nat 32768)) (nat 32767)))
      = m.map (grpCell rnd nodata) := by
  have key : ∀ (R : List α) (p : α → Bool) (f1 f2 : α → α),
      List.map rnd (maskSetL R (R.map p) (((gatherL R (R.map p)).map f1).map f2))
        = R.map fun e => rnd (if p e = true then f2 (f1 e) else e) := by
    intro R p f1 f2
    rw [List.map_map, maskSetL_map_gather, List.map_map]
    rfl
  rw [key, scaled_cells rnd nodata m hnd hrnd]

/-- no cell of the result differs from the sentinel: nothing is scaled, all the model's cells are `none` -/
theorem unscaled_cells (rnd : α → α) (nodata : α) (m : List (Option α))
    (hnd : ∀ v, some v ∈ m → v ≠ nodata)
    (hall : ((m.map fun o => o.getD nodata).filter fun e => !(eqv e nodata)).length = 0) :
    (m.map fun o => o.getD nodata) = m.map (grpCell rnd nodata) := by
  have hf := List.filter_eq_nil_iff.1 (List.length_eq_zero_iff.1 hall)
  apply List.map_congr_left
  intro o ho
  cases o with
  | none => simp [grpCell, spiCell]
  | some v =>
    have := hf v (List.mem_map.2 ⟨some v, ho, rfl⟩)
    rw [(Spi.eqv_false_iff v nodata).2 (hnd v ho)] at this
    exact absurd rfl this

/-- a sub-series without a single non-sentinel cell: the model returns `none` everywhere -/
theorem gammastd_all_nodata (F : GamFns α) (x : List α) (nodata : α) (cs ce : ℕ)
    (hall : (x.filter fun e => !(eqv e nodata)).length = 0) :
    Hdc.gammastd F x nodata cs ce = x.map fun _ => none := by
  unfold Hdc.gammastd
  rw [List.length_eq_zero_iff.1 hall]
  simp

/-- every value of the model's result is a value of `ndtri` -/
theorem gammastd_some_is_ndtri (F : GamFns α) (x : List α) (nodata : α) (cs ce : ℕ) (v : α)
    (h : some v ∈ Hdc.gammastd F x nodata cs ce) : ∃ p, v = F.ndtri p := by
  unfold Hdc.gammastd at h
  simp only at h
  split_ifs at h
  case neg =>
    obtain ⟨w, _, hw⟩ := List.mem_map.1 h
    split_ifs at hw
    exact ⟨_, (Option.some.inj hw).symm⟩
  all_goals simp at h

/-! ### the loop over the groups -/

/-- after the groups `0 … p-1`: the buffer holds the model's output for `p` groups -/
def GrpInv (F : GamFns α) (rnd : α → α) (xx : List α) (groups : List ℕ) (nodata : α) (cal : List (ℕ × ℕ))
    (yy0 : List α) (p : ℕ) (yy : Array α) : Prop :=
  yy.toList = mergeOut (grpCell rnd nodata) (gammastdGrp F xx groups p nodata cal) yy0

theorem GrpInv.init (F : GamFns α) (rnd : α → α) (xx : List α) (groups : List ℕ) (nodata : α)
    (cal : List (ℕ × ℕ)) (yy0 : List α) (h : yy0.length = xx.length) :
    GrpInv F rnd xx groups nodata cal yy0 0 yy0.toArray := by
  unfold GrpInv
  rw [gammastdGrp_zero, mergeOut_none _ _ _ h]

/-- `yy[grp_ix] = res[:]` where `res` holds the `spiCell`s of the group's result -/
theorem GrpInv.step_set {F : GamFns α} {rnd : α → α} {xx : List α} {groups : List ℕ} {nodata : α}
    {cal : List (ℕ × ℕ)} {yy0 : List α} {p : ℕ} {yy : Array α}
    (h : GrpInv F rnd xx groups nodata cal yy0 p yy) (hg : groups.length = xx.length)
    (hy : yy0.length = xx.length) (res : List α)
    (hres : res = (grpResult F xx groups nodata cal p).map (grpCell rnd nodata)) :
    GrpInv F rnd xx groups nodata cal yy0 (p + 1) (npMaskSet yy (grpMask groups p).toArray res.toArray) := by
  unfold GrpInv at h ⊢
  have hyy : yy = yy.toList.toArray := by simp
  rw [hyy, npMaskSet_toArray, h, hres, gammastdGrp_succ,
    merge_scatter_set _ p groups _ _ yy0 (by rw [gammastdGrp_length, hg]) (by rw [hy, hg])]

/-- `yy[grp_ix] = nodata` for a group without a single non-sentinel cell -/
theorem GrpInv.step_fill {F : GamFns α} {rnd : α → α} {xx : List α} {groups : List ℕ} {nodata : α}
    {cal : List (ℕ × ℕ)} {yy0 : List α} {p : ℕ} {yy : Array α}
    (h : GrpInv F rnd xx groups nodata cal yy0 p yy) (hg : groups.length = xx.length)
    (hy : yy0.length = xx.length)
    (hall : ((gatherGrp xx groups p).filter fun e => !(eqv e nodata)).length = 0) :
    GrpInv F rnd xx groups nodata cal yy0 (p + 1) (npMaskFill yy (grpMask groups p).toArray nodata) := by
  unfold GrpInv at h ⊢
  have hyy : yy = yy.toList.toArray := by simp
  have hres : grpResult F xx groups nodata cal p = (gatherGrp xx groups p).map fun _ => none := by
    unfold grpResult
    exact gammastd_all_nodata F _ nodata _ _ hall
  have hm := merge_scatter_fill (grpCell rnd nodata) p groups ((gatherGrp xx groups p).map fun _ => none)
    (gammastdGrp F xx groups p nodata cal) yy0 (by rw [gammastdGrp_length, hg]) (by rw [hy, hg])
    (by simp) (by rw [List.length_map, Spi.gatherGrp_length, ← hg, List.take_length])
  rw [show grpCell rnd nodata none = nodata from rfl] at hm
  rw [hyy, npMaskFill_toArray, h, gammastdGrp_succ, hres, hm]

end cells

end Hdc.GenNum
