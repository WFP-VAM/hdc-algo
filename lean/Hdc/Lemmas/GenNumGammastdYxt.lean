import Hdc.Lemmas.GenNumGammastdGrp
import Hdc.Model.StatsExt
/-
Lemmas for the refinement proof "generated translation of gammastd_yxt = hand model `Hdc.gammastdYxt`"
(Hdc/Props/GenNumGammastdYxt.lean).  Nothing in this file mentions a generated kernel.

  * `toArr3` / `fromArr3`, `rowOf`, `xrow`     cubes as nested arrays / nested lists, read as functions;
  * `rd3_nat`, `rowOf_wr3`, …                    the 3-d accessors of Hdc/PyNpS.lean at natural indices;
  * `ScaleInv`                                   the loop over the time steps (scale, saturate the valid cells);
  * `YInv`                                       the two loops over the pixels.
-/
namespace Hdc.GenNum
open Hdc Hdc.Gen.NumKernels
open Hdc.Ws2dGen (av Upd)

set_option linter.unusedSectionVars false
set_option linter.unusedSimpArgs false

/-! ### cubes -/

section cube
variable {β : Type}

/-- a (rows, columns, time) cube as the translated kernel receives it -/
def toArr3 (x : List (List (List β))) : Array (Array (Array β)) :=
  (x.map fun pl => (pl.map List.toArray).toArray).toArray

/-- the cube the translated kernel returns, as nested lists (inverse of `toArr3`) -/
def fromArr3 (y : Array (Array (Array β))) : List (List (List β)) :=
  y.toList.map fun pl => pl.toList.map Array.toList

/-- the series of pixel `(i, j)` (empty outside the cube) -/
def rowOf (y : Array (Array (Array β))) (i j : ℕ) : Array β := (y.getD i #[]).getD j #[]

/-- the series of pixel `(i, j)` of a cube given as nested lists (empty outside the cube) -/
def xrow (x : List (List (List β))) (i j : ℕ) : List β := (x.getD i []).getD j []

/-- all planes have `c` columns, all series `t` steps -/
def Rect (x : List (List (List β))) (c t : ℕ) : Prop :=
  (∀ pl ∈ x, pl.length = c) ∧ (∀ pl ∈ x, ∀ row ∈ pl, row.length = t)

/-- `x` is a rectangular cube (with the shape NumPy reports for it) -/
def Cube (x : List (List (List β))) : Prop :=
  Rect x (x.headD []).length ((x.headD []).headD []).length

theorem shape3_toArr3 (x : List (List (List β))) :
    shape3 (toArr3 x) 0 = x.length ∧ shape3 (toArr3 x) 1 = (x.headD []).length ∧
    shape3 (toArr3 x) 2 = ((x.headD []).headD []).length := by
  rcases x with _ | ⟨_ | _, _⟩ <;> simp [shape3, toArr3]

theorem rd3_nat (y : Array (Array (Array β))) (i j : ℕ) : rd3 y (i : ℤ) (j : ℤ) = rowOf y i j := by
  simp only [rd3, rowOf, ix_of_eq _ (i : ℤ) i rfl, ix_of_eq _ (j : ℤ) j rfl]

theorem rowOf_toArr3 (x : List (List (List β))) (i j : ℕ) : rowOf (toArr3 x) i j = (xrow x i j).toArray := by
  unfold rowOf toArr3 xrow
  by_cases hi : i < x.length
  · by_cases hj : j < x[i].length
    · simp [hi, hj, List.getD_eq_getElem?_getD]
    · simp [hi, hj, List.getD_eq_getElem?_getD, List.getElem?_eq_none (Nat.le_of_not_lt hj)]
  · simp [hi, List.getD_eq_getElem?_getD, List.getElem?_eq_none (Nat.le_of_not_lt hi)]

theorem xrow_length (x : List (List (List β))) (c t : ℕ) (h : Rect x c t) (i j : ℕ) (hi : i < x.length)
    (hj : j < c) : (xrow x i j).length = t := by
  unfold xrow
  have hc : x[i].length = c := h.1 _ (List.getElem_mem hi)
  have e1 : x.getD i [] = x[i] := by simp [List.getD_eq_getElem?_getD, hi]
  have e2 : (x[i]).getD j [] = x[i][j]'(by omega) := by
    simp [List.getD_eq_getElem?_getD, show j < x[i].length by omega]
  rw [e1, e2]
  exact h.2 _ (List.getElem_mem hi) _ (List.getElem_mem _)

@[simp] theorem size_wr3 (y : Array (Array (Array β))) (r c : ℤ) (row : Array β) : (wr3 y r c row).size = y.size := by
  simp [wr3]

theorem plane_size_wr3 (y : Array (Array (Array β))) (i j : ℕ) (row : Array β) (i' : ℕ) :
    ((wr3 y (i : ℤ) (j : ℤ) row).getD i' #[]).size = (y.getD i' #[]).size := by
  simp only [wr3, ix_of_eq _ (i : ℤ) i rfl, ix_of_eq _ (j : ℤ) j rfl]
  by_cases h : i' = i
  · subst h
    by_cases hi : i' < y.size <;> simp [hi]
  · by_cases hi : i' < y.size <;> simp [hi, Array.getElem_setIfInBounds, Ne.symm h]

theorem rowOf_wr3 (y : Array (Array (Array β))) (i j : ℕ) (row : Array β) (i' j' : ℕ)
    (hi : i < y.size) (hj : j < (y.getD i #[]).size) :
    rowOf (wr3 y (i : ℤ) (j : ℤ) row) i' j' = if i' = i ∧ j' = j then row else rowOf y i' j' := by
  simp only [wr3, rowOf, ix_of_eq _ (i : ℤ) i rfl, ix_of_eq _ (j : ℤ) j rfl]
  by_cases h : i' = i
  · subst h
    simp only [hi, Array.getD_eq_getD_getElem?, Array.getElem?_setIfInBounds_self_of_lt, Option.getD_some,
      true_and]
    by_cases h2 : j' = j
    · subst h2
      simp only [Array.getD_eq_getD_getElem?, Array.getElem?_eq_getElem hi, Option.getD_some] at hj
      simp [hj, Array.getElem?_eq_getElem hi]
    · simp [h2, Array.getElem?_setIfInBounds_ne (Ne.symm h2)]
  · simp [h, Array.getD_eq_getD_getElem?, Array.getElem?_setIfInBounds_ne (Ne.symm h)]

theorem size_npFullLike3 (x : List (List (List β))) (v : β) : (npFullLike3 (toArr3 x) v).size = x.length := by
  simp [npFullLike3, toArr3]

theorem plane_size_npFullLike3 (x : List (List (List β))) (v : β) (i : ℕ) :
    ((npFullLike3 (toArr3 x) v).getD i #[]).size = (x.getD i []).length := by
  unfold npFullLike3 toArr3
  by_cases hi : i < x.length
  · simp [hi, List.getD_eq_getElem?_getD]
  · simp [hi, List.getD_eq_getElem?_getD, List.getElem?_eq_none (Nat.le_of_not_lt hi)]

theorem rowOf_npFullLike3 (x : List (List (List β))) (v : β) (i j : ℕ) :
    (rowOf (npFullLike3 (toArr3 x) v) i j).toList = List.replicate (xrow x i j).length v := by
  unfold npFullLike3 toArr3 rowOf xrow
  by_cases hi : i < x.length
  · by_cases hj : j < x[i].length
    · simp [hi, hj, List.getD_eq_getElem?_getD]
    · simp [hi, hj, List.getD_eq_getElem?_getD, List.getElem?_eq_none (Nat.le_of_not_lt hj)]
  · simp [hi, List.getD_eq_getElem?_getD, List.getElem?_eq_none (Nat.le_of_not_lt hi)]

theorem optInt_getD_zero (o : Option ℕ) : (o.map Int.ofNat).getD (0 : ℤ) = ((o.getD 0 : ℕ) : ℤ) := by
  cases o <;> rfl

theorem optInt_getD_nat (o : Option ℕ) (d : ℕ) : (o.map Int.ofNat).getD (d : ℤ) = ((o.getD d : ℕ) : ℤ) := by
  cases o <;> rfl

end cube

section yxt
variable {α : Type} [Field α] [LinearOrder α] [IsStrictOrderedRing α]

/-! ### the loop over the time steps -/

/-- one cell of `s[ti] = min(max(s[ti]·1000, −32768), 32767)` on the cells that are not the sentinel -/
def scaleCell (nodata e : α) : α :=
  if eqv e nodata then e else minv (maxv (e * nat 1000) (-(nat 32768))) (nat 32767)

/-- after `k` passes: cells `< k` are scaled, the others untouched -/
structure ScaleInv (nodata : α) (R : List α) (k : ℕ) (s : Array α) : Prop where
  size : s.size = R.length
  get : ∀ j (hj : j < R.length), av s j = if j < k then scaleCell nodata R[j] else R[j]

omit [IsStrictOrderedRing α] in
theorem ScaleInv.init (nodata : α) (R : List α) : ScaleInv nodata R 0 R.toArray :=
  ⟨by simp, fun j hj => by simp [av, hj]⟩

theorem ScaleInv.step_skip {nodata : α} {R : List α} {k : ℕ} {s : Array α} {cur : ℤ}
    (h : ScaleInv nodata R k s) (hk : k < R.length) (hcur : cur = (k : ℤ))
    (hc : eqv (rd s cur) nodata = true) : ScaleInv nodata R (k + 1) s := by
  rw [rd_of_eq s cur k hcur, h.get k hk, if_neg (lt_irrefl k)] at hc
  refine ⟨h.size, fun j hj => ?_⟩
  rw [h.get j hj]
  by_cases hjk : j = k
  · subst hjk
    simp [scaleCell, hc]
  · by_cases hlt : j < k
    · simp [hlt, Nat.lt_succ_of_lt hlt]
    · have : ¬ j < k + 1 := by omega
      simp [hlt, this]

theorem ScaleInv.step_scale {nodata : α} {R : List α} {k : ℕ} {s : Array α} {cur : ℤ}
    (h : ScaleInv nodata R k s) (hk : k < R.length) (hcur : cur = (k : ℤ))
    (hc : ¬ eqv (rd s cur) nodata = true) :
    ScaleInv nodata R (k + 1)
      (wr s cur (minv (maxv (rd s cur * nat 1000) (-(nat 32768))) (nat 32767))) := by
  have hu := wr_upd (a0 := s) (v := minv (maxv (rd s cur * nat 1000) (-(nat 32768))) (nat 32767)) rfl k hcur
    (by rw [h.size]; exact hk)
  rw [rd_of_eq s cur k hcur, h.get k hk, if_neg (lt_irrefl k)] at hc hu ⊢
  refine ⟨hu.size.trans h.size, fun j hj => ?_⟩
  by_cases hjk : j = k
  · subst hjk
    rw [hu.self]
    simp [scaleCell, hc]
  · rw [hu.other j hjk, h.get j hj]
    by_cases hlt : j < k
    · simp [hlt, Nat.lt_succ_of_lt hlt]
    · have : ¬ j < k + 1 := by omega
      simp [hlt, this]

theorem ScaleInv.final {nodata : α} {R : List α} {k : ℕ} {s : Array α}
    (h : ScaleInv nodata R k s) (hk : R.length ≤ k) : s.toList = R.map (scaleCell nodata) :=
  toList_eq_map_of_av s R _ h.size fun j hj => by rw [h.get j hj, if_pos (by omega)]

/-- scaled, saturated and rounded: the model's cells -/
theorem scaled_cells_yxt (rnd : α → α) (nodata : α) (m : List (Option α))
    (hnd : ∀ v, some v ∈ m → v ≠ nodata) (hrnd : rnd nodata = nodata) :
    ((m.map fun o => o.getD nodata).map (scaleCell nodata)).map rnd = m.map (grpCell rnd nodata) := by
  rw [List.map_map, ← scaled_cells rnd nodata m hnd hrnd]
  apply List.map_congr_left
  intro e _
  simp only [Function.comp, scaleCell]
  cases eqv e nodata <;> rfl

/-! ### the loops over the pixels -/

/-- the model's series of pixel `(i, j)` -/
def pixModel (F : GamFns α) (x : List (List (List α))) (nodata : α) (cs ce : Option ℕ) (t i j : ℕ) :
    List (Option α) :=
  Hdc.gammastd F (xrow x i j) nodata (cs.getD 0) (ce.getD t)

omit [IsStrictOrderedRing α] in
theorem pixModel_length (F : GamFns α) (x : List (List (List α))) (nodata : α) (cs ce : Option ℕ) (t i j : ℕ) :
    (pixModel F x nodata cs ce t i j).length = (xrow x i j).length := Spi.gammastd_length _ _ _ _ _

/-- a pixel without a single non-sentinel cell: the model's series is all `nodata` -/
theorem pix_all_nodata (F : GamFns α) (rnd : α → α) (x : List (List (List α))) (nodata : α) (cs ce : Option ℕ)
    (t i j : ℕ) (hall : ((xrow x i j).filter fun e => !(eqv e nodata)).length = 0) :
    (pixModel F x nodata cs ce t i j).map (grpCell rnd nodata) = List.replicate (xrow x i j).length nodata := by
  unfold pixModel
  rw [gammastd_all_nodata F _ nodata _ _ hall, List.map_map]
  exact List.map_const' ..

/-- a result without a single non-sentinel cell: the model's cells are all `nodata` -/
theorem all_nodata_cells (rnd : α → α) (nodata : α) (m : List (Option α))
    (hnd : ∀ v, some v ∈ m → v ≠ nodata)
    (hall : ((m.map fun o => o.getD nodata).filter fun e => !(eqv e nodata)).length = 0) :
    m.map (grpCell rnd nodata) = List.replicate m.length nodata := by
  rw [← unscaled_cells rnd nodata m hnd hall, List.eq_replicate_iff]
  refine ⟨by simp, fun e he => ?_⟩
  simpa [Spi.eqv_iff] using List.filter_eq_nil_iff.1 (List.length_eq_zero_iff.1 hall) e he

/-- after the pixels before `(p, q)` (row-major): these hold the model's series, the others are still nodata -/
structure YInv (M : ℕ → ℕ → List α) (nodata : α) (r c t p q : ℕ) (y : Array (Array (Array α))) : Prop where
  size : y.size = r
  psize : ∀ i < r, (y.getD i #[]).size = c
  done : ∀ i j, i < r → j < c → (i < p ∨ (i = p ∧ j < q)) → (rowOf y i j).toList = M i j
  rest : ∀ i j, i < r → j < c → ¬ (i < p ∨ (i = p ∧ j < q)) → (rowOf y i j).toList = List.replicate t nodata

theorem YInv.init (M : ℕ → ℕ → List α) (nodata : α) (x : List (List (List α))) (c t : ℕ) (h : Rect x c t) :
    YInv M nodata x.length c t 0 0 (npFullLike3 (toArr3 x) nodata) := by
  refine ⟨size_npFullLike3 x nodata, fun i hi => ?_, fun i j _ _ h => by omega, fun i j hi hj _ => ?_⟩
  · rw [plane_size_npFullLike3, List.getD_eq_getElem?_getD, List.getElem?_eq_getElem hi, Option.getD_some]
    exact h.1 _ (List.getElem_mem hi)
  · rw [rowOf_npFullLike3, xrow_length x c t h i j hi hj]

/-- end of a plane -/
theorem YInv.next_plane {M : ℕ → ℕ → List α} {nodata : α} {r c t p q : ℕ} {y : Array (Array (Array α))}
    (h : YInv M nodata r c t p q y) (hq : c ≤ q) : YInv M nodata r c t (p + 1) 0 y :=
  ⟨h.size, h.psize, fun i j hi hj hd => h.done i j hi hj (by omega),
   fun i j hi hj hd => h.rest i j hi hj (by omega)⟩

/-- the pixel keeps its nodata row, which is the model's series -/
theorem YInv.step_keep {M : ℕ → ℕ → List α} {nodata : α} {r c t p q : ℕ} {y : Array (Array (Array α))}
    (h : YInv M nodata r c t p q y) (hp : p < r) (hq : q < c) (hM : M p q = List.replicate t nodata) :
    YInv M nodata r c t p (q + 1) y := by
  refine ⟨h.size, h.psize, fun i j hi hj hd => ?_, fun i j hi hj hd => h.rest i j hi hj (by omega)⟩
  by_cases hpq : i = p ∧ j = q
  · obtain ⟨rfl, rfl⟩ := hpq
    rw [h.rest i j hi hj (by omega), hM]
  · exact h.done i j hi hj (by omega)

/-- `y[p, q, :] = row` -/
theorem YInv.step_write {M : ℕ → ℕ → List α} {nodata : α} {r c t p q : ℕ} {y : Array (Array (Array α))}
    (h : YInv M nodata r c t p q y) (hp : p < r) (hq : q < c) (row : Array α) (hM : row.toList = M p q) :
    YInv M nodata r c t p (q + 1) (wr3 y (p : ℤ) (q : ℤ) row) := by
  have hps : p < y.size := by rw [h.size]; exact hp
  have hqs : q < (y.getD p #[]).size := by rw [h.psize p hp]; exact hq
  refine ⟨by rw [size_wr3, h.size], fun i hi => by rw [plane_size_wr3, h.psize i hi],
    fun i j hi hj hd => ?_, fun i j hi hj hd => ?_⟩
  · rw [rowOf_wr3 y p q row i j hps hqs]
    by_cases hpq : i = p ∧ j = q
    · obtain ⟨rfl, rfl⟩ := hpq
      simp [hM]
    · rw [if_neg hpq]
      exact h.done i j hi hj (by omega)
  · rw [rowOf_wr3 y p q row i j hps hqs, if_neg (by omega)]
    exact h.rest i j hi hj (by omega)

/-- `y[p, q, :] = nodata` on a pixel whose model series is all `nodata` -/
theorem YInv.step_fill {M : ℕ → ℕ → List α} {nodata : α} {r c t p q : ℕ} {y : Array (Array (Array α))}
    (h : YInv M nodata r c t p q y) (hp : p < r) (hq : q < c) (hM : M p q = List.replicate t nodata) :
    YInv M nodata r c t p (q + 1)
      (wr3 y (p : ℤ) (q : ℤ) ((rd3 y (p : ℤ) (q : ℤ)).map fun _ => nodata)) := by
  refine h.step_write hp hq _ ?_
  rw [rd3_nat, Array.toList_map, h.rest p q hp hq (by omega), hM]
  simp

theorem YInv.final {F : GamFns α} {rnd : α → α} {nodata : α} {x : List (List (List α))} {cs ce : Option ℕ}
    {c t p q : ℕ} {y : Array (Array (Array α))}
    (h : YInv (fun i j => (pixModel F x nodata cs ce t i j).map (grpCell rnd nodata)) nodata x.length c t p q y)
    (hr : Rect x c t) (hp : x.length ≤ p) :
    fromArr3 y = Hdc.gammastdYxt F rnd (-(nat 32768)) (nat 32767) (nat 1000) x nodata cs ce := by
  unfold fromArr3 Hdc.gammastdYxt
  apply List.ext_getElem (by simp [h.size])
  intro i h1 h2
  have hi : i < x.length := by simpa using h2
  have hxc : x[i].length = c := hr.1 _ (List.getElem_mem hi)
  have hys : y[i]'(by rw [h.size]; exact hi) = y.getD i #[] := by
    simp [Array.getD_eq_getD_getElem?, Array.getElem?_eq_getElem (show i < y.size by rw [h.size]; exact hi)]
  simp only [List.getElem_map, Array.getElem_toList]
  rw [hys]
  apply List.ext_getElem (by rw [List.length_map, List.length_map, Array.length_toList, h.psize i hi, hxc])
  intro j h3 h4
  have hj : j < c := by simpa [hxc] using h4
  have hd := h.done i j hi hj (by omega)
  have hjs : j < (y.getD i #[]).size := by rw [h.psize i hi]; exact hj
  simp only [List.getElem_map, Array.getElem_toList]
  have : (y.getD i #[])[j]'hjs = rowOf y i j := by
    unfold rowOf
    rw [Array.getD_eq_getD_getElem? (xs := y.getD i #[]), Array.getElem?_eq_getElem hjs, Option.getD_some]
  rw [this, hd]
  have ht : x[i][j].length = t := hr.2 _ (List.getElem_mem hi) _ (List.getElem_mem _)
  simp only [pixModel, xrow, List.getD_eq_getElem?_getD, List.getElem?_eq_getElem hi, Option.getD_some,
    List.getElem?_eq_getElem (show j < x[i].length by omega), grpCell, ht]

end yxt

end Hdc.GenNum
