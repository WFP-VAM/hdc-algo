import Hdc.Lemmas.GenNumFixed
import Hdc.Gen.NumWs2dgu
import Std.Tactic.Do
/-
The generated `ws2dgu` (Hdc/Gen/NumWs2dgu.lean) on any input, as a `fitOrPass`: the one run of `mvcgen` behind
Hdc/Props/GenNumGu.lean.  Apart from Hdc/Lemmas/GenNumFixed.lean so that the lemmas shared with other kernels do not
import this generated file.
-/
namespace Hdc.GenNum
open Hdc Hdc.Smooth Hdc.Gen.NumKernels Std.Do PyNpF

set_option mvcgen.warning false

variable {α : Type} [Field α] [LinearOrder α] [IsStrictOrderedRing α]

/-- `ws2dgu`, whatever the lengths of `y` and `out` (`miss` the missing-cell test): the fitted curve is the
    translated `ws2d` on the cleaned data with the validity weights -/
theorem gen_ws2dgu_body (rnd : α → α) (isnan isinf : α → Bool) (y : List α) (lam nodata : α)
    (out0 : Array α) (miss : α → Bool) (hmiss : miss = fun x => eqv x nodata || isnan x || isinf x) :
    Gen.NumKernels.ws2dgu rnd isnan isinf y.toArray lam nodata out0 =
      fitOrPass rnd miss y lam (Gen.Ws2d.ws2d (cleanOf miss y).toArray lam (weightsOf miss y).toArray) out0 := by
  subst hmiss
  generalize hres : Gen.NumKernels.ws2dgu rnd isnan isinf y.toArray lam nodata out0 = res
  apply Id.of_wp_run_eq hres
  mvcgen -trivial
  -- `w`, `n > 1` and the cleaned `y` are the model's
  all_goals simp (config := {zetaDelta := true}) only [npWeights_eq, one_lt_npSum_weights, npClean_eq,
    decide_eq_true_eq, Bool.not_eq_true', Bool.not_eq_false] at *
  -- `lmda != 0`, `n > 1`: the rounded fit / `n ≤ 1`: `out[:] = y[:]` / `lmda == 0`: `out[:] = y[:]`
  case vc1 => rw [fitOrPass, if_neg (Bool.eq_false_iff.1 ‹_›), if_pos ‹_›]
  case vc2 => rw [fitOrPass, if_neg (Bool.eq_false_iff.1 ‹_›), if_neg ‹_›]
  case vc3 => rw [fitOrPass, if_pos ‹_›]

end Hdc.GenNum
