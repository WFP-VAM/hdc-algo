import Hdc.Lemmas.GenNum
import Hdc.Lemmas.PyNpT
import Hdc.Lemmas.GenKernelsMK
import Hdc.Model.Stats
import Mathlib.Algebra.Order.Field.Basic
import Mathlib.Algebra.Order.Ring.Rat
/-
Loop invariants for `Gen.NumKernels.mk_score` against the model `Hdc.mkCounts` / `Hdc.mkS` / `Hdc.mkTau` over a field:
`above`, `below`, `preA`, `preB` and their lemmas are those of Hdc/Lemmas/GenKernelsMK.lean (stated over any linear order).
-/
namespace Hdc.GenNumMk
open Hdc Hdc.PyNpT
open Hdc.Ws2d (fnl)

set_option linter.unusedSectionVars false

variable {α : Type} [Field α] [LinearOrder α]

export Hdc.GenKernels (above below preA preB above_zero below_zero mkCounts_eq_pre above_below_range)

theorem not_both {a b : α} (h1 : a < b) (h2 : b < a) : False := lt_asymm h1 h2

/-- the closing lines `s = _s1 - _s2; tau = s / (0.5 * n * (n - 1))` with the model's conversions -/
theorem tau_eq (F : MKFns α) (hof : ∀ k : ℕ, F.ofInt (k : ℤ) = (k : α)) (x : List α) :
    F.ofInt (mkS x) / ((F.half * F.ofInt (x.length : ℤ)) * F.ofInt ((x.length : ℤ) - 1))
      = mkTau F.half x F.ofInt := by
  unfold mkTau
  rw [hof x.length]
  rcases Nat.eq_zero_or_pos x.length with h0 | h0
  · simp [h0, nat]
  · have h1 : ((x.length : ℤ) - 1) = ((x.length - 1 : ℕ) : ℤ) := by omega
    rw [h1, hof (x.length - 1)]

end Hdc.GenNumMk
