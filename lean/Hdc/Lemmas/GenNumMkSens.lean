import Hdc.Lemmas.GenNum
import Hdc.Lemmas.PyNpT
import Hdc.Lemmas.StatsSlope
import Mathlib.Algebra.Order.Ring.Rat
/-
Loop invariant for `Gen.NumKernels.mk_sens_slope` against the model `Hdc.slopesFrom` / `Hdc.sensSlope`.
The invariant speaks about what is still to be written: the finished prefix `d[:ix]` followed by the slopes the model
still has to produce is the model's whole list.
-/
namespace Hdc.GenNumMk
open Hdc Hdc.PyNpT Hdc.Gen.NumKernels Hdc.Stats
open Hdc.Ws2dGen (av)
open Hdc.Ws2d (fnl)

set_option linter.unusedSectionVars false

variable {α : Type} [Field α] [LinearOrder α] [IsStrictOrderedRing α]

/-- the slopes of row `i`: `(x[j] - x[i]) / (j - i)` for `j = i+1 .. n-1` -/
def rowOf (x : List α) (i : ℕ) : List α :=
  (x.drop (i + 1)).zipIdx.map fun p => (p.1 - fnl x i) / nat (p.2 + 1)

theorem rowOf_length (x : List α) (i : ℕ) : (rowOf x i).length = x.length - (i + 1) := by
  simp [rowOf]

theorem rowOf_getElem (x : List α) (i q : ℕ) (h : i + 1 + q < x.length) :
    (rowOf x i)[q]'(by rw [rowOf_length]; omega) = (fnl x (i + 1 + q) - fnl x i) / ((q + 1 : ℕ) : α) := by
  simp only [rowOf, List.getElem_map, List.getElem_zipIdx, List.getElem_drop, Nat.zero_add, nat]
  try rw [fnl_eq_getElem x _ h]

/-- the model, one row at a time -/
theorem slopesFrom_drop (x : List α) (p : ℕ) (h : p < x.length) :
    slopesFrom 0 (x.drop p) = rowOf x p ++ slopesFrom 0 (x.drop (p + 1)) := by
  rw [List.drop_eq_getElem_cons h, slopesFrom_cons, slopesFrom_index (0 + 1) 0, rowOf,
    fnl_eq_getElem x p h]

theorem slopesFrom_short (x : List α) (p : ℕ) (h : x.length ≤ p + 1) : slopesFrom 0 (x.drop p) = [] := by
  rcases Nat.lt_or_ge p x.length with h1 | h1
  · rw [List.drop_eq_getElem_cons h1, List.drop_eq_nil_of_le (by omega)]
    rfl
  · rw [List.drop_eq_nil_of_le h1]; rfl

/-- `nd = int(n * (n - 1) / 2)` is the number of slopes -/
theorem nd_eq (x : List α) :
    (Int.tdiv ((x.length : ℤ) * ((x.length : ℤ) - 1)) 2).toNat = (slopesFrom 0 x).length := by
  rw [slopesFrom_length]
  have h : (x.length : ℤ) * ((x.length : ℤ) - 1) = ((x.length * (x.length - 1) : ℕ) : ℤ) := by
    rcases Nat.eq_zero_or_pos x.length with h0 | h0
    · simp [h0]
    · rw [Nat.cast_mul, Nat.cast_sub h0]; simp
  rw [h, Int.tdiv_eq_ediv_of_nonneg (by positivity)]
  omega

/-- a write at the frontier `L` of the finished prefix extends the prefix -/
theorem take_wr (a : Array α) (i : ℤ) (v : α) (L : ℕ) (hi : i = (L : ℤ)) (hL : L < a.size) :
    (wr a i v).toList.take (L + 1) = a.toList.take L ++ [v] :=
  Hdc.PyNpT.take_wrG a i v L hi hL

/-- the finished prefix `d[:ix]`, then `rem`, is the model's list -/
structure SInv (x : List α) (rem : List α) (d : Array α) (ix : ℤ) : Prop where
  nonneg : 0 ≤ ix
  le : ix.toNat ≤ d.size
  size : d.size = (slopesFrom 0 x).length
  eq : d.toList.take ix.toNat ++ rem = slopesFrom 0 x

theorem SInv.init (x : List α) :
    SInv x (slopesFrom 0 (x.drop 0))
      (npFull (Int.tdiv ((x.length : ℤ) * ((x.length : ℤ) - 1)) 2) (nat 1 : α)) 0 := by
  refine ⟨le_refl _, by simp, ?_, by simp⟩
  simp only [npFull, Array.size_replicate]
  exact nd_eq x

theorem SInv.cast {x : List α} {rem rem' : List α} {d : Array α} {ix : ℤ} (h : SInv x rem d ix)
    (hr : rem = rem') : SInv x rem' d ix := hr ▸ h

/-- entry of the inner loop -/
theorem SInv.enter {x : List α} {p : ℕ} {d : Array α} {ix : ℤ}
    (h : SInv x (slopesFrom 0 (x.drop p)) d ix) (hp : p < x.length) :
    SInv x ((rowOf x p).drop 0 ++ slopesFrom 0 (x.drop (p + 1))) d ix :=
  h.cast (by rw [slopesFrom_drop x p hp]; rfl)

/-- exit of the inner loop -/
theorem SInv.exit {x : List α} {p q : ℕ} {d : Array α} {ix : ℤ}
    (h : SInv x ((rowOf x p).drop q ++ slopesFrom 0 (x.drop (p + 1))) d ix)
    (hq : x.length - (p + 1) ≤ q) : SInv x (slopesFrom 0 (x.drop (p + 1))) d ix :=
  h.cast (by rw [List.drop_eq_nil_of_le (by rw [rowOf_length]; exact hq)]; rfl)

/-- `d[ix] = (x[j] - x[i]) / (j - i); ix += 1` -/
theorem SInv.step {x : List α} {p q : ℕ} {d : Array α} {ix : ℤ} {rest : List α}
    (h : SInv x ((rowOf x p).drop q ++ rest) d ix) (hq : p + 1 + q < x.length)
    {i j : ℤ} (hi : i = (p : ℤ)) (hj : j = ((p + 1 + q : ℕ) : ℤ)) (hc : ((j - i : ℤ) : α) = ((q + 1 : ℕ) : α)) :
    SInv x ((rowOf x p).drop (q + 1) ++ rest)
      (wr d ix ((rd x.toArray j - rd x.toArray i) / ((j - i : ℤ) : α))) (ix + 1) := by
  have hlen : q < (rowOf x p).length := by rw [rowOf_length]; omega
  have hd : (rowOf x p).drop q = (rowOf x p)[q] :: (rowOf x p).drop (q + 1) :=
    List.drop_eq_getElem_cons hlen
  have heq := h.eq
  rw [hd] at heq
  have hlt : ix.toNat < d.size := by
    have := congrArg List.length heq
    simp only [List.length_append, List.length_take, List.length_cons, Array.length_toList] at this
    have h1 := h.le
    have h2 := h.size
    omega
  have hnn := h.nonneg
  refine ⟨by omega, ?_, ?_, ?_⟩
  · rw [Hdc.GenNum.size_wr]; omega
  · rw [Hdc.GenNum.size_wr]; exact h.size
  · rw [show (ix + 1).toNat = ix.toNat + 1 by omega, take_wr d ix _ ix.toNat (by omega) hlt,
      List.append_assoc, ← heq]
    congr 1
    rw [List.singleton_append, List.cons_append]
    congr 1
    rw [rowOf_getElem x p q hq, hc, Hdc.GenNum.rd_of_eq _ _ _ hj, Hdc.GenNum.rd_of_eq _ _ _ hi,
      av_toArray, av_toArray]

/-- after the loops: the whole array is the model's list -/
theorem SInv.final {x : List α} {p : ℕ} {d : Array α} {ix : ℤ}
    (h : SInv x (slopesFrom 0 (x.drop p)) d ix) (hp : x.length ≤ p + 1) :
    d.toList = slopesFrom 0 x := by
  have heq := h.eq
  rw [slopesFrom_short x p hp, List.append_nil] at heq
  have hl := congrArg List.length heq
  rw [List.length_take, Array.length_toList, ← h.size] at hl
  rw [← heq, List.take_of_length_le (by rw [Array.length_toList]; omega)]

end Hdc.GenNumMk
