import Hdc.Lemmas.GenNumTI
import Hdc.Lemmas.SmoothInv
/-
Loop invariants for the refinement proofs "generated translation of ws2doptv / ws2doptvp / _ws2doptvp = hand model"
(Hdc/Props/GenNumOptv*.lean), one per loop the sources share:

  * `WInv`    : the weights loop                 = `weightsOf`, `countValid`;
  * `AccInv`  : `a[k] += t` over a list of terms  = `sumF` (used for `fitSS` and for `penSS`);
  * `Holds`   : the first-difference loop         = `diffs`;
  * `SweepG`  : the loop over the λ grid          = the points (log fit, log roughness) of the sweep;
  * `VInvG`   : the V-curve loop                  = `vcurve`;
  * `ArgInvG` : the first strict minimum          = `argminFirst`.

The last three take the log fit / log roughness of grid point `j` as arbitrary sequences `fA`, `pA`: for ws2doptv
they are functions of `llas[j]` alone (`fAt`, `pAt`), for ws2doptvp they depend on all earlier grid points through the
warm start (`fG`, `pG` of Hdc/Lemmas/GenNumOptvp.lean).

Each invariant comes with its entry, one pass and exit in the shape of the verification conditions of `mvcgen`:
`pyRange a b = pref ++ cur :: suff` is how the condition generator records that `cur` is the current element of
`for … in range(a, b)` after the iterations `pref`; the invariant then holds at `pref.length` and is to be shown at
`(pref ++ [cur]).length`; after the loop it holds at `(pyRange a b).length`.

Nothing in this file mentions a generated kernel other than the translated `ws2d`.
-/
namespace Hdc.GenNum
open Hdc Hdc.Gen.NumKernels
open Hdc.Ws2dGen (av Upd Holds)
open Hdc.Ws2d (fnl fnl_of_lt fnl_of_le)

set_option linter.unusedSectionVars false

variable {α : Type} [Field α] [LinearOrder α] [IsStrictOrderedRing α]

/-! ### one-cell buffers -/

theorem rd_wr_zero (a : Array α) (v : α) (h : 1 ≤ a.size) : rd (wr a 0 v) 0 = v := by
  rw [rd_of_eq _ 0 0 rfl, av_wr_self a 0 v 0 rfl (by omega)]

theorem wr_single (a : Array α) (v : α) (h : a.size = 1) : (wr a 0 v).toList = [v] := by
  apply Hdc.Ws2dGen.toList_eq_of_av
  · simp [h]
  · intro j hj
    have : j = 0 := by simpa using hj
    subst this
    rw [av_wr_self a 0 v 0 rfl (by omega)]
    simp [fnl]

omit [LinearOrder α] [IsStrictOrderedRing α] in
/-- the translated `ws2d` on arbitrary arrays (`C01gen.gen_ws2d_eq_model` states it for arrays that come from lists) -/
theorem gen_ws2d_arrW (a b : Array α) (s : α) (h : b.size = a.size) (h3 : 3 ≤ a.size) :
    Gen.Ws2d.ws2d a s b = (Hdc.ws2d a.toList s b.toList).toArray :=
  Array.toList_inj.1 (C01gen.gen_ws2d_eq_model a.toList b.toList s h h3)

omit [LinearOrder α] [IsStrictOrderedRing α] in
theorem gen_ws2d_toList (y : List α) (ww : Array α) (lam : α) (hlen : ww.size = y.length)
    (h3 : 3 ≤ y.length) : (Gen.Ws2d.ws2d y.toArray lam ww).toList = ws2d y lam ww.toList :=
  congrArg Array.toList (gen_ws2d_arrW y.toArray ww lam hlen h3)

theorem gen_ws2d_size (y : List α) (ww : Array α) (lam : α) (hlen : ww.size = y.length)
    (h3 : 3 ≤ y.length) : (Gen.Ws2d.ws2d y.toArray lam ww).size = y.length := by
  rw [← Array.length_toList, gen_ws2d_toList y ww lam hlen h3,
    C01.ws2d_length y ww.toList lam (by simpa using hlen)]

/-! ### left-to-right sums -/

theorem sumF_take_zero (l : List α) : sumF (l.take 0) = 0 := by simp [sumF, nat]

theorem sumF_take_succ (l : List α) (q : ℕ) (hq : q < l.length) :
    sumF (l.take (q + 1)) = sumF (l.take q) + fnl l q := by
  unfold sumF
  rw [List.take_succ_eq_append_getElem hq, List.foldl_append, fnl_of_lt l q hq]
  simp

/-- `a[k] += t` for the terms `t` of a list, in order: cell `k` holds the running `sumF`, the other
    cells are untouched -/
structure AccInv (a0 a : Array α) (k : ℕ) (terms : List α) (q : ℕ) : Prop where
  size : a.size = a0.size
  other : ∀ j, j ≠ k → av a j = av a0 j
  acc : av a k = sumF (terms.take q)

theorem AccInv.init (a0 : Array α) (k : ℕ) (terms : List α) (h0 : av a0 k = 0) :
    AccInv a0 a0 k terms 0 :=
  ⟨rfl, fun _ _ => rfl, by rw [h0, sumF_take_zero]⟩

/-- `a[k] += t` -/
theorem AccInv.step_wr {a0 a : Array α} {k : ℕ} {terms : List α} {q : ℕ} {t : α} {ci : ℤ}
    (h : AccInv a0 a k terms q) (hk : k < a0.size) (hq : q < terms.length)
    (hci : ci = (k : ℤ)) (ht : t = fnl terms q) :
    AccInv a0 (wr a ci (av a k + t)) k terms (q + 1) := by
  have hu := wr_upd (a0 := a) (v := av a k + t) rfl k hci (by rw [h.size]; exact hk)
  refine ⟨hu.size.trans h.size, fun j hj => by rw [hu.other j hj]; exact h.other j hj, ?_⟩
  rw [hu.self, h.acc, sumF_take_succ terms q hq, ht]

theorem AccInv.final {a0 a : Array α} {k : ℕ} {terms : List α} {q : ℕ}
    (h : AccInv a0 a k terms q) (hq : q = terms.length) : av a k = sumF terms := by
  rw [h.acc, hq, List.take_length]

/-! ### the weights loop -/

/-- the missing-cell test of the V-curve kernels -/
abbrev missNd (nodata : α) : α → Bool := fun x => eqv x nodata

theorem fnl_weightsOf (miss : α → Bool) (y : List α) (i : ℕ) (h : i < y.length) :
    fnl (weightsOf miss y) i = if miss (fnl y i) then 0 else 1 := by
  rw [fnl_of_lt y i h]
  exact Smooth.fn_weightsOf miss y i h

theorem countValid_take_succ (miss : α → Bool) (y : List α) (p : ℕ) (hp : p < y.length) :
    countValid miss (y.take (p + 1)) =
      countValid miss (y.take p) + (if miss (fnl y p) then 0 else 1) := by
  unfold countValid
  rw [List.take_succ_eq_append_getElem hp, List.filter_append, List.length_append,
    fnl_of_lt y p hp]
  by_cases hm : miss y[p] <;> simp [hm]

/-- after `p` passes: cells `< p` of `w` are the model's weights, `n` counts the valid cells -/
structure WInv (nodata : α) (y : List α) (p : ℕ) (w : Array α) (n : ℤ) : Prop where
  hw : Holds y.length (fnl (weightsOf (missNd nodata) y)) p w
  hn : n = (countValid (missNd nodata) (y.take p) : ℤ)

theorem WInv.init (nodata : α) (y : List α) :
    WInv nodata y 0 (Array.replicate y.length (nat 0)) 0 :=
  ⟨⟨by simp, fun j hj => by omega⟩, by simp [countValid]⟩

omit [Field α] [LinearOrder α] [IsStrictOrderedRing α] in
theorem pyRange_done (n : ℕ) : (pyRange 0 (n : ℤ)).length = n := by
  rw [pyRange_length]; omega

/-- `w[ii] = 0`, in the shape of the verification condition -/
theorem WInv.step_miss_gen {nodata : α} {y : List α} {w : Array α} {n cur : ℤ} {pref suff : List ℤ}
    (h : WInv nodata y pref.length w n) (hr : pyRange 0 (y.length : ℤ) = pref ++ cur :: suff)
    (hc : eqv (rd y.toArray cur) nodata = true) :
    WInv nodata y (pref ++ [cur]).length (wr w cur (nat 0)) n := by
  obtain ⟨hci, hp⟩ : cur = (pref.length : ℤ) ∧ pref.length < y.length := by
    have := pyRange_split _ _ _ _ _ hr
    omega
  rw [List.length_append, List.length_singleton]
  rw [rd_of_eq _ cur _ hci, av_list] at hc
  have hu := wr_upd (a0 := w) (v := (nat 0 : α)) rfl _ hci (by rw [h.hw.size]; exact hp)
  refine ⟨h.hw.step hu ?_, ?_⟩
  · rw [fnl_weightsOf _ y _ hp, if_pos hc]; simp [nat]
  · rw [h.hn, countValid_take_succ _ y _ hp, if_pos hc]; simp

/-- `n += 1; w[ii] = 1` -/
theorem WInv.step_valid_gen {nodata : α} {y : List α} {w : Array α} {n cur : ℤ} {pref suff : List ℤ}
    (h : WInv nodata y pref.length w n) (hr : pyRange 0 (y.length : ℤ) = pref ++ cur :: suff)
    (hc : ¬ eqv (rd y.toArray cur) nodata = true) :
    WInv nodata y (pref ++ [cur]).length (wr w cur (nat 1)) (n + 1) := by
  obtain ⟨hci, hp⟩ : cur = (pref.length : ℤ) ∧ pref.length < y.length := by
    have := pyRange_split _ _ _ _ _ hr
    omega
  rw [List.length_append, List.length_singleton]
  rw [rd_of_eq _ cur _ hci, av_list] at hc
  have hu := wr_upd (a0 := w) (v := (nat 1 : α)) rfl _ hci (by rw [h.hw.size]; exact hp)
  refine ⟨h.hw.step hu ?_, ?_⟩
  · rw [fnl_weightsOf _ y _ hp, if_neg hc]; simp [nat]
  · rw [h.hn, countValid_take_succ _ y _ hp, if_neg hc]; simp

theorem WInv.final {nodata : α} {y : List α} {w : Array α} {n : ℤ}
    (h : WInv nodata y (pyRange 0 (y.length : ℤ)).length w n) :
    w = (weightsOf (missNd nodata) y).toArray ∧ n = (countValid (missNd nodata) y : ℤ) := by
  rw [pyRange_done] at h
  refine ⟨eq_toArray_of_av _ _ (by rw [h.hw.size]; simp) (fun j hj => ?_), ?_⟩
  · exact h.hw.get j (by simpa using hj)
  · rw [h.hn, List.take_length]

/-- `if n > 1` taken: `w` is the model's weight vector and the model takes its branch too -/
theorem WInv.valid {nodata : α} {y : List α} {w : Array α} {n : ℤ}
    (h : WInv nodata y (pyRange 0 (y.length : ℤ)).length w n) (hn : decide (n > 1) = true) :
    w = (weightsOf (missNd nodata) y).toArray ∧ 1 < countValid (missNd nodata) y := by
  obtain ⟨hw, hc⟩ := h.final
  have := of_decide_eq_true hn
  exact ⟨hw, by omega⟩

theorem WInv.invalid {nodata : α} {y : List α} {w : Array α} {n : ℤ}
    (h : WInv nodata y (pyRange 0 (y.length : ℤ)).length w n) (hn : ¬ decide (n > 1) = true) :
    ¬ 1 < countValid (missNd nodata) y := by
  obtain ⟨_, hc⟩ := h.final
  intro hv
  exact hn (decide_eq_true (by omega))

/-! ### first differences and the terms of the two sums -/

theorem fnl_diffs (z : List α) (i : ℕ) (hi : i + 1 < z.length) :
    fnl (diffs z) i = fnl z (i + 1) - fnl z i := Smooth.fn_diffs z i hi

theorem fnl_fitTerms (w y z : List α) (i : ℕ) (h1 : i < w.length) (h2 : i < y.length)
    (h3 : i < z.length) :
    fnl (fitTerms w y z) i = fnl w i * (fnl y i - fnl z i) * (fnl w i * (fnl y i - fnl z i)) := by
  have := Smooth.fn_fitTerms w y z i h1 h2 h3
  unfold C01.fn at this
  unfold fnl
  rw [this]; ring

/-- the terms `(Δ² z)²` of the roughness -/
def penTerms (z : List α) : List α := (diffs (diffs z)).map fun t => t * t

theorem penSS_eq (z : List α) : penSS z = sumF (penTerms z) := rfl

theorem penTerms_length (z : List α) : (penTerms z).length = z.length - 2 := by
  unfold penTerms
  rw [List.length_map, Smooth.diffs_length, Smooth.diffs_length]
  omega

theorem fnl_penTerms (z : List α) (i : ℕ) (hi : i + 2 < z.length) :
    fnl (penTerms z) i =
      (fnl (diffs z) (i + 1) - fnl (diffs z) i) * (fnl (diffs z) (i + 1) - fnl (diffs z) i) := by
  have hl : i < (diffs (diffs z)).length := by
    rw [Smooth.diffs_length, Smooth.diffs_length]; omega
  rw [fnl_of_lt _ i (by rw [penTerms_length]; omega)]
  unfold penTerms
  rw [List.getElem_map, ← fnl_of_lt _ i hl,
    fnl_diffs (diffs z) i (by rw [Smooth.diffs_length]; omega)]

theorem fitTerms_length' (w y z : List α) (hw : w.length = y.length) (hz : z.length = y.length) :
    (fitTerms w y z).length = y.length := by
  rw [Smooth.fitTerms_length, hw, hz, min_self, min_self]

/-! ### the sweep over the λ grid -/

section sweep
variable (F : VFns α) (wl y llas : List α)

/-- the smoothed curve of ws2doptv at grid point `l` -/
def zAt (l : α) : List α := ws2d y (F.pow10 l) wl

/-- log of the fit and of the roughness of ws2doptv at grid point `j` -/
def fAt (j : ℕ) : α := F.log (fitSS wl y (zAt F wl y (fnl llas j)))
/-- log of the roughness `Σ (Δ² z)²` of ws2doptv at grid point `j` (`pens[j]`) -/
def pAt (j : ℕ) : α := F.log (penSS (zAt F wl y (fnl llas j)))

/-- after `k` grid points: cells `< k` of `fits` / `pens` hold the model's values, the cells `≥ k`
    are still zero (the source accumulates in place) -/
structure SweepG (fA pA : ℕ → α) (k : ℕ) (fits pens diff1 : Array α) : Prop where
  fsz : fits.size = llas.length
  psz : pens.size = llas.length
  dsz : diff1.size = y.length - 1
  fdone : ∀ j < k, av fits j = fA j
  pdone : ∀ j < k, av pens j = pA j
  frest : ∀ j, k ≤ j → av fits j = 0
  prest : ∀ j, k ≤ j → av pens j = 0

variable {F wl y llas} {fA pA : ℕ → α} {pref suff prefo suffo : List ℤ} {cur k : ℤ}

theorem SweepG.init :
    SweepG y llas fA pA 0 (Array.replicate (llas.length : ℤ).toNat (nat 0))
      (Array.replicate (llas.length : ℤ).toNat (nat 0))
      (Array.replicate ((y.length : ℤ) - 1).toNat (nat 0)) := by
  refine ⟨by rw [Array.size_replicate]; omega, by rw [Array.size_replicate]; omega,
    by rw [Array.size_replicate]; omega, fun j hj => by omega, fun j hj => by omega, ?_, ?_⟩ <;>
  · intro j _
    simpa [nat] using Hdc.Ws2dGen.av_replicate (α := α) llas.length j

/-- entry of `fits[lix] += …`: the cell is still zero -/
theorem SweepG.fit_init {fits pens d : Array α} (hS : SweepG y llas fA pA prefo.length fits pens d)
    (hro : pyRange 0 (llas.length : ℤ) = prefo ++ k :: suffo) (terms : List α) :
    AccInv fits fits k.toNat terms 0 :=
  AccInv.init _ _ _ (hS.frest _ (by have := pyRange_split _ _ _ _ _ hro; omega))

/-- `fits[lix] += (w[i] * (y[i] - z[i]))²` -/
theorem SweepG.fit_step {fits0 pens0 d fits z wA : Array α}
    (hS : SweepG y llas fA pA prefo.length fits0 pens0 d)
    (hro : pyRange 0 (llas.length : ℤ) = prefo ++ k :: suffo)
    (h : AccInv fits0 fits k.toNat (fitTerms wl y z.toList) pref.length)
    (hr : pyRange 0 (y.length : ℤ) = pref ++ cur :: suff)
    (hwA : wA = wl.toArray) (hwl : wl.length = y.length) (hz : z.size = y.length) :
    AccInv fits0
      (wr fits k (rd fits k + rd wA cur * (rd y.toArray cur - rd z cur) *
        (rd wA cur * (rd y.toArray cur - rd z cur))))
      k.toNat (fitTerms wl y z.toList) (pref ++ [cur]).length := by
  obtain ⟨hk, hkl⟩ := pyRange_split _ _ _ _ _ hro
  obtain ⟨hci, hq⟩ := pyRange_split _ _ _ _ _ hr
  rw [zero_add] at hk hkl hci hq
  subst hwA
  have hzl : z.toList.length = y.length := by simpa using hz
  rw [rd_nonneg fits k (by omega), List.length_append, List.length_singleton]
  refine h.step_wr (by rw [hS.fsz]; omega) (by rw [fitTerms_length' _ _ _ hwl hzl]; omega)
    (by omega) ?_
  rw [fnl_fitTerms _ _ _ pref.length (by omega) (by omega) (by omega), rd_of_eq _ cur _ hci,
    rd_of_eq _ cur _ hci, rd_of_eq _ cur _ hci, av_list, av_list, av_eq_fnl_toList]

/-- `diff1[i] = z[i+1] - z[i]` -/
theorem diffs_step {z d : Array α} (h : Holds (y.length - 1) (fnl (diffs z.toList)) pref.length d)
    (hr : pyRange 0 ((y.length : ℤ) - 1) = pref ++ cur :: suff) (hz : z.size = y.length) :
    Holds (y.length - 1) (fnl (diffs z.toList)) (pref ++ [cur]).length
      (wr d cur (rd z (cur + 1) - rd z cur)) := by
  obtain ⟨hci, hq⟩ := pyRange_split _ _ _ _ _ hr
  rw [zero_add] at hci hq
  have hzl : z.toList.length = y.length := by simpa using hz
  rw [List.length_append, List.length_singleton]
  refine h.step (wr_upd rfl pref.length hci (by rw [h.size]; omega)) ?_
  rw [fnl_diffs _ pref.length (by omega), rd_of_eq z (cur + 1) (pref.length + 1) (by omega),
    rd_of_eq z cur _ hci, av_eq_fnl_toList, av_eq_fnl_toList]

/-- entry of `pens[lix] += …` -/
theorem SweepG.pen_init {fits pens d : Array α} (hS : SweepG y llas fA pA prefo.length fits pens d)
    (hro : pyRange 0 (llas.length : ℤ) = prefo ++ k :: suffo) (terms : List α) :
    AccInv pens pens k.toNat terms 0 :=
  AccInv.init _ _ _ (hS.prest _ (by have := pyRange_split _ _ _ _ _ hro; omega))

/-- `pens[lix] += (diff1[i+1] - diff1[i])²` -/
theorem SweepG.pen_step {fits0 pens0 d0 pens z d : Array α}
    (hS : SweepG y llas fA pA prefo.length fits0 pens0 d0)
    (hro : pyRange 0 (llas.length : ℤ) = prefo ++ k :: suffo)
    (h : AccInv pens0 pens k.toNat (penTerms z.toList) pref.length)
    (hH : Holds (y.length - 1) (fnl (diffs z.toList)) (pyRange 0 ((y.length : ℤ) - 1)).length d)
    (hr : pyRange 0 ((y.length : ℤ) - 2) = pref ++ cur :: suff) (hz : z.size = y.length) :
    AccInv pens0
      (wr pens k (rd pens k + (rd d (cur + 1) - rd d cur) * (rd d (cur + 1) - rd d cur)))
      k.toNat (penTerms z.toList) (pref ++ [cur]).length := by
  obtain ⟨hk, hkl⟩ := pyRange_split _ _ _ _ _ hro
  obtain ⟨hci, hq⟩ := pyRange_split _ _ _ _ _ hr
  rw [zero_add] at hk hkl hci hq
  rw [pyRange_length] at hH
  have hzl : z.toList.length = y.length := by simpa using hz
  rw [rd_nonneg pens k (by omega), List.length_append, List.length_singleton]
  refine h.step_wr (by rw [hS.psz]; omega) (by rw [penTerms_length]; omega) (by omega) ?_
  rw [fnl_penTerms _ pref.length (by omega), rd_of_eq d (cur + 1) (pref.length + 1) (by omega),
    rd_of_eq d cur _ hci, hH.get _ (by omega), hH.get _ (by omega)]

/-- end of one grid point, whose curve `z` is the model's `zc`: the two accumulations are complete;
    `fits[lix] = log(fits[lix])`, `pens[lix] = log(pens[lix])` -/
theorem SweepG.step {fits pens d fits1 pens1 d' z : Array α} {zc : List α}
    (hS : SweepG y llas fA pA prefo.length fits pens d)
    (hro : pyRange 0 (llas.length : ℤ) = prefo ++ k :: suffo)
    (hwl : wl.length = y.length) (hz : z.size = y.length) (hzc : z.toList = zc)
    (hfA : fA prefo.length = F.log (fitSS wl y zc)) (hpA : pA prefo.length = F.log (penSS zc))
    (hF : AccInv fits fits1 k.toNat (fitTerms wl y z.toList) (pyRange 0 (y.length : ℤ)).length)
    (hH : Holds (y.length - 1) (fnl (diffs z.toList)) (pyRange 0 ((y.length : ℤ) - 1)).length d')
    (hP : AccInv pens pens1 k.toNat (penTerms z.toList) (pyRange 0 ((y.length : ℤ) - 2)).length) :
    SweepG y llas fA pA (prefo ++ [k]).length (wr fits1 k (F.log (rd fits1 k)))
      (wr pens1 k (F.log (rd pens1 k))) d' := by
  obtain ⟨hk, hkl⟩ := pyRange_split _ _ _ _ _ hro
  rw [zero_add] at hk hkl
  subst hzc
  have hzl : z.toList.length = y.length := by simpa using hz
  rw [show k.toNat = prefo.length by omega, pyRange_length] at hF hP
  rw [rd_of_eq fits1 k _ hk, rd_of_eq pens1 k _ hk, List.length_append, List.length_singleton]
  have huf := wr_upd (a0 := fits1) (v := F.log (av fits1 prefo.length)) rfl _ hk
    (by rw [hF.size, hS.fsz]; omega)
  have hup := wr_upd (a0 := pens1) (v := F.log (av pens1 prefo.length)) rfl _ hk
    (by rw [hP.size, hS.psz]; omega)
  refine ⟨huf.size.trans (hF.size.trans hS.fsz), hup.size.trans (hP.size.trans hS.psz), hH.size,
    fun j hj => ?_, fun j hj => ?_, fun j hj => ?_, fun j hj => ?_⟩
  · by_cases hjk : j = prefo.length
    · subst hjk
      rw [huf.self, hF.final (by rw [fitTerms_length' _ _ _ hwl hzl]; omega), hfA]; rfl
    · rw [huf.other j hjk, hF.other j hjk]; exact hS.fdone j (by omega)
  · by_cases hjk : j = prefo.length
    · subst hjk
      rw [hup.self, hP.final (by rw [penTerms_length]; omega), hpA]; rfl
    · rw [hup.other j hjk, hP.other j hjk]; exact hS.pdone j (by omega)
  · rw [huf.other j (by omega), hF.other j (by omega)]; exact hS.frest j (by omega)
  · rw [hup.other j (by omega), hP.other j (by omega)]; exact hS.prest j (by omega)

/-! ### the V-curve -/

variable (F llas)

/-- the V-curve of the model: `(v[i], lamids[i])` -/
def vclG (fA pA : ℕ → α) : List (α × α) :=
  vcurve F (gridStep llas) ((List.range llas.length).map fun j => (fnl llas j, fA j, pA j))

/-- … read as a function -/
def vcfG (fA pA : ℕ → α) (j : ℕ) : α × α := (vclG F llas fA pA).getD j (0, 0)

theorem vclG_length (fA pA : ℕ → α) : (vclG F llas fA pA).length = llas.length - 1 := by
  unfold vclG; rw [Smooth.vcurve_length, List.length_map, List.length_range]

theorem gridStep_eq (h2 : 2 ≤ llas.length) : gridStep llas = fnl llas 1 - fnl llas 0 := by
  match llas, h2 with
  | a :: b :: rest, _ => simp [gridStep, fnl]

theorem vcfG_eq (fA pA : ℕ → α) (j : ℕ) (hj : j + 1 < llas.length) :
    vcfG F llas fA pA j =
      (F.sqrt ((fA (j + 1) - fA j) * (fA (j + 1) - fA j) + (pA (j + 1) - pA j) * (pA (j + 1) - pA j))
        / (F.ln10 * (fnl llas 1 - fnl llas 0)),
       (fnl llas j + fnl llas (j + 1)) / 2) := by
  have hl : j < (vclG F llas fA pA).length := by rw [vclG_length]; omega
  unfold vcfG
  rw [List.getD_eq_getElem?_getD, List.getElem?_eq_getElem hl, Option.getD_some]
  have hg := Smooth.vcurve_getElem F (gridStep llas)
    ((List.range llas.length).map fun j => (fnl llas j, fA j, pA j)) j
    (by rw [List.length_map, List.length_range]; exact hj)
  refine hg.trans ?_
  simp only [List.getElem_map, List.getElem_range, Smooth.vval, gridStep_eq llas (by omega)]

/-- after `q` passes: cells `< q` of `v` and `lamids` hold the model's V-curve -/
structure VInvG (fA pA : ℕ → α) (q : ℕ) (lamids v : Array α) : Prop where
  hv : Holds (llas.length - 1) (fun j => (vcfG F llas fA pA j).1) q v
  hl : Holds (llas.length - 1) (fun j => (vcfG F llas fA pA j).2) q lamids

variable {F llas}

theorem VInvG.init :
    VInvG F llas fA pA 0 (Array.replicate ((llas.length : ℤ) - 1).toNat (nat 0))
      (Array.replicate ((llas.length : ℤ) - 1).toNat (nat 0)) :=
  ⟨⟨by simp, fun j hj => by omega⟩, ⟨by simp, fun j hj => by omega⟩⟩

/-- `v[i] = sqrt((fits[i+1] - fits[i])² + (pens[i+1] - pens[i])²) / (ln 10 · llastep)`,
    `lamids[i] = (llas[i] + llas[i+1]) / 2` -/
theorem VInvG.step {fits pens d lamids v : Array α}
    (h : VInvG F llas fA pA pref.length lamids v)
    (hS : SweepG y llas fA pA (pyRange 0 (llas.length : ℤ)).length fits pens d)
    (hr : pyRange 0 ((llas.length : ℤ) - 1) = pref ++ cur :: suff) :
    VInvG F llas fA pA (pref ++ [cur]).length
      (wr lamids cur ((rd llas.toArray cur + rd llas.toArray (cur + 1)) / nat 2))
      (wr v cur (F.sqrt ((rd fits (cur + 1) - rd fits cur) * (rd fits (cur + 1) - rd fits cur) +
          (rd pens (cur + 1) - rd pens cur) * (rd pens (cur + 1) - rd pens cur)) /
        (F.ln10 * (rd llas.toArray 1 - rd llas.toArray 0)))) := by
  obtain ⟨hci, hq⟩ := pyRange_split _ _ _ _ _ hr
  rw [zero_add] at hci hq
  rw [pyRange_done] at hS
  have hc1 : cur + 1 = ((pref.length + 1 : ℕ) : ℤ) := by omega
  rw [List.length_append, List.length_singleton]
  refine ⟨h.hv.step (wr_upd rfl pref.length hci (by rw [h.hv.size]; omega)) ?_,
    h.hl.step (wr_upd rfl pref.length hci (by rw [h.hl.size]; omega)) ?_⟩
  · rw [vcfG_eq _ _ _ _ _ (by omega), rd_of_eq fits cur _ hci, rd_of_eq fits (cur + 1) _ hc1,
      rd_of_eq pens cur _ hci, rd_of_eq pens (cur + 1) _ hc1, rd_of_eq _ 1 1 rfl, rd_of_eq _ 0 0 rfl,
      av_list llas, av_list llas, hS.fdone _ (by omega), hS.fdone _ (by omega), hS.pdone _ (by omega),
      hS.pdone _ (by omega)]
  · rw [vcfG_eq _ _ _ _ _ (by omega), rd_of_eq _ cur _ hci, rd_of_eq _ (cur + 1) _ hc1, av_list llas,
      av_list llas]
    simp only [nat, Nat.cast_ofNat]

/-! ### the first strict minimum -/

/-- `if v[i] < vmin` -/
def sel (best c : α × α) : α × α := if c.1 < best.1 then c else best

/-- the running minimum after `p` comparisons -/
def amin (vc : List (α × α)) (p : ℕ) : α × α :=
  ((vc.drop 1).take p).foldl sel (vc.getD 0 (0, 0))

theorem amin_zero (vc : List (α × α)) : amin vc 0 = vc.getD 0 (0, 0) := by simp [amin]

theorem amin_succ (vc : List (α × α)) (p : ℕ) (hp : p + 1 < vc.length) :
    amin vc (p + 1) = sel (amin vc p) (vc.getD (p + 1) (0, 0)) := by
  unfold amin
  have hq : p < (vc.drop 1).length := by rw [List.length_drop]; omega
  rw [List.take_succ_eq_append_getElem hq, List.foldl_append]
  simp only [List.foldl_cons, List.foldl_nil, List.getElem_drop]
  congr 1
  rw [List.getD_eq_getElem?_getD, List.getElem?_eq_getElem hp, Option.getD_some]
  congr 1
  omega

theorem argminFirst_eq (vc : List (α × α)) (h : 1 ≤ vc.length) :
    argminFirst vc = some (amin vc (vc.length - 1)) := by
  match vc, h with
  | x :: xs, _ =>
    simp only [argminFirst, amin, List.drop_one, List.tail_cons, List.length_cons,
      Nat.add_sub_cancel, List.take_length, List.getD_cons_zero]
    rfl

variable (F llas)

/-- after `q` comparisons: `k` is the index of the running minimum `vmin` -/
def ArgInvG (fA pA : ℕ → α) (q : ℕ) (k : ℤ) (vmin : α) : Prop :=
  ∃ kn : ℕ, k = (kn : ℤ) ∧ kn + 1 < llas.length ∧
    vcfG F llas fA pA kn = amin (vclG F llas fA pA) q ∧ vmin = (amin (vclG F llas fA pA) q).1

variable {F llas}

/-- entry of the minimum loop: `k = 0`, `vmin = v[0]` -/
theorem ArgInvG.init {lamids v : Array α} (h2 : 2 ≤ llas.length)
    (hV : VInvG F llas fA pA (pyRange 0 ((llas.length : ℤ) - 1)).length lamids v) :
    ArgInvG F llas fA pA 0 0 (rd v 0) := by
  rw [pyRange_length] at hV
  refine ⟨0, rfl, by omega, by rw [amin_zero]; rfl, ?_⟩
  rw [amin_zero, rd_of_eq v 0 0 rfl]
  exact hV.hv.get 0 (by omega)

/-- the comparison `v[i] < vmin` in terms of the model -/
theorem ArgInvG.cmp {lamids v : Array α} {vmin : α} (h : ArgInvG F llas fA pA pref.length k vmin)
    (hV : VInvG F llas fA pA (pyRange 0 ((llas.length : ℤ) - 1)).length lamids v)
    (hr : pyRange 1 ((llas.length : ℤ) - 1) = pref ++ cur :: suff) :
    cur = ((pref.length + 1 : ℕ) : ℤ) ∧ pref.length + 2 < llas.length ∧
      rd v cur = (vcfG F llas fA pA (pref.length + 1)).1 ∧
      amin (vclG F llas fA pA) (pref.length + 1) =
        if rd v cur < vmin then vcfG F llas fA pA (pref.length + 1)
        else amin (vclG F llas fA pA) pref.length := by
  obtain ⟨hci, hq⟩ := pyRange_split _ _ _ _ _ hr
  rw [pyRange_length] at hV
  obtain ⟨kn, _, _, _, hm⟩ := h
  have hc : rd v cur = (vcfG F llas fA pA (pref.length + 1)).1 := by
    rw [rd_of_eq v cur (pref.length + 1) (by omega)]; exact hV.hv.get _ (by omega)
  refine ⟨by omega, by omega, hc, ?_⟩
  rw [amin_succ (vclG F llas fA pA) pref.length (by rw [vclG_length]; omega), sel, hc, hm]
  rfl

/-- `v[i] < vmin`: `vmin = v[i]; k = i` -/
theorem ArgInvG.step_lt {lamids v : Array α} {vmin : α}
    (h : ArgInvG F llas fA pA pref.length k vmin)
    (hV : VInvG F llas fA pA (pyRange 0 ((llas.length : ℤ) - 1)).length lamids v)
    (hr : pyRange 1 ((llas.length : ℤ) - 1) = pref ++ cur :: suff)
    (hlt : decide (rd v cur < vmin) = true) :
    ArgInvG F llas fA pA (pref ++ [cur]).length cur (rd v cur) := by
  obtain ⟨hci, hq, hc, hsel⟩ := h.cmp hV hr
  rw [if_pos (of_decide_eq_true hlt)] at hsel
  rw [List.length_append, List.length_singleton]
  exact ⟨pref.length + 1, hci, by omega, hsel.symm, by rw [hsel]; exact hc⟩

/-- otherwise `k`, `vmin` stay -/
theorem ArgInvG.step_ge {lamids v : Array α} {vmin : α}
    (h : ArgInvG F llas fA pA pref.length k vmin)
    (hV : VInvG F llas fA pA (pyRange 0 ((llas.length : ℤ) - 1)).length lamids v)
    (hr : pyRange 1 ((llas.length : ℤ) - 1) = pref ++ cur :: suff)
    (hge : ¬ decide (rd v cur < vmin) = true) :
    ArgInvG F llas fA pA (pref ++ [cur]).length k vmin := by
  obtain ⟨_, _, _, hsel⟩ := h.cmp hV hr
  rw [if_neg fun hlt => hge (decide_eq_true hlt)] at hsel
  obtain ⟨kn, hk, hkn, hb, hm⟩ := h
  rw [List.length_append, List.length_singleton]
  exact ⟨kn, hk, hkn, by rw [hsel]; exact hb, by rw [hsel]; exact hm⟩

/-- the λ the model selects (as its log₁₀) -/
def lbestG (F : VFns α) (llas : List α) (fA pA : ℕ → α) : α :=
  (amin (vclG F llas fA pA) (llas.length - 2)).2

/-- at the end of the minimum loop `lamids[k]` is the model's choice -/
theorem ArgInvG.final {vmin : α} {lamids v : Array α}
    (h : ArgInvG F llas fA pA (pyRange 1 ((llas.length : ℤ) - 1)).length k vmin)
    (hV : VInvG F llas fA pA (pyRange 0 ((llas.length : ℤ) - 1)).length lamids v)
    (h2 : 2 ≤ llas.length) : rd lamids k = lbestG F llas fA pA := by
  rw [pyRange_length] at h hV
  obtain ⟨kn, hk, hkn, hb, _⟩ := h
  rw [rd_of_eq lamids k kn hk, hV.hl.get kn (by omega), hb, lbestG]
  congr 2
  omega

/-! ### the model of ws2doptv, in the terms of the invariants -/

omit [LinearOrder α] [IsStrictOrderedRing α] in
theorem map_eq_range_map {β : Type} (l : List α) (f : α → β) :
    l.map f = (List.range l.length).map fun j => f (fnl l j) := by
  apply List.ext_getElem (by simp)
  intro i h1 _
  simp [fnl_of_lt l i (by simpa using h1)]

theorem vpts_optv (F : VFns α) (wl y llas : List α) :
    Smooth.vpts F wl y llas (fun (_ : Unit) lam => ((), ws2d y lam wl)) () =
      (List.range llas.length).map fun j => (fnl llas j, fAt F wl y llas j, pAt F wl y llas j) := by
  rw [Smooth.vpts_unit, map_eq_range_map]
  rfl

theorem optv_valid (F : VFns α) (miss : α → Bool) (y llas : List α)
    (h1 : 1 < countValid miss y) (h2 : 2 ≤ llas.length) :
    optv F miss y llas =
      some (ws2d y (F.pow10 (lbestG F llas (fAt F (weightsOf miss y) y llas)
          (pAt F (weightsOf miss y) y llas))) (weightsOf miss y),
        F.pow10 (lbestG F llas (fAt F (weightsOf miss y) y llas) (pAt F (weightsOf miss y) y llas))) := by
  rw [Smooth.optv_unfold, if_pos h1, Smooth.vselect_eq, vpts_optv]
  have hvc : vcurve F (gridStep llas) ((List.range llas.length).map fun j =>
      (fnl llas j, fAt F (weightsOf miss y) y llas j, pAt F (weightsOf miss y) y llas j)) =
      vclG F llas (fAt F (weightsOf miss y) y llas) (pAt F (weightsOf miss y) y llas) := rfl
  rw [hvc, argminFirst_eq _ (by rw [vclG_length]; omega), vclG_length]
  simp only [Option.map_some, lbestG]
  congr 4

theorem optv_invalid (F : VFns α) (miss : α → Bool) (y llas : List α)
    (h1 : ¬ 1 < countValid miss y) : optv F miss y llas = none := by
  rw [Smooth.optv_unfold, if_neg h1]

/-- `z = ws2d(y, 10 ** llas[lix], w)` is the model's curve of this grid point -/
theorem zAt_gen {wA : Array α} (hro : pyRange 0 (llas.length : ℤ) = prefo ++ k :: suffo)
    (hwA : wA = wl.toArray) (hwl : wl.length = y.length) (h3 : 3 ≤ y.length) :
    (Gen.Ws2d.ws2d y.toArray (F.pow10 (rd llas.toArray k)) wA).toList =
      zAt F wl y (fnl llas prefo.length) := by
  obtain ⟨hk, _⟩ := pyRange_split _ _ _ _ _ hro
  subst hwA
  rw [gen_ws2d_toList y _ _ (by simpa using hwl) h3, rd_of_eq _ k prefo.length (by omega), av_list]
  rfl

end sweep

end Hdc.GenNum
