import Hdc.Lemmas.GenNumOptv
import Hdc.Lemmas.SmoothIrls
import Hdc.PyNpV
/-
Loop invariants for the refinement proofs "generated translation of ws2doptvp / _ws2doptvp / ws2doptvplc = hand
model `Hdc.optvp` / `Hdc.optvpCore` / `Hdc.optvplc`" (Hdc/Props/GenNumOptvp*.lean), one per loop of the source:

  * `WInv`, `AccInv`, `Holds`, `SweepG`, `VInvG`, `ArgInvG` : the loops shared with ws2doptv (Hdc/Lemmas/GenNumOptv.lean);
  * `AWInv`  : `wa[j] = p if y[j] > z[j] else 1 - p; ww[j] = w[j] * wa[j]`  = `asymW`;
  * `L1Inv`  : `z_tmp += abs(znew[j] - z[j])`                                = `l1dist`;
  * `IInv`   : the re-weighting loop `for i in range(10)` with its `break`    = `irls` (continuation form);
  * `SweepP` : the loop over the λ grid, warm-started                         = the points of the sweep of `vselect`.

Each invariant comes with its entry, one pass and exit in the shape of the verification conditions of `mvcgen`, so
that the three kernels, which share these loops, use the same lemmas.  No generated kernel is mentioned here.
-/
namespace Hdc.GenNum
open Hdc Hdc.Gen.NumKernels
open Hdc.Ws2dGen (av Upd Holds)
open Hdc.Ws2d (fnl fnl_of_lt fnl_of_le)

set_option linter.unusedSectionVars false

variable {α : Type} [Field α] [LinearOrder α] [IsStrictOrderedRing α]

/-! ### arrays as lists -/

theorem toList_replicate_zero (y : List α) (n : ℕ) (hn : n = y.length) :
    (Array.replicate n (nat 0 : α)).toList = zerosLike y := by
  subst hn
  rw [Smooth.zerosLike_eq_replicate]
  simp [nat]

variable {pref suff : List ℤ} {cur : ℤ}

/-! ### the asymmetric weights loop -/

theorem fnl_asymW (p : α) (w y z : List α) (i : ℕ) (h1 : i < w.length) (h2 : i < y.length)
    (h3 : i < z.length) :
    fnl (asymW p w y z) i = fnl w i * (if fnl z i < fnl y i then p else 1 - p) := by
  have := Smooth.fn_asymW p w y z i h1 h2 h3
  unfold C01.fn at this
  unfold fnl
  rw [this]; rfl

/-- after `q` passes of `for j in range(m)`: cells `< q` of `ww` hold the model's re-weighted weights -/
structure AWInv (p : α) (w y zl : List α) (q : ℕ) (wa ww : Array α) : Prop where
  asz : wa.size = y.length
  hw : Holds y.length (fnl (asymW p w y zl)) q ww

theorem AWInv.init {p : α} {w y zl : List α} {wa ww : Array α} (ha : wa.size = y.length)
    (hw : ww.size = y.length) : AWInv p w y zl 0 wa ww :=
  ⟨ha, hw, fun j hj => by omega⟩

/-- `wa[j] = c; ww[j] = w[j] * wa[j]` where `c` is `p` or `p1` according to the test -/
theorem AWInv.step_rd {p : α} {w y : List α} {z wA wa ww : Array α} {c : α}
    (h : AWInv p w y z.toList pref.length wa ww) (hr : pyRange 0 (y.length : ℤ) = pref ++ cur :: suff)
    (hwA : wA = w.toArray) (hwl : w.length = y.length) (hz : z.size = y.length)
    (hc : c = if rd z cur < rd y.toArray cur then p else nat 1 - p) :
    AWInv p w y z.toList (pref ++ [cur]).length (wr wa cur c)
      (wr ww cur (rd wA cur * rd (wr wa cur c) cur)) := by
  obtain ⟨hci, hq⟩ := pyRange_split _ _ _ _ _ hr
  rw [zero_add] at hci hq
  have hq : pref.length < y.length := by omega
  have hzl : z.toList.length = y.length := by simpa using hz
  subst hwA
  rw [List.length_append, List.length_singleton]
  refine ⟨by rw [size_wr]; exact h.asz, ?_⟩
  refine h.hw.step (wr_upd rfl _ hci (by rw [h.hw.size]; exact hq)) ?_
  rw [rd_of_eq _ cur _ hci, rd_of_eq _ cur _ hci, av_list, av_wr_self wa cur c _ hci (by rw [h.asz]; exact hq),
    hc, rd_of_eq z cur _ hci, rd_of_eq _ cur _ hci, av_eq_fnl_toList, av_list,
    fnl_asymW p w y z.toList _ (by omega) hq (by omega)]
  simp [nat]

/-- `y[j] > z[j]`: `wa[j] = p` -/
theorem AWInv.step_p {p : α} {w y : List α} {z wA wa ww : Array α}
    (h : AWInv p w y z.toList pref.length wa ww) (hr : pyRange 0 (y.length : ℤ) = pref ++ cur :: suff)
    (hwA : wA = w.toArray) (hwl : w.length = y.length) (hz : z.size = y.length)
    (hlt : decide (rd z cur < rd y.toArray cur) = true) :
    AWInv p w y z.toList (pref ++ [cur]).length (wr wa cur p)
      (wr ww cur (rd wA cur * rd (wr wa cur p) cur)) :=
  h.step_rd hr hwA hwl hz (if_pos (of_decide_eq_true hlt)).symm

/-- otherwise: `wa[j] = p1` (`p1 = 1 - p`) -/
theorem AWInv.step_p1 {p : α} {w y : List α} {z wA wa ww : Array α}
    (h : AWInv p w y z.toList pref.length wa ww) (hr : pyRange 0 (y.length : ℤ) = pref ++ cur :: suff)
    (hwA : wA = w.toArray) (hwl : w.length = y.length) (hz : z.size = y.length)
    (hge : ¬ decide (rd z cur < rd y.toArray cur) = true) :
    AWInv p w y z.toList (pref ++ [cur]).length (wr wa cur (nat 1 - p))
      (wr ww cur (rd wA cur * rd (wr wa cur (nat 1 - p)) cur)) :=
  h.step_rd hr hwA hwl hz (if_neg fun hlt => hge (decide_eq_true hlt)).symm

theorem AWInv.final {p : α} {w y : List α} {z wa ww : Array α}
    (h : AWInv p w y z.toList (pyRange 0 (y.length : ℤ)).length wa ww) (hwl : w.length = y.length)
    (hz : z.size = y.length) : ww.toList = asymW p w y z.toList := by
  rw [pyRange_done] at h
  have hzl : z.toList.length = y.length := by simpa using hz
  apply Hdc.Ws2dGen.toList_eq_of_av
  · rw [h.hw.size]; simp [Smooth.asymW_length, hwl, hzl]
  · intro j hj
    exact h.hw.get j (by simpa [Smooth.asymW_length, hwl, hzl] using hj)

/-! ### the L1 distance loop -/

/-- the terms `|znew[j] - z[j]|` -/
def l1terms (a b : List α) : List α := List.zipWith (fun x y => absv (x - y)) a b

theorem l1dist_eq (a b : List α) : l1dist a b = sumF (l1terms a b) := rfl

theorem l1terms_length (a b : List α) : (l1terms a b).length = min a.length b.length := by
  simp [l1terms]

theorem fnl_l1terms (a b : List α) (i : ℕ) (h1 : i < a.length) (h2 : i < b.length) :
    fnl (l1terms a b) i = absv (fnl a i - fnl b i) := by
  rw [fnl_of_lt _ i (by rw [l1terms_length]; omega), fnl_of_lt a i h1, fnl_of_lt b i h2]
  simp [l1terms]

/-- `z_tmp += abs(znew[j] - z[j])` -/
def L1Inv (a b : List α) (q : ℕ) (acc : α) : Prop := acc = sumF ((l1terms a b).take q)

theorem L1Inv.init (a b : List α) : L1Inv a b 0 (nat 0 : α) := by
  unfold L1Inv; rw [sumF_take_zero]; simp [nat]

theorem L1Inv.step_rd {a b : Array α} {acc : α} {n : ℕ} (h : L1Inv a.toList b.toList pref.length acc)
    (hr : pyRange 0 (n : ℤ) = pref ++ cur :: suff) (ha : a.size = n) (hb : b.size = n) :
    L1Inv a.toList b.toList (pref ++ [cur]).length (acc + absv (rd a cur - rd b cur)) := by
  obtain ⟨hci, hq⟩ := pyRange_split _ _ _ _ _ hr
  rw [zero_add] at hci hq
  unfold L1Inv at *
  rw [List.length_append, List.length_singleton,
    sumF_take_succ _ _ (by rw [l1terms_length]; simp; omega), ← h,
    fnl_l1terms _ _ _ (by simp; omega) (by simp; omega), rd_of_eq a cur _ hci, rd_of_eq b cur _ hci,
    av_eq_fnl_toList, av_eq_fnl_toList]

theorem L1Inv.final {a b : Array α} {acc : α} {n : ℕ}
    (h : L1Inv a.toList b.toList (pyRange 0 (n : ℤ)).length acc) (ha : a.size = n) (hb : b.size = n) :
    acc = l1dist a.toList b.toList := by
  unfold L1Inv at h
  rw [h, l1dist_eq, List.take_of_length_le (by rw [l1terms_length, pyRange_done, Array.length_toList, Array.length_toList, ha, hb, min_self])]

/-! ### the re-weighting loop -/

/-- after `q` passes of `for i in range(10)`: the model's loop, continued from the current curve with the
    remaining budget, returns `R` (the value of the model's loop on the state at loop entry).  At `q = 10` (the
    budget is used up, or the loop was left by `break`) the current state *is* `R`. -/
structure IInv (y w : List α) (lam p : α) (R : List α × List α) (q : ℕ) (z znew wa ww : Array α) :
    Prop where
  zsz : z.size = y.length
  nsz : znew.size = y.length
  asz : wa.size = y.length
  wsz : ww.size = y.length
  cont : irls y w lam p (10 - q) z.toList ww.toList = R

/-- entry: the weights of the previous pass are irrelevant (the budget is positive) -/
theorem IInv.init {y w : List α} {lam p : α} {z znew wa ww : Array α} (ww0 : List α)
    (hz : z.size = y.length) (hn : znew.size = y.length) (ha : wa.size = y.length)
    (hw : ww.size = y.length) :
    IInv y w lam p (irls y w lam p 10 z.toList ww0) 0 z znew wa ww :=
  ⟨hz, hn, ha, hw, rfl⟩

omit [Field α] [LinearOrder α] [IsStrictOrderedRing α] in
theorem pyRange_ten : (pyRange 0 10).length = 10 := pyRange_done 10

/-- the size of `znew` after `znew[:] = …` -/
theorem IInv.size_znew_set {y w : List α} {lam p : α} {R : List α × List α} {q : ℕ}
    {z znew wa ww : Array α} {hi : ℤ} (h : IInv y w lam p R q z znew wa ww) (hhi : hi = (y.length : ℤ))
    (v : Array α) : (PyNpV.npSetSlice znew 0 hi v).size = y.length := by
  rw [PyNpV.size_npSetSlice_full _ _ _ (by rw [hhi, h.nsz]), h.nsz]

/-- one pass of the model's loop, from the state of the source after `znew[:] = ws2d(y, lam, ww)` and the
    L1 loop: `ww` are the re-weighted weights, `znew` the new curve, `acc` its distance from `z` -/
theorem IInv.pass {y w : List α} {lam p : α} {R : List α × List α}
    {z znew wa ww wa' ww' : Array α} {acc : α} {hi : ℤ}
    (h : IInv y w lam p R pref.length z znew wa ww) (hr : pyRange 0 10 = pref ++ cur :: suff)
    (h3 : 3 ≤ y.length) (hwl : w.length = y.length)
    (hA : AWInv p w y z.toList (pyRange 0 (y.length : ℤ)).length wa' ww')
    (hL : L1Inv (PyNpV.npSetSlice znew 0 hi (Gen.Ws2d.ws2d y.toArray lam ww')).toList z.toList
      (pyRange 0 (y.length : ℤ)).length acc)
    (hhi : hi = (y.length : ℤ)) :
    PyNpV.npSetSlice znew 0 hi (Gen.Ws2d.ws2d y.toArray lam ww') = Gen.Ws2d.ws2d y.toArray lam ww' ∧
      (Gen.Ws2d.ws2d y.toArray lam ww').size = y.length ∧ ww'.size = y.length ∧
      (if eqv acc (nat 0) then (z.toList, ww'.toList)
        else irls y w lam p (10 - (pref.length + 1)) (Gen.Ws2d.ws2d y.toArray lam ww').toList ww'.toList)
        = R := by
  obtain ⟨_, hq⟩ := pyRange_split _ _ _ _ _ hr
  have hws := hA.hw.size
  have hzs := gen_ws2d_size y ww' lam hws h3
  have hset : PyNpV.npSetSlice znew 0 hi (Gen.Ws2d.ws2d y.toArray lam ww') =
      Gen.Ws2d.ws2d y.toArray lam ww' :=
    PyNpV.npSetSlice_full _ _ _ (by rw [hhi, h.nsz]) (by rw [hzs, h.nsz])
  rw [hset] at hL
  refine ⟨hset, hzs, hws, ?_⟩
  have hc := h.cont
  rw [show 10 - pref.length = (10 - (pref.length + 1)) + 1 by omega, Smooth.irls_succ] at hc
  unfold Smooth.pass at hc
  rw [← hA.final hwl h.zsz, ← gen_ws2d_toList y ww' lam hws h3, ← hL.final hzs h.zsz] at hc
  exact hc

/-- the pass moved the curve: `z[0:m] = znew[0:m]` -/
theorem IInv.step {y w : List α} {lam p : α} {R : List α × List α}
    {z znew wa ww wa' ww' : Array α} {acc : α} {hi : ℤ}
    (h : IInv y w lam p R pref.length z znew wa ww) (hr : pyRange 0 10 = pref ++ cur :: suff)
    (h3 : 3 ≤ y.length) (hwl : w.length = y.length)
    (hA : AWInv p w y z.toList (pyRange 0 (y.length : ℤ)).length wa' ww')
    (hL : L1Inv (PyNpV.npSetSlice znew 0 hi (Gen.Ws2d.ws2d y.toArray lam ww')).toList z.toList
      (pyRange 0 (y.length : ℤ)).length acc)
    (hhi : hi = (y.length : ℤ)) (hne : ¬ eqv acc (nat 0) = true) :
    IInv y w lam p R (pref ++ [cur]).length
      (PyNpV.npSetSlice z 0 (y.length : ℤ)
        (PyNpV.npSlice (PyNpV.npSetSlice znew 0 hi (Gen.Ws2d.ws2d y.toArray lam ww')) 0 (y.length : ℤ)))
      (PyNpV.npSetSlice znew 0 hi (Gen.Ws2d.ws2d y.toArray lam ww')) wa' ww' := by
  obtain ⟨hset, hzs, hws, hc⟩ := h.pass hr h3 hwl hA hL hhi
  rw [if_neg hne] at hc
  rw [hset, PyNpV.npSlice_full _ _ (by rw [hzs]),
    PyNpV.npSetSlice_full _ _ _ (by rw [h.zsz]) (by rw [hzs, h.zsz]), List.length_append,
    List.length_singleton]
  exact ⟨hzs, hzs, hA.asz, hws, hc⟩

/-- the pass reproduced the curve: `break` -/
theorem IInv.brk {y w : List α} {lam p : α} {R : List α × List α}
    {z znew wa ww wa' ww' : Array α} {acc : α} {hi : ℤ}
    (h : IInv y w lam p R pref.length z znew wa ww) (hr : pyRange 0 10 = pref ++ cur :: suff)
    (h3 : 3 ≤ y.length) (hwl : w.length = y.length)
    (hA : AWInv p w y z.toList (pyRange 0 (y.length : ℤ)).length wa' ww')
    (hL : L1Inv (PyNpV.npSetSlice znew 0 hi (Gen.Ws2d.ws2d y.toArray lam ww')).toList z.toList
      (pyRange 0 (y.length : ℤ)).length acc)
    (hhi : hi = (y.length : ℤ)) (heq : eqv acc (nat 0) = true) :
    IInv y w lam p R (pyRange 0 10).length z
      (PyNpV.npSetSlice znew 0 hi (Gen.Ws2d.ws2d y.toArray lam ww')) wa' ww' := by
  obtain ⟨hset, hzs, hws, hc⟩ := h.pass hr h3 hwl hA hL hhi
  rw [if_pos heq] at hc
  rw [hset, pyRange_ten]
  exact ⟨h.zsz, hzs, hA.asz, hws, hc⟩

theorem IInv.final {y w : List α} {lam p : α} {R : List α × List α} {z znew wa ww : Array α}
    (h : IInv y w lam p R (pyRange 0 10).length z znew wa ww) : R = (z.toList, ww.toList) := by
  have hc := h.cont
  rw [pyRange_ten] at hc
  exact hc.symm

/-- `z[:] = 0.0` -/
theorem z_fill {y : List α} {z : Array α} (hz : z.size = y.length) :
    (PyNpV.npFillSlice z 0 (z.size : ℤ) (nat 0)).toList = zerosLike y := by
  rw [PyNpV.npFillSlice_full z _ _ rfl]
  exact toList_replicate_zero y _ hz

omit [LinearOrder α] [IsStrictOrderedRing α] in
theorem size_z_fill {z : Array α} : (PyNpV.npFillSlice z 0 (z.size : ℤ) (nat 0 : α)).size = z.size := by
  rw [PyNpV.npFillSlice_full z _ _ rfl]; simp

/-! ### the warm-started sweep of the model -/

section sweep
variable (F : VFns α) (wl y : List α) (p : α) (llas : List α)

/-- the fit of `optvpCore` -/
def fitP : List α → α → List α × List α :=
  fun z lam => let r := irls y wl lam p 10 z (zerosLike y); (r.1, r.1)

/-- the curve after `k` grid points (each λ starts from the curve of the previous one) -/
def zseq : ℕ → List α
  | 0 => zerosLike y
  | k + 1 => (irls y wl (F.pow10 (fnl llas k)) p 10 (zseq k) (zerosLike y)).1

theorem zseq_length (hw : wl.length = y.length) (k : ℕ) :
    (zseq F wl y p llas k).length = y.length := by
  induction k with
  | zero => simp [zseq]
  | succ k ih => exact Smooth.irls_fst_length y wl _ p hw 9 _ _ ih

/-- log of the fit / of the roughness at grid point `j` -/
def fG (j : ℕ) : α := F.log (fitSS wl y (zseq F wl y p llas (j + 1)))
/-- log of the roughness `Σ (Δ² z)²` at grid point `j` (`pens[j]`) -/
def pG (j : ℕ) : α := F.log (penSS (zseq F wl y p llas (j + 1)))

def vptG (j : ℕ) : α × α × α := (fnl llas j, fG F wl y p llas j, pG F wl y p llas j)

theorem vfold_warm (pre rest : List α) (h : llas = pre ++ rest) :
    rest.foldl (Smooth.vstep F wl y (fitP wl y p))
        (zseq F wl y p llas pre.length, (List.range pre.length).map (vptG F wl y p llas)) =
      (zseq F wl y p llas llas.length, (List.range llas.length).map (vptG F wl y p llas)) := by
  induction rest generalizing pre with
  | nil => simp at h; subst h; rfl
  | cons l ls ih =>
    have hl : fnl llas pre.length = l := by
      rw [h]; unfold fnl; simp
    have := ih (pre ++ [l]) (by rw [h]; simp)
    rw [List.foldl_cons]
    convert this using 2
    simp only [Smooth.vstep, fitP, List.length_append, List.length_singleton, List.range_succ,
      List.map_append, List.map_cons, List.map_nil, vptG, fG, pG, zseq, hl]

theorem vpts_warm :
    Smooth.vpts F wl y llas (fitP wl y p) (zerosLike y) =
      (List.range llas.length).map (vptG F wl y p llas) := by
  unfold Smooth.vpts
  have := vfold_warm F wl y p llas [] llas rfl
  simp only [List.length_nil, List.range_zero, List.map_nil] at this
  rw [show zseq F wl y p llas 0 = zerosLike y from rfl] at this
  rw [this]

/-! ### the λ grid loop -/

/-- the whole state of the λ grid loop after `k` grid points: the curve is the model's warm-start curve, the
    work arrays have the right sizes -/
structure SweepP (k : ℕ) (fits pens z znew diff1 wa ww : Array α) : Prop where
  sg : SweepG y llas (fG F wl y p llas) (pG F wl y p llas) k fits pens diff1
  hz : z.toList = zseq F wl y p llas k
  nsz : znew.size = y.length
  asz : wa.size = y.length
  wsz : ww.size = y.length

variable {F wl y p llas} {prefo suffo : List ℤ} {k : ℤ}

theorem SweepP.zsz {k : ℕ} {fits pens z znew diff1 wa ww : Array α}
    (h : SweepP F wl y p llas k fits pens z znew diff1 wa ww) (hw : wl.length = y.length) :
    z.size = y.length := by
  rw [← Array.length_toList, h.hz, zseq_length F wl y p llas hw]

theorem SweepP.init :
    SweepP F wl y p llas 0 (Array.replicate (llas.length : ℤ).toNat (nat 0))
      (Array.replicate (llas.length : ℤ).toNat (nat 0)) (Array.replicate (y.length : ℤ).toNat (nat 0))
      (Array.replicate (y.length : ℤ).toNat (nat 0)) (Array.replicate ((y.length : ℤ) - 1).toNat (nat 0))
      (Array.replicate (y.length : ℤ).toNat (nat 0)) (Array.replicate (y.length : ℤ).toNat (nat 0)) :=
  ⟨SweepG.init, toList_replicate_zero y _ rfl, by simp, by simp, by simp⟩

/-- end of one grid point: the curve the re-weighting loop ended with is the model's curve of this grid point, the
    two accumulations are complete; `fits[lix] = log(fits[lix])`, `pens[lix] = log(pens[lix])` -/
theorem SweepP.step {fits pens z znew diff1 wa ww z' znew' wa' ww' fits1 pens1 d' : Array α}
    (h : SweepP F wl y p llas prefo.length fits pens z znew diff1 wa ww)
    (hro : pyRange 0 (llas.length : ℤ) = prefo ++ k :: suffo) (hwl : wl.length = y.length)
    (hI : IInv y wl (F.pow10 (rd llas.toArray k)) p
      (irls y wl (F.pow10 (rd llas.toArray k)) p 10 z.toList (zerosLike y)) (pyRange 0 10).length
      z' znew' wa' ww')
    (hF : AccInv fits fits1 k.toNat (fitTerms wl y z'.toList) (pyRange 0 (y.length : ℤ)).length)
    (hH : Holds (y.length - 1) (fnl (diffs z'.toList)) (pyRange 0 ((y.length : ℤ) - 1)).length d')
    (hP : AccInv pens pens1 k.toNat (penTerms z'.toList) (pyRange 0 ((y.length : ℤ) - 2)).length) :
    SweepP F wl y p llas (prefo ++ [k]).length (wr fits1 k (F.log (rd fits1 k)))
      (wr pens1 k (F.log (rd pens1 k))) z' znew' d' wa' ww' := by
  obtain ⟨hk, _⟩ := pyRange_split _ _ _ _ _ hro
  have hz' : z'.toList = zseq F wl y p llas (prefo.length + 1) := by
    have := hI.final
    rw [h.hz, rd_of_eq llas.toArray k prefo.length (by omega), av_list] at this
    rw [zseq, this]
  exact ⟨h.sg.step hro hwl hI.zsz hz' rfl rfl hF hH hP,
    by rw [List.length_append, List.length_singleton]; exact hz', hI.nsz, hI.asz, hI.wsz⟩

/-! ### the model, in the terms of the invariants -/

/-- the λ `optvpCore` selects -/
def loptP (F : VFns α) (wl y : List α) (p : α) (llas : List α) : α :=
  F.pow10 (lbestG F llas (fG F wl y p llas) (pG F wl y p llas))

theorem optvpCore_eq (F : VFns α) (y wl : List α) (p : α) (llas : List α) (h2 : 2 ≤ llas.length) :
    optvpCore F y wl p llas =
      some (expectile y wl (loptP F wl y p llas) p, loptP F wl y p llas) := by
  rw [Smooth.optvpCore_unfold, Smooth.vselect_eq]
  have hv := vpts_warm F wl y p llas
  unfold fitP at hv
  rw [hv]
  have hvc : vcurve F (gridStep llas) ((List.range llas.length).map (vptG F wl y p llas)) =
      vclG F llas (fG F wl y p llas) (pG F wl y p llas) := rfl
  rw [hvc, argminFirst_eq _ (by rw [vclG_length]; omega), vclG_length]
  simp only [Option.map_some, loptP, lbestG]
  congr 4

/-- after the final re-weighting loop (restarted from `z[:] = 0`, at most 10 passes, with `lam = 10 ** lamids[k]`):
    `lam` is the model's choice, the last `ws2d(y, lam, ww)` with the weights of the last pass is the model's
    final curve -/
theorem final_fit {q : ℕ} {vmin lam : α}
    {lamids v fits pens z znew diff1 wa ww z' znew' wa' ww' : Array α}
    (hS : SweepP F wl y p llas q fits pens z znew diff1 wa ww)
    (hV : VInvG F llas (fG F wl y p llas) (pG F wl y p llas) (pyRange 0 ((llas.length : ℤ) - 1)).length
      lamids v)
    (hA : ArgInvG F llas (fG F wl y p llas) (pG F wl y p llas) (pyRange 1 ((llas.length : ℤ) - 1)).length
      k vmin)
    (hlam : lam = F.pow10 (rd lamids k))
    (hI : IInv y wl lam p
      (irls y wl lam p 10 (PyNpV.npFillSlice z 0 (z.size : ℤ) (nat 0)).toList (zerosLike y))
      (pyRange 0 10).length z' znew' wa' ww')
    (hwl : wl.length = y.length) (h3 : 3 ≤ y.length) (h2 : 2 ≤ llas.length) :
    lam = loptP F wl y p llas ∧
      (Gen.Ws2d.ws2d y.toArray lam ww').toList = expectile y wl (loptP F wl y p llas) p := by
  have hfin : lam = loptP F wl y p llas := by rw [hlam, hA.final hV h2]; rfl
  have hR := hI.final
  rw [z_fill (hS.zsz hwl)] at hR
  refine ⟨hfin, ?_⟩
  rw [gen_ws2d_toList y _ _ hI.wsz h3, ← hfin]
  unfold expectile
  rw [hR]

/-! ### the gufunc wrappers -/

theorem optvp_valid (F : VFns α) (miss : α → Bool) (y : List α) (p : α) (llas : List α)
    (h1 : 1 < countValid miss y) (h2 : 2 ≤ llas.length) :
    optvp F miss y p llas =
      some (expectile y (weightsOf miss y) (loptP F (weightsOf miss y) y p llas) p,
        loptP F (weightsOf miss y) y p llas) := by
  unfold optvp
  rw [if_pos h1, optvpCore_eq F y _ p llas h2]

theorem optvp_invalid (F : VFns α) (miss : α → Bool) (y : List α) (p : α) (llas : List α)
    (h1 : ¬ 1 < countValid miss y) : optvp F miss y p llas = none := by
  unfold optvp
  rw [if_neg h1]

theorem optvplc_invalid (F : VFns α) (miss : α → Bool) (y : List α) (p : α) (hi lo : Bool)
    (g1 g2 g3 : List α) (h1 : ¬ 1 < countValid miss y) :
    optvplc F miss y p hi lo g1 g2 g3 = none := by
  unfold optvplc
  rw [if_neg h1]

omit [LinearOrder α] [IsStrictOrderedRing α] in
/-- `out[:] = y[:]` -/
theorem passthrough_eq {y : List α} {out0 : Array α} {hi hi2 : ℤ} (ho : out0.size = y.length)
    (hhi : hi = (out0.size : ℤ)) (hhi2 : hi2 = (y.length : ℤ)) :
    (PyNpV.npSetSlice out0 0 hi (PyNpV.npSlice y.toArray 0 hi2)).toList = y := by
  rw [PyNpV.npSlice_full _ _ (by simpa using hhi2), PyNpV.npSetSlice_full _ _ _ hhi (by simpa using ho.symm)]

/-- `np.round(z, 0, out)` with `z = ws2d(y, lopt, ww)` -/
theorem round_out {y : List α} {ww out0 : Array α} {lam : α} (rnd : α → α) (ho : out0.size = y.length)
    (hw : ww.size = y.length) (h3 : 3 ≤ y.length) :
    (PyNpV.npRoundInto rnd (Gen.Ws2d.ws2d y.toArray lam ww) out0).toList =
      (Gen.Ws2d.ws2d y.toArray lam ww).toList.map rnd := by
  rw [PyNpV.npRoundInto_eq _ _ _ ((gen_ws2d_size y ww lam hw h3).trans ho.symm), Array.toList_map]

end sweep

end Hdc.GenNum
