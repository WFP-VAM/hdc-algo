import Hdc.Gen.NumWs2doptvp
import Hdc.Gen.NumWs2doptvplc
/-
`hdc/algo/ops/ws2doptvplc.py::ws2doptvplc` is `ws2doptvp` run on the grid it chooses from `lc`: the two translated
programs (Hdc/Gen/NumWs2doptvplc.lean, Hdc/Gen/NumWs2doptvp.lean) are compared as terms.  Kept apart from
Hdc/Lemmas/GenNumOptvp.lean so that only Hdc/Props/GenNumOptvplc.lean depends on both generated modules.
-/
namespace Hdc.GenNum
open Hdc Hdc.Gen.NumKernels

variable {α : Type} [Add α] [Sub α] [Mul α] [Div α] [Neg α] [NatCast α] [LT α] [DecidableLT α]

/-- The source differs from `ws2doptvp` only in computing the grid itself: once the test on `lc` is decided, the two
    translated programs are the same term. -/
theorem ws2doptvplc_eq_ws2doptvp (F : VFns α) (rnd : α → α) (le : α → α → Bool)
    (arange : α → α → α → Array α) (c0_5 c1_2 c0_2 c3_2 : α) (y : Array α) (nodata p lc : α)
    (out lopt : Array α) :
    Gen.NumKernels.ws2doptvplc F rnd le arange c0_5 c1_2 c0_2 c3_2 y nodata p lc out lopt =
      Gen.NumKernels.ws2doptvp F rnd y nodata p
        (if c0_5 < lc then arange (-(nat 2)) c1_2 c0_2
         else if le lc c0_5 then arange (nat 0) c3_2 c0_2 else arange (-(nat 1)) c1_2 c0_2)
        out lopt := by
  unfold Gen.NumKernels.ws2doptvplc Gen.NumKernels.ws2doptvp
  by_cases h1 : c0_5 < lc
  · simp only [h1, decide_true, if_true]
  · by_cases h2 : le lc c0_5 = true
    · simp only [h1, h2, decide_false, if_false, if_true, Bool.false_eq_true]
    · simp only [h1, h2, decide_false, if_false, Bool.false_eq_true]

end Hdc.GenNum
