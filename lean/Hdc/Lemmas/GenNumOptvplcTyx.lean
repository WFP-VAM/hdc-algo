import Hdc.Lemmas.GenNumACWrap
import Hdc.Gen.NumAutocorr1d
import Hdc.Gen.NumWs2doptvpCore
import Mathlib.Algebra.Order.Field.Basic
/-
Loop invariants for `Gen.NumKernels.ws2doptvplc_tyx` (Hdc/Gen/NumWs2doptvplcTyx.lean), at the level of the GENERATED callees
(`autocorr_1d_nd`, `ws2doptvpCore`): no hypothesis on the sizes is needed for this part.

  WInvT    the loop over the cells of one pixel: `xx` (nodata -> 0, else the cast cell), `ww` (0 / 1), `ngood`
  pixOut   what one pixel contributes: the rounded column and λ when more than one cell is valid, zeros and 0 otherwise
  PixInv   the two pixel loops: the first `n` pixels (row-major order of (rr, cc)) hold `pixOut`, the others still hold zeros
-/
namespace Hdc.GenNumTyx
open Hdc Hdc.Gen.NumKernels Hdc.PyNpT Hdc.PyNpX
open Hdc.GenKernels (gv)
open Hdc.GenNumACW (pix_lt)

set_option linter.unusedSectionVars false

variable {α : Type} [Field α] [LinearOrder α] [IsStrictOrderedRing α]

/-- the series of pixel `(r, c)` of the flattened `(nt, nr, nc)` cube -/
def pixSeries (tyx : List Int) (nt nr nc r c : ℕ) : List Int :=
  (List.range nt).map fun t => gD tyx.toArray (pos3 nr nc t r c) 0

/-- `xx`: nodata cells replaced by 0, valid cells cast -/
def cleanI (nodata : Int) (s : List Int) : List α := s.map fun v => if v = nodata then 0 else (v : α)
/-- `ww`: 0 for a nodata cell, 1 for a valid one -/
def wtI (nodata : Int) (s : List Int) : List α := s.map fun v => if v = nodata then 0 else 1
/-- `ngood` -/
def goodI (nodata : Int) (s : List Int) : ℕ := (s.filter fun v => decide (v ≠ nodata)).length

@[simp] theorem cleanI_length (nodata : Int) (s : List Int) : (cleanI nodata s : List α).length = s.length := by
  simp [cleanI]
@[simp] theorem wtI_length (nodata : Int) (s : List Int) : (wtI nodata s : List α).length = s.length := by
  simp [wtI]

/-! ### the loop over the cells of one pixel -/

structure WInvT (nodata : Int) (xr : Array Int) (i : ℕ) (xx ww : Array α) (ngood : ℤ) : Prop where
  sx : xx.size = xr.size
  sw : ww.size = xr.size
  hx : xx.toList.take i = cleanI nodata (xr.toList.take i)
  hw : ww.toList.take i = wtI nodata (xr.toList.take i)
  hn : ngood = (goodI nodata (xr.toList.take i) : ℤ)

theorem WInvT.init (nodata : Int) (xr : Array Int) (xx ww : Array α) (sx : xx.size = xr.size)
    (sw : ww.size = xr.size) : WInvT nodata xr 0 xx ww 0 :=
  ⟨sx, sw, by simp [cleanI], by simp [wtI], by simp [goodI]⟩

theorem wr_eq_wrG (a : Array α) (i : ℤ) (v : α) : wr a i v = wrG a i v := rfl

theorem take_succ_gv (xr : Array Int) (i : ℕ) (hi : i < xr.size) :
    xr.toList.take (i + 1) = xr.toList.take i ++ [gv xr i] := by
  rw [List.take_succ_eq_append_getElem (by simpa using hi)]
  simp [gv, hi]

/-- `xx[i] = 0; ww[i] = 0` -/
theorem WInvT.step_miss {nodata : Int} {xr : Array Int} {i : ℕ} {xx ww : Array α} {ngood ci : ℤ}
    (h : WInvT nodata xr i xx ww ngood) (hi : i < xr.size) (hci : ci = (i : ℤ)) (hv : gv xr i = nodata) :
    WInvT nodata xr (i + 1) (wr xx ci (nat 0)) (wr ww ci (nat 0)) ngood := by
  refine ⟨by simp [wr, h.sx], by simp [wr, h.sw], ?_, ?_, ?_⟩
  · rw [wr_eq_wrG, take_wrG _ _ _ i hci (by rw [h.sx]; exact hi), h.hx, take_succ_gv xr i hi]
    simp [cleanI, hv, nat]
  · rw [wr_eq_wrG, take_wrG _ _ _ i hci (by rw [h.sw]; exact hi), h.hw, take_succ_gv xr i hi]
    simp [wtI, hv, nat]
  · rw [h.hn, take_succ_gv xr i hi]
    simp [goodI, List.filter_append, hv]

/-- `xx[i] = v; ww[i] = 1; ngood += 1` -/
theorem WInvT.step_valid {nodata : Int} {xr : Array Int} {i : ℕ} {xx ww : Array α} {ngood ci : ℤ}
    (h : WInvT nodata xr i xx ww ngood) (hi : i < xr.size) (hci : ci = (i : ℤ)) (hv : ¬ gv xr i = nodata) :
    WInvT nodata xr (i + 1) (wr xx ci ((gv xr i : ℤ) : α)) (wr ww ci (nat 1)) (ngood + 1) := by
  refine ⟨by simp [wr, h.sx], by simp [wr, h.sw], ?_, ?_, ?_⟩
  · rw [wr_eq_wrG, take_wrG _ _ _ i hci (by rw [h.sx]; exact hi), h.hx, take_succ_gv xr i hi]
    simp [cleanI, hv]
  · rw [wr_eq_wrG, take_wrG _ _ _ i hci (by rw [h.sw]; exact hi), h.hw, take_succ_gv xr i hi]
    simp [wtI, hv, nat]
  · rw [h.hn, take_succ_gv xr i hi]
    simp [goodI, List.filter_append, hv]

theorem WInvT.final {nodata : Int} {xr : Array Int} {i : ℕ} {xx ww : Array α} {ngood : ℤ}
    (h : WInvT nodata xr i xx ww ngood) (hi : i = xr.size) :
    xx = (cleanI nodata xr.toList).toArray ∧ ww = (wtI nodata xr.toList).toArray
      ∧ ngood = (goodI nodata xr.toList : ℤ) := by
  subst hi
  have h1 := h.hx
  have h2 := h.hw
  have h3 := h.hn
  rw [List.take_of_length_le (by simp)] at h3
  rw [List.take_of_length_le (by simp [h.sx]), List.take_of_length_le (by simp)] at h1
  rw [List.take_of_length_le (by simp [h.sw]), List.take_of_length_le (by simp)] at h2
  exact ⟨by rw [← h1], by rw [← h2], h3⟩

/-! ### one pixel -/

/-- what the body of the pixel loop stores for a pixel with the series `s` (in terms of the generated callees): the rounded
    column and λ; zeros and 0 when fewer than two cells are valid (nothing is stored: the buffers were created by `np.zeros`) -/
def pixOut (F : VFns α) (rnd : α → Int) (rsqrt : α → α) (eps : α) (g0 g1 : Array α) (c0_5 p : α) (nodata : Int)
    (s : List Int) : List Int × α :=
  if 1 < goodI nodata s then
    let lc := Gen.NumKernels.autocorr_1d_nd rsqrt eps s.toArray nodata
    let res := Gen.NumKernels.ws2doptvpCore F (cleanI nodata s).toArray (wtI nodata s).toArray p
      (if c0_5 < lc then g0 else g1)
    (if res.1.size = s.length then res.1.toList.map rnd else List.replicate s.length 0, res.2)
  else (List.replicate s.length 0, 0)

theorem pixOut_length (F : VFns α) (rnd : α → Int) (rsqrt : α → α) (eps : α) (g0 g1 : Array α) (c0_5 p : α)
    (nodata : Int) (s : List Int) : (pixOut F rnd rsqrt eps g0 g1 c0_5 p nodata s).1.length = s.length := by
  unfold pixOut
  dsimp only
  split_ifs <;> simp [*]

/-! ### the pixel loops -/

/-- after `n` pixels (in the order of the loops: `n = rr * nc + cc`) -/
structure PixInv (nt nr nc : ℕ) (out : ℕ → ℕ → List Int × α) (n : ℕ) (zz : Array Int) (lopts : Array α) : Prop where
  sz : zz.size = nt * nr * nc
  sl : lopts.size = nr * nc
  hz : ∀ t r c, t < nt → r < nr → c < nc →
    gD zz (pos3 nr nc t r c) 0 = if r * nc + c < n then (out r c).1.getD t 0 else 0
  hl : ∀ r c, r < nr → c < nc → gD lopts (r * nc + c) 0 = if r * nc + c < n then (out r c).2 else 0

theorem PixInv.init (nt nr nc : ℕ) (out : ℕ → ℕ → List Int × α) (N M : ℕ) (hN : N = nt * nr * nc)
    (hM : M = nr * nc) : PixInv nt nr nc out 0 (Array.replicate N (0 : Int)) (Array.replicate M (nat 0 : α)) := by
  refine ⟨by simp [hN], by simp [hM], fun t r c ht hr hc => ?_, fun r c hr hc => ?_⟩
  · have := pos3_lt ht hr hc
    simp [gD, Array.getD_eq_getD_getElem?, hN, this]
  · have := pix_lt hr hc
    simp [gD, Array.getD_eq_getD_getElem?, nat, hM, this]

/-- the end of a row: `rr * nc + nc = (rr + 1) * nc` -/
theorem PixInv.cast {nt nr nc : ℕ} {out : ℕ → ℕ → List Int × α} {n m : ℕ} {zz : Array Int} {lopts : Array α}
    (h : PixInv nt nr nc out n zz lopts) (hnm : n = m) : PixInv nt nr nc out m zz lopts := hnm ▸ h

/-- row-major order: the pixels before `(r, c) + 1` are those before `(r, c)`, and `(r, c)` -/
theorem ite_pix_succ {β : Type} (f : ℕ → ℕ → β) (d : β) {nc r c r' c' : ℕ} (hc : c < nc) (hc' : c' < nc) :
    (if r' = r ∧ c' = c then f r c else if r' * nc + c' < r * nc + c then f r' c' else d)
      = if r' * nc + c' < r * nc + c + 1 then f r' c' else d := by
  by_cases h1 : r' = r ∧ c' = c
  · rw [if_pos h1, h1.1, h1.2, if_pos (Nat.lt_succ_self _)]
  · rw [if_neg h1]
    by_cases h2 : r' * nc + c' < r * nc + c
    · rw [if_pos h2, if_pos (Nat.lt_succ_of_lt h2)]
    · rw [if_neg h2, if_neg fun h3 => h1 (mixed_inj hc' hc (by omega))]

/-- pixel `(r, c)` is done: its column and its cell of `lopts` now hold `out r c`, nothing else has changed -/
theorem PixInv.next {nt nr nc : ℕ} {out : ℕ → ℕ → List Int × α} {r c : ℕ} {zz zz' : Array Int}
    {lopts lopts' : Array α} (h : PixInv nt nr nc out (r * nc + c) zz lopts) (hc : c < nc)
    (hsz : zz'.size = zz.size) (hsl : lopts'.size = lopts.size)
    (hz : ∀ t r' c', t < nt → r' < nr → c' < nc → gD zz' (pos3 nr nc t r' c') 0 =
      if r' = r ∧ c' = c then (out r c).1.getD t 0 else gD zz (pos3 nr nc t r' c') 0)
    (hl : ∀ r' c', r' < nr → c' < nc → gD lopts' (r' * nc + c') 0 =
      if r' = r ∧ c' = c then (out r c).2 else gD lopts (r' * nc + c') 0) :
    PixInv nt nr nc out (r * nc + c + 1) zz' lopts' := by
  refine ⟨hsz.trans h.sz, hsl.trans h.sl, fun t r' c' ht hr' hc' => ?_, fun r' c' hr' hc' => ?_⟩
  · rw [hz t r' c' ht hr' hc', h.hz t r' c' ht hr' hc']
    exact ite_pix_succ (fun r c => (out r c).1.getD t 0) 0 hc hc'
  · rw [hl r' c' hr' hc', h.hl r' c' hr' hc']
    exact ite_pix_succ (fun r c => (out r c).2) 0 hc hc'

/-- a pixel for which nothing is stored -/
theorem PixInv.skip {nt nr nc : ℕ} {out : ℕ → ℕ → List Int × α} {r c : ℕ} {zz : Array Int} {lopts : Array α}
    (h : PixInv nt nr nc out (r * nc + c) zz lopts) (hc : c < nc)
    (ho : out r c = (List.replicate nt 0, 0)) : PixInv nt nr nc out (r * nc + c + 1) zz lopts := by
  refine h.next hc rfl rfl (fun t r' c' ht hr' hc' => ?_) (fun r' c' hr' hc' => ?_)
  · split_ifs with h1
    · rw [h.hz t r' c' ht hr' hc', h1.1, h1.2, if_neg (Nat.lt_irrefl _), ho]
      simp [List.getD_eq_getElem?_getD, ht]
    · rfl
  · split_ifs with h1
    · rw [h.hl r' c' hr' hc', h1.1, h1.2, if_neg (Nat.lt_irrefl _), ho]
    · rfl

/-- a pixel whose column and λ are stored -/
theorem PixInv.store {nt nr nc : ℕ} {out : ℕ → ℕ → List Int × α} {r c : ℕ} {zz : Array Int} {lopts : Array α}
    (h : PixInv nt nr nc out (r * nc + c) zz lopts) (hr : r < nr) (hc : c < nc) (rnd : α → Int) (z : Array α) (lo : α)
    (ho1 : (out r c).1 = if z.size = nt then z.toList.map rnd else List.replicate nt 0) (ho2 : (out r c).2 = lo) :
    PixInv nt nr nc out (r * nc + c + 1)
      (npRoundIntoCol3 rnd z zz (nt : ℤ) (nr : ℤ) (nc : ℤ) (r : ℤ) (c : ℤ))
      (wr lopts (flat2 (nr : ℤ) (nc : ℤ) (r : ℤ) (c : ℤ)) lo) := by
  have hzz : (npRoundIntoCol3 rnd z zz (nt : ℤ) (nr : ℤ) (nc : ℤ) (r : ℤ) (c : ℤ)).size = zz.size ∧
      ∀ t r' c', t < nt → r' < nr → c' < nc →
        gD (npRoundIntoCol3 rnd z zz (nt : ℤ) (nr : ℤ) (nc : ℤ) (r : ℤ) (c : ℤ)) (pos3 nr nc t r' c') 0
          = if r' = r ∧ c' = c then (out r c).1.getD t 0 else gD zz (pos3 nr nc t r' c') 0 := by
    by_cases hzs : z.size = nt
    · have := npRoundIntoCol3_spec rnd (0 : Int) z zz nt nr nc r c hr hc hzs h.sz
      rw [ho1, if_pos hzs]
      exact this
    · -- a curve of another length is not stored (NumPy raises): the zeros stay
      rw [npRoundIntoCol3_mismatch rnd z zz _ _ _ _ _ (by simpa using hzs), ho1, if_neg hzs]
      refine ⟨rfl, fun t r' c' ht hr' hc' => ?_⟩
      split_ifs with h1
      · rw [h.hz t r' c' ht hr' hc', h1.1, h1.2, if_neg (Nat.lt_irrefl _)]
        simp [List.getD_eq_getElem?_getD, ht]
      · rfl
  refine h.next hc hzz.1 (by simp [wr]) hzz.2 (fun r' c' hr' hc' => ?_)
  rw [wr_eq_wrG, flat2_nat]
  by_cases h1 : r' = r ∧ c' = c
  · rw [if_pos h1, h1.1, h1.2, gD_wrG_self _ _ _ _ _ rfl (by rw [h.sl]; exact pix_lt hr hc), ho2]
  · have hne : r * nc + c ≠ r' * nc + c' := fun he => h1 (by
      obtain ⟨h3, h4⟩ := mixed_inj hc hc' he; exact ⟨h3.symm, h4.symm⟩)
    rw [if_neg h1, gD_wrG_ne _ _ _ _ _ (by omega) (by exact_mod_cast hne)]

@[simp] theorem pixSeries_length (tyx : List Int) (nt nr nc r c : ℕ) : (pixSeries tyx nt nr nc r c).length = nt := by
  simp [pixSeries]

/-- `xx_raw[:] = tyx[:, rr, cc]` -/
theorem col_eq_pixSeries (tyx : List Int) (nt nr nc r c : ℕ) (a : Array Int) (ha : a.size = nt)
    {ri ci : ℤ} (hri : ri = (r : ℤ)) (hci : ci = (c : ℤ)) :
    npSetAll a (npCol3 tyx.toArray (0 : Int) (nt : ℤ) (nr : ℤ) (nc : ℤ) ri ci)
      = (pixSeries tyx nt nr nc r c).toArray := by
  subst hri hci
  rw [npCol3_nat, npSetAll_eq _ _ (by simp [ha])]
  rfl

section step
variable (F : VFns α) (rnd : α → Int) (rsqrt : α → α) (eps : α) (g0 g1 : Array α) (c0_5 p : α) (nodata : Int)
  (tyx : List Int) (nt nr nc : ℕ)

/-- the body of the pixel loop when more than one cell is valid -/
theorem pix_step_fit {r c : ℕ} {zz : Array Int} {lopts xx ww : Array α} {ngood : ℤ} {xr : Array Int}
    (h : PixInv nt nr nc (fun r c => pixOut F rnd rsqrt eps g0 g1 c0_5 p nodata (pixSeries tyx nt nr nc r c))
      (r * nc + c) zz lopts) (hr : r < nr) (hc : c < nc) (hxr : xr = (pixSeries tyx nt nr nc r c).toArray)
    (hW : WInvT nodata xr nt xx ww ngood) (hg : 1 < ngood)
    {ri ci : ℤ} (hri : ri = (r : ℤ)) (hci : ci = (c : ℤ)) :
    PixInv nt nr nc (fun r c => pixOut F rnd rsqrt eps g0 g1 c0_5 p nodata (pixSeries tyx nt nr nc r c))
      (r * nc + (c + 1))
      (npRoundIntoCol3 rnd (Gen.NumKernels.ws2doptvpCore F xx ww p
          (if c0_5 < Gen.NumKernels.autocorr_1d_nd rsqrt eps xr nodata then g0 else g1)).1
        zz (nt : ℤ) (nr : ℤ) (nc : ℤ) ri ci)
      (wr lopts (flat2 (nr : ℤ) (nc : ℤ) ri ci) (Gen.NumKernels.ws2doptvpCore F xx ww p
          (if c0_5 < Gen.NumKernels.autocorr_1d_nd rsqrt eps xr nodata then g0 else g1)).2) := by
  subst hxr hri hci
  obtain ⟨hx, hw, hn⟩ := hW.final (by simp)
  dsimp only at hx hw hn
  subst hx hw
  have hg' : 1 < goodI nodata (pixSeries tyx nt nr nc r c) := by omega
  rw [← Nat.add_assoc]
  refine h.store hr hc rnd _ _ ?_ ?_
  · simp only [pixOut, if_pos hg', pixSeries_length]
  · simp only [pixOut, if_pos hg']

/-- … when at most one cell is valid: nothing is stored -/
theorem pix_step_skip {r c : ℕ} {zz : Array Int} {lopts xx ww : Array α} {ngood : ℤ} {xr : Array Int}
    (h : PixInv nt nr nc (fun r c => pixOut F rnd rsqrt eps g0 g1 c0_5 p nodata (pixSeries tyx nt nr nc r c))
      (r * nc + c) zz lopts) (hc : c < nc) (hxr : xr = (pixSeries tyx nt nr nc r c).toArray)
    (hW : WInvT nodata xr nt xx ww ngood) (hg : ¬ 1 < ngood) :
    PixInv nt nr nc (fun r c => pixOut F rnd rsqrt eps g0 g1 c0_5 p nodata (pixSeries tyx nt nr nc r c))
      (r * nc + (c + 1)) zz lopts := by
  subst hxr
  obtain ⟨_, _, hn⟩ := hW.final (by simp)
  dsimp only at hn
  have hg' : ¬ 1 < goodI nodata (pixSeries tyx nt nr nc r c) := by omega
  rw [← Nat.add_assoc]
  refine h.skip hc ?_
  simp only [pixOut, if_neg hg', pixSeries_length]

end step

/-- after the loops: every pixel holds its result -/
theorem PixInv.final {nt nr nc : ℕ} {out : ℕ → ℕ → List Int × α} {zz : Array Int} {lopts : Array α}
    (h : PixInv nt nr nc out (nr * nc) zz lopts) (hlen : ∀ r c, (out r c).1.length = nt) {r c : ℕ}
    (hr : r < nr) (hc : c < nc) :
    npCol3 zz (0 : Int) (nt : ℤ) (nr : ℤ) (nc : ℤ) (r : ℤ) (c : ℤ) = (out r c).1.toArray ∧
    rd lopts (flat2 (nr : ℤ) (nc : ℤ) (r : ℤ) (c : ℤ)) = (out r c).2 := by
  constructor
  · rw [npCol3_nat]
    congr 1
    apply List.ext_getElem (by simp [hlen])
    intro t h1 h2
    simp only [List.length_map, List.length_range] at h1
    simp only [List.getElem_map, List.getElem_range]
    rw [h.hz t r c h1 hr hc, if_pos (pix_lt hr hc), List.getD_eq_getElem?_getD, List.getElem?_eq_getElem h2]
    rfl
  · have := h.hl r c hr hc
    rw [if_pos (pix_lt hr hc)] at this
    rw [flat2_nat, Hdc.GenNum.rd_of_eq _ _ (r * nc + c) rfl, ← this]
    rfl

end Hdc.GenNumTyx
