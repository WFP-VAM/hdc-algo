import Hdc.Lemmas.GenNumOptvplcTyx
import Hdc.Lemmas.SmoothMasked
import Hdc.Props.GenNumOptvpCore
import Hdc.Props.GenNumAC1d
/-
The per-pixel result of `ws2doptvplc_tyx` in terms of the generated callees (`pixOut`, Hdc/Lemmas/GenNumOptvplcTyx.lean) is
what the hand model `Hdc.optvplc` returns for the pixel's series: bridges through the refinement theorems of the callees
(`gen_ws2doptvpCore_eq_model`, `gen_autocorr_1d_nd_eq_model`) and the masked-data congruence of the smoother
(`Smooth.optvpCore_masked`: the source smooths `xx` with 0 in the nodata cells, the model takes the raw series).
-/
namespace Hdc.GenNumTyx
open Hdc Hdc.Gen.NumKernels

variable {α : Type} [Field α] [LinearOrder α] [IsStrictOrderedRing α]

theorem eqv_cast (v nodata : Int) : eqv ((v : ℤ) : α) ((nodata : ℤ) : α) = true ↔ v = nodata := by
  simp only [eqv, Bool.and_eq_true, Bool.not_eq_true', decide_eq_false_iff_not, not_lt, Int.cast_le]
  omega

/-- the series as the model sees it: every cell cast to the carrier (nodata cells included) -/
def castS (s : List Int) : List α := s.map fun v => ((v : ℤ) : α)

theorem weightsOf_cast (nodata : Int) (s : List Int) :
    weightsOf (fun x : α => eqv x ((nodata : ℤ) : α)) (castS s) = wtI nodata s := by
  simp only [weightsOf, castS, wtI, List.map_map]
  apply List.map_congr_left
  intro v _
  simp [eqv_cast, nat]

theorem cleanOf_cast (nodata : Int) (s : List Int) :
    cleanOf (fun x : α => eqv x ((nodata : ℤ) : α)) (castS s) = cleanI nodata s := by
  simp only [cleanOf, castS, cleanI, List.map_map]
  apply List.map_congr_left
  intro v _
  simp [eqv_cast, nat]

theorem countValid_cast (nodata : Int) (s : List Int) :
    countValid (fun x : α => eqv x ((nodata : ℤ) : α)) (castS s) = goodI nodata s := by
  simp only [countValid, castS, goodI, List.filter_map, List.length_map]
  congr 1
  apply List.filter_congr
  intro v _
  rw [Bool.eq_iff_iff]
  simp [← eqv_cast (α := α)]

/-- the model's lag-1 autocorrelation of the pixel -/
def lcM (rsqrt : α → α) (eps : α) (nodata : Int) (s : List Int) : α :=
  autocorr1d rsqrt eps (s.map fun v => if v = nodata then none else some ((v : ℤ) : α))

/-- one pixel: the generated body computes the model.  `hfit`: only when a fit happens, `3 ≤ nt` (the translated `ws2d`) and
    at least two points in the grid that is selected. -/
theorem pixOut_eq_model (F : VFns α) (rnd : α → Int) (rsqrt : α → α) (eps : α) (g0 g1 : Array α) (c0_5 p : α)
    (nodata : Int) (s : List Int) (gNaN : List α)
    (hfit : 1 < goodI nodata s → 3 ≤ s.length ∧
      2 ≤ (if c0_5 < lcM rsqrt eps nodata s then g0.toList else g1.toList).length) :
    pixOut F rnd rsqrt eps g0 g1 c0_5 p nodata s =
      match optvplc F (fun x : α => eqv x ((nodata : ℤ) : α)) (castS s) p (decide (c0_5 < lcM rsqrt eps nodata s))
          (!decide (c0_5 < lcM rsqrt eps nodata s)) g0.toList g1.toList gNaN with
      | some (z, lo) => (z.map rnd, lo)
      | none => (List.replicate s.length 0, 0) := by
  unfold pixOut optvplc
  rw [countValid_cast]
  by_cases hg : 1 < goodI nodata s
  · obtain ⟨h3, h2⟩ := hfit hg
    rw [if_pos hg, if_pos hg, Hdc.GenNumAC1d.gen_autocorr_1d_nd_eq_model,
      Smooth.optvpCore_masked F (Smooth.maskedEq_clean (fun x : α => eqv x ((nodata : ℤ) : α)) (castS s)) p,
      weightsOf_cast, cleanOf_cast]
    have key : ∀ (g : Array α), 2 ≤ g.toList.length →
        (let res := ws2doptvpCore F (cleanI nodata s).toArray (wtI nodata s).toArray p g
         (if res.1.size = s.length then List.map rnd res.1.toList else List.replicate s.length 0, res.2)) =
        match optvpCore F (cleanI nodata s) (wtI nodata s) p g.toList with
        | some (z, lo) => (z.map rnd, lo)
        | none => (List.replicate s.length 0, 0) := by
      rintro ⟨g⟩ hg2
      have hE := Hdc.GenNum.optvpCore_eq F (cleanI nodata s) (wtI nodata s) p g hg2
      rw [Hdc.GenNum.gen_ws2doptvpCore_eq F _ _ g p (by simp) (by simpa using h3) hg2 _ _ hE, hE]
      simp [Smooth.expectile_length (cleanI nodata s) (wtI nodata s : List α) _ p (by simp)]
    by_cases hc : c0_5 < lcM rsqrt eps nodata s
    · simp only [lcM] at hc h2 ⊢
      simp only [hc, if_true, decide_true] at h2 ⊢
      exact key g0 h2
    · simp only [lcM] at hc h2 ⊢
      simp only [hc, if_false, decide_false, Bool.not_false, Bool.false_eq_true] at h2 ⊢
      exact key g1 h2
  · rw [if_neg hg, if_neg hg]

end Hdc.GenNumTyx
