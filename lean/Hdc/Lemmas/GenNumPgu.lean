import Hdc.Lemmas.GenNumFixed
import Hdc.Gen.NumWs2dpgu
import Std.Tactic.Do
/-
The generated `ws2dpgu` (Hdc/Gen/NumWs2dpgu.lean) on any input, as a `fitOrPass`: the one run of `mvcgen` behind
Hdc/Props/GenNumPgu.lean.  Apart from Hdc/Lemmas/GenNumFixed.lean so that the lemmas shared with other kernels do not
import this generated file.
-/
namespace Hdc.GenNum
open Hdc Hdc.Smooth Hdc.Gen.NumKernels Std.Do PyNpF

set_option mvcgen.warning false

variable {α : Type} [Field α] [LinearOrder α] [IsStrictOrderedRing α]

/-- `ws2dpgu`, whatever the lengths: the fitted curve is the translated `ws2d` with the weights `ww` the loop
    ends with; unless `len(y) = 2` (where the translated `ws2d` is not the model's) and for a buffer of the
    length of `y`, its rounding is the model's rounded `expectile` curve.  Invariant of the loop, state `(z, znew, wa, envelope, ww, z_tmp)`: `PInvM` on
    `(z, znew, wa, ww)`. -/
theorem gen_ws2dpgu_body (rnd : α → α) (isnan isinf : α → Bool) (y : List α) (lam nodata p : α)
    (out0 : Array α) (miss : α → Bool) (hmiss : miss = fun x => eqv x nodata || isnan x || isinf x) :
    ∃ ww, Gen.NumKernels.ws2dpgu rnd isnan isinf y.toArray lam nodata p out0 =
        fitOrPass rnd miss y lam (Gen.Ws2d.ws2d (cleanOf miss y).toArray lam ww) out0 ∧
      (y.length ≠ 2 → out0.size = y.length → eqv lam (nat 0) = false → 1 < countValid miss y →
        npRoundInto rnd (Gen.Ws2d.ws2d (cleanOf miss y).toArray lam ww) out0 =
          ((expectile (cleanOf miss y) (weightsOf miss y) lam p).map rnd).toArray) := by
  subst hmiss
  generalize hres : Gen.NumKernels.ws2dpgu rnd isnan isinf y.toArray lam nodata p out0 = res
  apply Id.of_wp_run_eq hres
  mvcgen -trivial invariants
  · ⇓⟨xs, s⟩ => ⌜y.length ≠ 2 → PInvM (fun x => eqv x nodata || isnan x || isinf x) y lam p
      xs.prefix.length s.1 s.2.1 s.2.2.1 s.2.2.2.2.1⌝
  -- one pass: `ww` is `asymW`, `znew` the re-fitted curve, `z_tmp` the `l1dist`; then `break` or `z[:] = znew[:]`
  case vc1 | vc2 =>
    rename_i hb hI
    intro h2
    have hrange := pyRange_split _ _ _ _ _ ‹pyRange _ _ = _›
    have hc := ‹decide (nat 1 < _) = true›
    simp (config := {zetaDelta := true}) only [npWeights_eq, one_lt_npSum_weights, decide_eq_true_eq] at hc
    have h3 := three_le_of_count _ y hc h2
    simp (config := {zetaDelta := true}) only [npWeights_eq, npClean_eq, npZipAA_eq, npMap_eq, npSum_eq,
      npMaskSetS_eq, npSetAll_eq, gen_ws2d_list, maskSet_both, asymW_zip, l1dist_zip, C01.ws2d_length, (hI h2).zsz,
      (hI h2).nsz, (hI h2).asz, List.size_toArray, List.toList_toArray, List.length_zipWith, List.length_map,
      Array.length_toList, asymW_length, weightsOf_length, cleanOf_length, Nat.min_self, h3, List.length_append,
      List.length_singleton] at hb ⊢
    first
      | exact (hI h2).brk (by omega) _ _ (by simp [C01.ws2d_length, (hI h2).zsz]) (by simp [(hI h2).zsz]) hb
      | exact (hI h2).step (by omega) (by simp) _ (by simp [(hI h2).zsz]) hb
  -- entry of the loop: `z = znew = wa = np.zeros(m)`
  case vc3 => exact fun _ => PInv.init _ _ lam p 9 _ (by simp (config := {zetaDelta := true})) _
  -- after the loop: `z = ws2d(y, lmda, ww); np.round(z, 0, out)`
  case vc4 =>
    rename_i hI
    have h0 := ‹(!eqv lam _) = true›
    have hc := ‹decide (nat 1 < _) = true›
    simp (config := {zetaDelta := true}) only [npWeights_eq, one_lt_npSum_weights, npClean_eq, decide_eq_true_eq,
      Bool.not_eq_true'] at h0 hc ⊢
    refine ⟨_, by rw [fitOrPass, if_neg (Bool.eq_false_iff.1 h0), if_pos hc], fun h2 hout _ _ => ?_⟩
    rw [(hI h2).final rfl, round_gen_ws2d_list rnd _ _ out0 lam
      (irls_snd_length _ _ lam p (by simp) 9 _ _ (by simp)) (by simpa using hout)
      (by simpa using three_le_of_count _ y hc h2)]
    rfl
  -- fewer than two valid cells, `lmda == 0`: `out[:] = y[:]`
  case vc5 =>
    have h0 := ‹(!eqv lam _) = true›
    have hc := ‹¬ decide (nat 1 < _) = true›
    simp (config := {zetaDelta := true}) only [npWeights_eq, one_lt_npSum_weights, decide_eq_true_eq,
      Bool.not_eq_true'] at h0 hc ⊢
    exact ⟨#[], by rw [fitOrPass, if_neg (Bool.eq_false_iff.1 h0), if_neg hc], fun _ _ _ hc' => absurd hc' hc⟩
  case vc6 =>
    rename_i h0
    simp (config := {zetaDelta := true}) only [Bool.not_eq_true', Bool.not_eq_false] at h0 ⊢
    exact ⟨#[], by rw [fitOrPass, if_pos h0], fun _ _ h0' => absurd (h0.symm.trans h0') (by decide)⟩

end Hdc.GenNum
