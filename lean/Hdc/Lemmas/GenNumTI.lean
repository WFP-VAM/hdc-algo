import Hdc.Lemmas.GenNum
import Hdc.Lemmas.StatsTI
import Hdc.Props.C01gen
/-
Loop invariants for the refinement proof "generated translation of tinterpolate.py = hand model
`Hdc.tinterp`" (Hdc/Props/GenNumTI.lean):

  * `Scat` : the scatter loop (`temp[ii] = x[jj]` at the marks of the template) against
             `scatterMarks`;
  * `Runs` : the run-length loop (`out[kk] = round(v / jj)` at every change of label) against
             `runMeans`.

Nothing in this file mentions the generated kernel.
-/
namespace Hdc.GenNum
open Hdc Hdc.Gen.NumKernels
open Hdc.Ws2dGen (av Upd)
open Hdc.Ws2d (fnl fnl_of_lt fnl_of_le)
open Hdc.GenKernels (gv lv gv_toArray)
open Hdc.Stats (marksBefore marksBefore_succ marksBefore_lt_of_mark scatterMarks_getElem?
  scatterMarks_length setLast_eq setLast_length)

set_option linter.unusedSectionVars false

variable {α : Type} [Field α] [LinearOrder α] [IsStrictOrderedRing α]

/-! ### arrays and lists read as functions -/

omit [LinearOrder α] [IsStrictOrderedRing α] in
theorem av_eq_fnl_toList (z : Array α) (j : ℕ) : av z j = fnl z.toList j := by
  simp [av, fnl]

omit [LinearOrder α] [IsStrictOrderedRing α] in
theorem av_list (l : List α) (j : ℕ) : av l.toArray j = fnl l j :=
  Hdc.Ws2dGen.av_toArray l j

omit [LinearOrder α] [IsStrictOrderedRing α] in
theorem eq_toArray_of_av (z : Array α) (l : List α) (hs : z.size = l.length)
    (h : ∀ j < l.length, av z j = fnl l j) : z = l.toArray := by
  have := Hdc.Ws2dGen.toList_eq_of_av z l hs h
  rw [← this]

omit [LinearOrder α] [IsStrictOrderedRing α] in
/-- `x[-1]` (0 on the empty array, where Python raises) -/
theorem rd_last (x : List α) : rd x.toArray (-1) = x.getLastD (nat 0) := by
  rcases List.eq_nil_or_concat x with rfl | ⟨l, a, rfl⟩
  · simp [rd, ix, nat]
  · rw [rd_of_neg _ (-1) l.length (by omega) (by simp)]
    simp [av]

omit [LinearOrder α] [IsStrictOrderedRing α] in
theorem fnl_set (l : List α) (k : ℕ) (v : α) (j : ℕ) (hk : k < l.length) :
    fnl (l.set k v) j = if j = k then v else fnl l j := by
  unfold fnl
  rw [List.getD_eq_getElem?_getD, List.getD_eq_getElem?_getD, List.getElem?_set]
  by_cases h : j = k
  · subst h; simp [hk]
  · rw [if_neg (fun e => h e.symm), if_neg h]

/-! ### the scatter loop -/

/-- the nonzero cells of the template (the marks) -/
def nmarks (t : List α) : ℕ := t.countP (fun v => decide (v ≠ 0))

theorem fnl_scatterMarks (t x : List α) (j : ℕ) (hj : j < t.length) :
    fnl (scatterMarks t x) j =
      if fnl t j = 0 then 0 else x.getD (marksBefore t j) (fnl t j) := by
  unfold fnl
  rw [List.getD_eq_getElem?_getD, scatterMarks_getElem?]
  simp [hj]

/-- after `p` passes: `ii = p`, `jj` observations consumed, cells `< p` scattered, cells `≥ p`
    still the template -/
structure Scat (t x : List α) (p : ℕ) (temp : Array α) (ii jj : ℤ) : Prop where
  hii : ii = (p : ℤ)
  hjj : jj = (marksBefore t p : ℤ)
  size : temp.size = t.length
  done : ∀ j < p, av temp j = fnl (scatterMarks t x) j
  rest : ∀ j, p ≤ j → av temp j = fnl t j

theorem Scat.init (t x : List α) : Scat t x 0 t.toArray 0 0 :=
  ⟨rfl, by simp [Stats.marksBefore_zero], by simp, fun j hj => by omega, fun j _ => av_list t j⟩

/-- a mark: `temp[ii] = x[jj]; jj += 1; ii += 1` -/
theorem Scat.step_mark {t x : List α} {p : ℕ} {temp : Array α} {ii jj cur : ℤ}
    (h : Scat t x p temp ii jj) (hp : p < t.length) (hm : nmarks t ≤ x.length)
    (hne : (!eqv (rd temp cur) (nat 0)) = true) (hcur : cur = (p : ℤ)) :
    Scat t x (p + 1) (wr temp ii (rd x.toArray jj)) (ii + 1) (jj + 1) := by
  have hne' : fnl t p ≠ 0 := by
    rw [rd_of_eq temp cur p hcur, h.rest p (le_refl _)] at hne
    intro h0
    rw [h0] at hne
    simp [(Stats.eqv_iff (0 : α) 0).2 rfl, nat] at hne
  have hne'' : t[p] ≠ 0 := by rwa [fnl_of_lt t p hp] at hne'
  have hlt := marksBefore_lt_of_mark t p hp hne''
  have hu := wr_upd (a0 := temp) (v := rd x.toArray jj) rfl p h.hii (by rw [h.size]; exact hp)
  refine ⟨by rw [h.hii]; push_cast; ring, ?_, hu.size.trans h.size, fun j hj => ?_, fun j hj => ?_⟩
  · rw [h.hjj, marksBefore_succ t p hp, if_neg hne'']; push_cast; ring
  · by_cases hjp : j = p
    · subst hjp
      rw [hu.self, fnl_scatterMarks t x j hp, if_neg hne', rd_of_eq _ jj _ h.hjj, av_list]
      unfold fnl nmarks at *
      rw [List.getD_eq_getElem?_getD, List.getD_eq_getElem?_getD,
        List.getElem?_eq_getElem (by omega)]
      rfl
    · rw [hu.other j hjp]; exact h.done j (by omega)
  · rw [hu.other j (by omega)]; exact h.rest j (by omega)

/-- no mark: `ii += 1` -/
theorem Scat.step_zero {t x : List α} {p : ℕ} {temp : Array α} {ii jj cur : ℤ}
    (h : Scat t x p temp ii jj) (hp : p < t.length)
    (hz : ¬ (!eqv (rd temp cur) (nat 0)) = true) (hcur : cur = (p : ℤ)) :
    Scat t x (p + 1) temp (ii + 1) jj := by
  have hz' : fnl t p = 0 := by
    rw [rd_of_eq temp cur p hcur, h.rest p (le_refl _)] at hz
    simpa [Stats.eqv_iff, nat] using hz
  have hz'' : t[p] = 0 := by rwa [fnl_of_lt t p hp] at hz'
  refine ⟨by rw [h.hii]; push_cast; ring, ?_, h.size, fun j hj => ?_, fun j hj => h.rest j (by omega)⟩
  · rw [h.hjj, marksBefore_succ t p hp, if_pos hz'']; simp
  · by_cases hjp : j = p
    · subst hjp
      rw [h.rest j (le_refl _), fnl_scatterMarks t x j hp, if_pos hz', hz']
    · exact h.done j (by omega)

/-- after the loop and `temp[-1] = x[-1]`: the vector the model hands to the smoother -/
theorem Scat.final {t x : List α} {p : ℕ} {temp : Array α} {ii jj : ℤ}
    (h : Scat t x p temp ii jj) (hp : p = t.length) (h1 : 1 ≤ t.length) :
    wr temp (-1) (rd x.toArray (-1)) = (setLast (scatterMarks t x) (x.getLastD (nat 0))).toArray := by
  have hu := wr_upd_neg (a0 := temp) (i := -1) (v := rd x.toArray (-1)) rfl (t.length - 1) (by omega)
    (by rw [h.size]; omega)
  apply eq_toArray_of_av
  · rw [hu.size, h.size, setLast_length, scatterMarks_length]
  · intro j hj
    rw [setLast_length, scatterMarks_length] at hj
    rw [setLast_eq, scatterMarks_length, fnl_set _ _ _ _ (by rw [scatterMarks_length]; omega)]
    by_cases hjl : j = t.length - 1
    · rw [if_pos hjl, hjl, hu.self, rd_last]
    · rw [if_neg hjl, hu.other j hjl]
      exact h.done j (by omega)

/-! ### the run-length loop -/

/-- the value written for a run: `round(sum / days)` -/
def band (rnd : α → α) (d : α × ℕ) : α := rnd (d.1 / (d.2 : α))

omit [LinearOrder α] [IsStrictOrderedRing α] in
/-- `out[kk] = round(v / jj)` appends the run `(v, jj)` to the written prefix (nothing happens when the buffer is
    full: Python raises, the translation ignores the write) -/
theorem write_run {rnd : α → α} {out out0 : Array α} {done : List (α × ℕ)} {kk jj : ℤ} (v : α) (k : ℕ)
    (hs : out.size = out0.size)
    (hd : ∀ j < out0.size, av out j = ((done.map (band rnd))[j]?).getD (av out0 j))
    (hk : kk = (done.length : ℤ)) (hj : jj = (k : ℤ)) :
    (wr out kk (rnd (v / ((jj : ℤ) : α)))).size = out0.size ∧
      ∀ j < out0.size, av (wr out kk (rnd (v / ((jj : ℤ) : α)))) j =
        (((done ++ [(v, k)]).map (band rnd))[j]?).getD (av out0 j) := by
  have hv : rnd (v / ((jj : ℤ) : α)) = band rnd (v, k) := by
    rw [hj, Int.cast_natCast]; rfl
  rw [hv]
  by_cases hlt : done.length < out.size
  · have hu := wr_upd (a0 := out) (v := band rnd (v, k)) rfl done.length hk hlt
    refine ⟨hu.size.trans hs, fun j hj => ?_⟩
    by_cases hjk : j = done.length
    · subst hjk; rw [hu.self]; simp
    · rw [hu.other j hjk, hd j hj]
      by_cases hjl : j < done.length
      · simp [List.getElem?_append_left, hjl]
      · have : done.length + 1 ≤ j := by omega
        simp [List.getElem?_eq_none, this, (by omega : done.length ≤ j)]
  · rw [wr_out out kk _ (by omega)]
    refine ⟨hs, fun j hj => ?_⟩
    rw [hd j hj]
    have hjl : j < done.length := by omega
    simp [List.getElem?_append_left, hjl]

/-- after `p` passes (labels `1 … p` consumed): `done` runs written, the current run has label
    `labels[p]`, sum `v` and `jj` days; the model, continued from here, returns its result -/
def Runs (labels : List Int) (zl : List α) (g : α × ℕ → α) (out0 : Array α) (p : ℕ)
    (out : Array α) (ii jj kk : ℤ) (v : α) : Prop :=
  ∃ (done : List (α × ℕ)) (k : ℕ), ii = (p : ℤ) + 1 ∧ jj = (k : ℤ) ∧ kk = (done.length : ℤ) ∧
    out.size = out0.size ∧
    (∀ j < out0.size, av out j = ((done.map g)[j]?).getD (av out0 j)) ∧
    done ++ runMeans ((labels.zip zl).drop (p + 1)) (some (lv labels p, v, k))
      = runMeans (labels.zip zl) none

omit [LinearOrder α] [IsStrictOrderedRing α] in
theorem Runs.hii {labels : List Int} {zl : List α} {g : α × ℕ → α} {out0 out : Array α}
    {p : ℕ} {ii jj kk : ℤ} {v : α} (h : Runs labels zl g out0 p out ii jj kk v) :
    ii = (p : ℤ) + 1 := by
  obtain ⟨_, _, h, _⟩ := h; exact h

omit [IsStrictOrderedRing α] in
theorem Runs.init (labels : List Int) (zl : List α) (g : α × ℕ → α) (out0 : Array α)
    (hl : 1 ≤ labels.length) (hz : 1 ≤ zl.length) :
    Runs labels zl g out0 0 out0 1 1 0 (fnl zl 0) := by
  refine ⟨[], 1, by simp, by simp, by simp, rfl, fun j hj => by simp, ?_⟩
  match labels, zl, hl, hz with
  | l :: ls, a :: zs, _, _ => simp [runMeans, lv, fnl]

omit [IsStrictOrderedRing α] in
theorem drop_zip_cons (labels : List Int) (zl : List α) (q : ℕ) (hq : q < labels.length)
    (hz : labels.length ≤ zl.length) :
    (labels.zip zl).drop q = (lv labels q, fnl zl q) :: (labels.zip zl).drop (q + 1) := by
  have hlen : q < (labels.zip zl).length := by rw [List.length_zip]; omega
  rw [List.drop_eq_getElem_cons hlen, List.getElem_zip]
  congr 2
  · simp [lv, hq]
  · rw [fnl_of_lt zl q (by omega)]

omit [IsStrictOrderedRing α] in
/-- same label: `v += z[ii]; jj += 1; ii += 1` -/
theorem Runs.step_same {labels : List Int} {zl : List α} {g : α × ℕ → α} {out0 out : Array α}
    {p : ℕ} {ii jj kk : ℤ} {v : α} (h : Runs labels zl g out0 p out ii jj kk v)
    (hp : p + 1 < labels.length) (hz : labels.length ≤ zl.length)
    (heq : lv labels (p + 1) = lv labels p) :
    Runs labels zl g out0 (p + 1) out (ii + 1) (jj + 1) kk (v + fnl zl (p + 1)) := by
  obtain ⟨done, k, hii, hjj, hkk, hs, hd, hm⟩ := h
  refine ⟨done, k + 1, by rw [hii]; push_cast; ring, by rw [hjj]; push_cast; ring, hkk, hs, hd, ?_⟩
  rw [← hm, drop_zip_cons labels zl (p + 1) hp hz, runMeans, if_pos heq, heq]

/-- new label: `out[kk] = round(v / jj); kk += 1; jj = 1; v = z[ii]; ii += 1` -/
theorem Runs.step_new {labels : List Int} {zl : List α} {rnd : α → α} {out0 out : Array α}
    {p : ℕ} {ii jj kk : ℤ} {v : α} (h : Runs labels zl (band rnd) out0 p out ii jj kk v)
    (hp : p + 1 < labels.length) (hz : labels.length ≤ zl.length)
    (hne : lv labels (p + 1) ≠ lv labels p) :
    Runs labels zl (band rnd) out0 (p + 1) (wr out kk (rnd (v / ((jj : ℤ) : α)))) (ii + 1) 1
      (kk + 1) (fnl zl (p + 1)) := by
  obtain ⟨done, k, hii, hjj, hkk, hs, hd, hm⟩ := h
  have hw := write_run v k hs hd hkk hjj
  refine ⟨done ++ [(v, k)], 1, by rw [hii]; push_cast; ring, by simp,
    by rw [hkk]; simp, hw.1, hw.2, ?_⟩
  rw [← hm, drop_zip_cons labels zl (p + 1) hp hz, runMeans, if_neg hne, List.append_assoc]
  rfl

/-- after the loop: `out[kk] = round(v / jj)` writes the last run -/
theorem Runs.final {labels : List Int} {zl : List α} {rnd : α → α} {out0 out : Array α}
    {p : ℕ} {ii jj kk : ℤ} {v : α} (h : Runs labels zl (band rnd) out0 p out ii jj kk v)
    (hp : p + 1 = labels.length) (hz : labels.length ≤ zl.length) :
    (wr out kk (rnd (v / ((jj : ℤ) : α)))).size = out0.size ∧
    ∀ j < out0.size, av (wr out kk (rnd (v / ((jj : ℤ) : α)))) j =
      (((runMeans (labels.zip zl) none).map (band rnd))[j]?).getD (av out0 j) := by
  obtain ⟨done, k, hii, hjj, hkk, hs, hd, hm⟩ := h
  have hw := write_run v k hs hd hkk hjj
  rw [← hm]
  have : (labels.zip zl).drop (p + 1) = [] := by
    apply List.drop_eq_nil_of_le
    rw [List.length_zip]; omega
  rw [this, runMeans]
  exact hw

omit [LinearOrder α] [IsStrictOrderedRing α] in
/-- the buffer, as a list: the runs, then (if it is longer) its old content -/
theorem toList_of_spec {g : α × ℕ → α} {out out0 : Array α} {L : List (α × ℕ)}
    (hs : out.size = out0.size)
    (h : ∀ j < out0.size, av out j = ((L.map g)[j]?).getD (av out0 j)) :
    out.toList = (L.map g ++ out0.toList.drop L.length).take out0.size := by
  apply List.ext_getElem
  · simp only [Array.length_toList, List.length_take, List.length_append, List.length_map,
      List.length_drop]
    omega
  · intro j h1 h2
    have hj : j < out0.size := by simpa [hs] using h1
    have := h j hj
    rw [av_eq_fnl_toList, fnl_of_lt _ _ h1] at this
    rw [this, List.getElem_take]
    by_cases hjl : j < L.length
    · rw [List.getElem_append_left (by simpa using hjl)]
      simp [hjl]
    · rw [List.getElem_append_right (by simpa using hjl)]
      simp only [List.length_map, List.getElem_drop]
      rw [List.getElem?_eq_none (by simpa using hjl), Option.getD_none, av_eq_fnl_toList,
        fnl_of_lt _ _ (by simpa using hj)]
      congr 1
      omega

/-- the number of values the model returns: the number of maximal runs of equal labels -/
theorem tinterp_length (lam : α) (x t : List α) (labels : List Int)
    (hlen : t.length = labels.length) :
    (Hdc.tinterp lam x t labels).length = (labels.splitBy (· == ·)).length := by
  unfold tinterp
  simp only []
  rw [Stats.runMeans_spanSums _ _ (by rw [Stats.tinterp_z_length, hlen]), Stats.spanSums_length,
    List.length_map]

end Hdc.GenNum
