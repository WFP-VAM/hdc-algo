import Hdc.Lemmas.PyNpW
import Hdc.Lemmas.SmoothGcv
import Hdc.Lemmas.SmoothIrls
import Hdc.Lemmas.GenNumOptv
/-
Lemmas for the refinement proofs "generated translation of ws2dwcv.py / ws2dwcvp.py = hand model
`Hdc.wcv` / `Hdc.wcvp`" (Hdc/Props/GenNumWcv.lean, GenNumWcvp.lean):

  (a) the NumPy expressions of the source on arrays (`wOf`, `yOf`, `dOf`, `trOf`, `scoreOf`, `madA`, `rnewA`, …) = the
      model's functions (`weightsOf`, `countValid`, `cleanOf`, `deigs`, `gammaOf`, `gcvScore`, `robustStep`);
  (b) `bestOf` / `SweepOk`: the invariant of the loop over the λ grid (`gcvSweep`);
  (c) `OuterInv`: the invariant of the robust loop (`grun`, the chain of `gstep`s of
      Hdc/Lemmas/SmoothGcv.lean);
  (d) `IrlsOk`: the re-weighting loop of ws2dwcvp (`irls`);
  (e), (f) the verification conditions of the loops, one lemma each, on the arrays the source binds.

Nothing in this file mentions a generated kernel.
-/
namespace Hdc.SafeWcv
open Hdc Hdc.Gen.NumKernels Hdc.PyNpW

/-! the NumPy expressions of `ws2dwcv.py` / `ws2dwcvp.py` on arrays, by the names the contracts of the instrumented kernels
(Hdc/Props/SafeWs2dwcv.lean) use -/

section defs
variable {α : Type} [Add α] [Sub α] [Mul α] [Div α] [Neg α] [NatCast α] [LT α] [DecidableLT α]

/-- `w = 1 - np.array([(x == nodata) or np.isnan(x) or np.isinf(x) for x in y], dtype=float64)` -/
def wOf (nodata : α) (isnan isinf : α → Bool) (y : Array α) : Array α :=
  npMap (fun e => nat 1 - e) (npMap (fun (b : Bool) => if b then (nat 1 : α) else (nat 0 : α))
    (npMap (fun x => (eqv x nodata || isnan x || isinf x)) y))

/-- `y = np.where(w == 0, 0.0, y)` -/
def yOf (w y : Array α) : Array α := npWhereSA (npMap (fun e => eqv e (nat 0)) w) (nat 0) y

/-- `gamma.sum()` with `gamma = w / (w + s * ((-1 * d_eigs) ** 2))` -/
def trOf (w de : Array α) (s : α) : α :=
  npSum (npMap2 (fun a b => a / b) w (npMap2 (fun a b => a + b) w
    (npMap (fun e => s * e) (npMap (fun e => e * e) (npMap (fun e => (-(nat 1)) * e) de)))))

/-- the GCV score of the smoothing parameter `s`:
    `(((w**0.5) * (y - z)) ** 2).sum() / (w.sum() * (1 - gamma.sum() / w.sum()) ** 2)` with `z = ws2d(y, s, w)` -/
def scoreOf (G : GFns α) (y w de : Array α) (s : α) : α :=
  npSum (npMap (fun e => e * e) (npMap2 (fun a b => a * b) (npMap (fun e => G.sqrtw e) w)
      (npMap2 (fun a b => a - b) y (Gen.Ws2d.ws2d y s w))))
    / (npSum w * ((nat 1 - trOf w de s / npSum w) * (nat 1 - trOf w de s / npSum w)))

end defs

/-- `d_eigs = -2 + 2 * np.cos(np.arange(m) * np.pi / m); d_eigs[0] = 1e-15` -/
def dOf {α : Type} [Add α] [Mul α] [Div α] [Neg α] [NatCast α] [IntCast α] (G : GFns α) (cos : α → α) (pi : α) (m : ℤ) :
    Array α :=
  wr (npMap (fun e => (-(nat 2)) + e) (npMap (fun e => (nat 2) * e) (npMap (fun e => cos e)
    (npMap (fun e => e / ((m : ℤ) : α)) (npMap (fun e => e * pi) (npMap (fun (e : ℤ) => ((e : ℤ) : α)) (npArange m))))))) 0 G.eig0

end Hdc.SafeWcv

namespace Hdc.GenNum
open Hdc Hdc.Gen.NumKernels Hdc.PyNpW Hdc.Smooth
open Hdc.Ws2dGen (av)

set_option linter.unusedSectionVars false

variable {α : Type} [Field α] [LinearOrder α] [IsStrictOrderedRing α]

/-- the missing-cell test of the GCV kernels: `(x == nodata) or np.isnan(x) or np.isinf(x)` -/
abbrev missG (nodata : α) (isnan isinf : α → Bool) : α → Bool :=
  fun x => eqv x nodata || isnan x || isinf x

/-! ### (a) NumPy idioms at the list level -/

/-- `w = 1 - np.array([(x == nodata) or np.isnan(x) or np.isinf(x) for x in y], dtype=float64)` -/
theorem toList_wOf (nodata : α) (isnan isinf : α → Bool) (y : List α) :
    (SafeWcv.wOf nodata isnan isinf y.toArray).toList = weightsOf (missG nodata isnan isinf) y := by
  simp only [SafeWcv.wOf, toList_npMap, weightsOf, List.map_map]
  apply List.map_congr_left
  intro x _
  by_cases h : missG nodata isnan isinf x <;> simp [h, nat]

theorem sumF_weightsOf (miss : α → Bool) (y : List α) :
    sumF (weightsOf miss y) = (countValid miss y : α) := by
  rw [sumF_eq]
  induction y with
  | nil => simp [weightsOf, countValid]
  | cons x xs ih =>
    have ih' : (List.map (fun x => if miss x = true then (nat 0 : α) else nat 1) xs).sum
        = (countValid miss xs : α) := ih
    by_cases h : miss x
    · simp [weightsOf, countValid, h, nat] at ih' ⊢
      exact ih'
    · simp [weightsOf, countValid, h, nat] at ih' ⊢
      rw [ih']; ring

/-- `y = np.where(w == 0, 0.0, y)` -/
theorem toList_yOf {miss : α → Bool} {wa : Array α} (y : List α) (hwa : wa.toList = weightsOf miss y) :
    (SafeWcv.yOf wa y.toArray).toList = cleanOf miss y := by
  simp only [SafeWcv.yOf, toList_npWhereSA, toList_npMap, hwa, weightsOf, cleanOf, List.map_map]
  clear hwa
  induction y with
  | nil => rfl
  | cons x xs ih =>
    simp only [List.map_cons, List.zipWith_cons_cons, ih, Function.comp]
    congr 1
    by_cases h : miss x
    · simp [h, nat, eqv]
    · simp [h, nat, eqv]

/-- `y[w != 0]`, `r_arr[w_temp != 0]` -/
theorem select_np (a w : List α) :
    List.map (fun p => p.1)
      (List.filter (fun p => p.2) (a.zip (List.map (fun e => !eqv e (nat 0)) w)))
      = ((a.zip w).filter fun (_, wi) => !(eqv wi (nat 0))).map (·.1) := by
  rw [List.zip_map_right, List.filter_map, List.map_map]
  rfl

/-- `d_eigs = -2 + 2 * np.cos(np.arange(m) * np.pi / m); d_eigs[0] = 1e-15` -/
theorem toList_dOf (G : GFns α) (cos : α → α) (pi : α)
    (hG : ∀ i m : ℕ, G.eig i m = -2 + 2 * cos ((i : α) * pi / (m : α))) (m : ℕ) :
    (SafeWcv.dOf G cos pi m).toList = deigs G m := by
  simp only [SafeWcv.dOf, toList_wr_zero, toList_npMap, npArange_natCast, deigs, List.map_map]
  apply List.ext_getElem
  · simp
  · intro i h1 h2
    simp only [List.length_set, List.length_map, List.length_range] at h1
    rw [List.getElem_set]
    by_cases hi : i = 0
    · subst hi; simp
    · have : ¬ 0 = i := fun h => hi h.symm
      simp [this, hi, hG, nat]

/-! ### (b) the loop over the λ grid -/

/-- the running best of the source: `gcv_temp = [score, λ]`, and `y_temp` once it is bound -/
def bestOf (gt yt : Array α) (set : Bool) : Best α :=
  ⟨rd gt 0, rd gt 1, if set then some yt.toList else none⟩

/-- after the λ values `pre`: the state is the model's sweep over `pre`; a bound `y_temp` has the
    length of the data -/
structure SweepOk (G : GFns α) (y wt de : List α) (b0 : Best α) (pre : List α)
    (gt yt : Array α) (set : Bool) (z : Array α) : Prop where
  best : bestOf gt yt set = pre.foldl (sweepStep G y wt de) b0
  ylen : set = true → yt.size = y.length
  zlen : z.size = y.length

theorem SweepOk.init (G : GFns α) (y wt de : List α) (gt yt : Array α) (set : Bool) (z : Array α)
    (h : set = true → yt.size = y.length) (hz : z.size = y.length) :
    SweepOk G y wt de (bestOf gt yt set) [] gt yt set z := ⟨rfl, h, hz⟩

section step
variable {G : GFns α} {y wt de : List α} {b0 : Best α} {pre : List α} {cur sc : α} {gt yt z z0 : Array α}
  {set : Bool} (h : SweepOk G y wt de b0 pre gt yt set z0)
include h

/-- `gcv[0] < gcv_temp[0]`: the candidate replaces the running best, `y_temp = z` -/
theorem SweepOk.step_lt (hlt : rd #[sc, cur] 0 < rd gt 0) (hsc : sc = gsc G y wt de cur)
    (hz : z = (ws2d y cur wt).toArray) (hw : wt.length = y.length) :
    SweepOk G y wt de b0 (pre ++ [cur]) #[sc, cur] z true z := by
  have hzl : z.size = y.length := by rw [hz, List.size_toArray, C01.ws2d_length y wt cur hw]
  refine ⟨?_, fun _ => hzl, hzl⟩
  rw [List.foldl_append, ← h.best]
  simp only [List.foldl_cons, List.foldl_nil, sweepStep]
  rw [rd_pair_zero] at hlt
  have h0 : (bestOf gt yt set).score = rd gt 0 := rfl
  rw [h0, ← hsc, if_pos hlt, cand, ← hsc, hz]
  simp [bestOf, rd_pair_zero, rd_pair_one]

/-- otherwise the running best stays -/
theorem SweepOk.step_ge (hge : ¬ rd #[sc, cur] 0 < rd gt 0) (hsc : sc = gsc G y wt de cur)
    (hz : z = (ws2d y cur wt).toArray) (hw : wt.length = y.length) :
    SweepOk G y wt de b0 (pre ++ [cur]) gt yt set z := by
  refine ⟨?_, h.ylen, by rw [hz, List.size_toArray, C01.ws2d_length y wt cur hw]⟩
  rw [List.foldl_append, ← h.best]
  simp only [List.foldl_cons, List.foldl_nil, sweepStep]
  rw [rd_pair_zero] at hge
  have h0 : (bestOf gt yt set).score = rd gt 0 := rfl
  rw [h0, ← hsc, if_neg hge]

end step

/-- `lopt[0] = v` on the one-cell buffer -/
theorem wr_one (a : Array α) (v : α) (h : a.size = 1) : wr a 0 v = #[v] :=
  Array.toList_inj.1 (wr_single a v h)

/-! ### (c) the robust loop -/

/-- initial state of the loop -/
def gs0 (G : GFns α) (y : List α) : GState α := (⟨G.big, nat 0, none⟩, y.map (fun _ => nat 1), [])

/-- the program state `(y_temp, y_temp_set, robust_weights, robust_weights_set, z, r_weights, robust_gcv,
    gcv_temp)` after `p` iterations is the model's state `st` -/
structure OuterOk (y w : List α) (p : ℕ) (st : GState α)
    (yt : Array α) (set : Bool) (rwts : Array α) (rwset : Bool) (z rw : Array α)
    (rg : Array (Array α)) (gt : Array α) : Prop where
  zlen : z.size = y.length
  best : bestOf gt yt set = st.1
  ylen : set = true → yt.size = y.length
  rweq : rw.toList = st.2.1
  rwlen : rw.size = y.length
  hist : rg.toList.map (fun a => rd a 1) = st.2.2.map (·.lam)
  hlen : st.2.2.length = p
  rwts : 0 < p → rwset = true ∧ rwts.toList = mul2 w st.2.1

/-- invariant of the robust loop after `p` iterations: the model's chain `grun` failed (an unbound
    `y_temp` was read) and the flag `unbound` is up, or it is in the state of the program -/
def OuterInv (G : GFns α) (y w de lp : List α) (robust : Bool) (n : α) (p : ℕ)
    (unbound : Bool) (yt : Array α) (set : Bool) (rwts : Array α) (rwset : Bool) (z rw : Array α)
    (rg : Array (Array α)) (gt : Array α) : Prop :=
  match grun G y w de lp robust n p 0 (gs0 G y) with
  | none => unbound = true
  | some st => unbound = false ∧ OuterOk y w p st yt set rwts rwset z rw rg gt

section outer
variable {G : GFns α} {y w de lp : List α} {n : α} {p : ℕ} {unbound : Bool} {yt : Array α} {set : Bool}
  {rwts : Array α} {rwset : Bool} {z rw : Array α} {rg : Array (Array α)} {gt : Array α}

/-- while `unbound` is down the model's chain is in the state of the program -/
theorem OuterInv.ok {robust : Bool}
    (h : OuterInv G y w de lp robust n p unbound yt set rwts rwset z rw rg gt) (hu : unbound = false) :
    ∃ st, grun G y w de lp robust n p 0 (gs0 G y) = some st ∧ OuterOk y w p st yt set rwts rwset z rw rg gt := by
  unfold OuterInv at h
  cases hg : grun G y w de lp robust n p 0 (gs0 G y) with
  | none => rw [hg] at h; rw [h] at hu; cases hu
  | some st => rw [hg] at h; exact ⟨st, rfl, h.2⟩

theorem OuterInv.init (G : GFns α) (y w de lp : List α) (robust : Bool) (n : α) (m : ℕ)
    (hm : m = y.length) (rwts : Array α) :
    OuterInv G y w de lp robust n 0 false #[] false rwts false (Array.replicate m (nat 0))
      (Array.replicate m (nat 1)) #[] #[G.big, nat 0] := by
  subst hm
  unfold OuterInv
  simp only [grun]
  refine ⟨by trivial, ?_⟩
  exact {
    zlen := by simp
    best := by simp [bestOf, gs0, rd_pair_zero, rd_pair_one]
    ylen := fun h => by cases h
    rweq := by simp [gs0]
    rwlen := by simp
    hist := rfl
    hlen := rfl
    rwts := fun h => by omega }

theorem hist_lam (hist : List (Best α)) (rg : Array (Array α)) (d : Best α)
    (hh : rg.toList.map (fun a => rd a 1) = hist.map (·.lam)) (k : ℕ) (hk : k < hist.length) :
    rd (rdA rg (k : ℤ)) 1 = (hist.getD k d).lam := by
  rw [rdA_eq]
  have h1 : (rg.toList.map (fun a => rd a 1)).getD k 0 = (hist.map (·.lam)).getD k 0 := by rw [hh]
  have hk' : k < rg.toList.length := by
    have := congrArg List.length hh
    simp only [List.length_map] at this
    omega
  simp only [List.getD_eq_getElem?_getD, List.getElem?_map, List.getElem?_eq_getElem hk,
    List.getElem?_eq_getElem hk', Option.map_some, Option.getD_some] at h1 ⊢
  exact h1

/-- the λ values of iteration `p`, read from `robust_gcv` -/
theorem iterLams_eq (lp : List α) (p : ℕ) (hist : List (Best α)) (rg : Array (Array α))
    (hh : rg.toList.map (fun a => rd a 1) = hist.map (·.lam)) (hl : hist.length = p) :
    (if 1 < p then [rd (rdA rg 1) 1] else lp) = iterLams lp p hist := by
  unfold iterLams
  split_ifs with h1
  · have := hist_lam hist rg ⟨nat 0, nat 0, none⟩ hh 1 (by omega)
    rw [show ((1 : ℕ) : ℤ) = 1 from rfl] at this
    rw [this]
    match hist, hl with
    | h0 :: b1 :: rest, _ => rfl
    | [_], hl => simp at hl; omega
    | [], hl => simp at hl; omega
  · rfl

end outer

/-- what a caller of the gufunc sees: the pass-through copies the input and reports `lopt = 0`, the
    unbound-variable failure has no result, otherwise the rounded curve and λ -/
def wcvOut (rnd : α → α) (y : List α) : GcvOut α → Option (Array α × Array α)
  | .passthrough => some (y.toArray, #[0])
  | .unbound => none
  | .ok z lo => some ((z.map rnd).toArray, #[lo])

/-- after the loop: the λ the source reports and the weights of the final fit are the model's -/
theorem OuterInv.final {G : GFns α} (miss : α → Bool) (y llas : List α) (robust : Bool)
    (h4 : 4 < countValid miss y)
    {unbound : Bool} {yt : Array α} {set : Bool} {rwts : Array α} {rwset : Bool} {z rw : Array α}
    {rg : Array (Array α)} {gt : Array α}
    (h : OuterInv G (cleanOf miss y) (weightsOf miss y) (deigs G y.length) (llas.map G.pow10) robust
      (sumF (weightsOf miss y)) (if robust then 4 else 1) unbound yt set rwts rwset z rw rg gt) :
    (unbound = true ∧ gcvSelect G (cleanOf miss y) (weightsOf miss y) llas robust = none) ∨
    (unbound = false ∧ rwset = true ∧ rwts.size = y.length ∧ z.size = y.length ∧
      gcvSelect G (cleanOf miss y) (weightsOf miss y) llas robust =
        some (rd (rdA rg (if robust then 1 else 0)) 1, rwts.toList)) := by
  unfold OuterInv at h
  rw [gcvSelect_unfold, cleanOf_length]
  cases hg : grun G (cleanOf miss y) (weightsOf miss y) (deigs G y.length) (llas.map G.pow10) robust
      (sumF (weightsOf miss y)) (if robust then 4 else 1) 0 (gs0 G (cleanOf miss y)) with
  | none =>
    rw [hg] at h
    left
    refine ⟨h, ?_⟩
    unfold gs0 at hg
    rw [hg]; rfl
  | some st =>
    rw [hg] at h
    obtain ⟨hu, hok⟩ := h
    right
    have hp : 0 < (if robust then 4 else 1) := by split <;> omega
    obtain ⟨h1, h2⟩ := hok.rwts hp
    refine ⟨hu, h1, ?_, by simpa using hok.zlen, ?_⟩
    · have := congrArg List.length h2
      have hl := congrArg List.length hok.rweq
      have hs := hok.rwlen
      simp only [Array.length_toList, mul2_length, weightsOf_length, cleanOf_length] at this hl hs
      omega
    · unfold gs0 at hg
      rw [hg, Option.map_some, h2]
      congr 2
      have := hist_lam st.2.2 rg ⟨nat 0, nat 0, none⟩ hok.hist (if robust then 1 else 0)
        (by rw [hok.hlen]; split <;> omega)
      rw [← this]
      cases robust <;> rfl

/-- the result of `ws2dwcv` after the loop: `lopt[0] = robust_gcv[k, 1]`, the final fit with
    `robust_weights`, rounding -/
theorem OuterInv.result {G : GFns α} (miss : α → Bool) (y llas : List α) (robust : Bool) (rnd : α → α)
    (h4 : 4 < countValid miss y)
    {unbound : Bool} {yt : Array α} {set : Bool} {rwts : Array α} {rwset : Bool} {z rw : Array α}
    {rg : Array (Array α)} {gt : Array α}
    (h : OuterInv G (cleanOf miss y) (weightsOf miss y) (deigs G y.length) (llas.map G.pow10) robust
      (sumF (weightsOf miss y)) (if robust then 4 else 1) unbound yt set rwts rwset z rw rg gt)
    (ya : Array α) (hya : ya.toList = cleanOf miss y) :
    (unbound = true ∧ wcvOut rnd y (wcv G miss y llas robust) = none) ∨
    (unbound = false ∧ rwset = true ∧ wcvOut rnd y (wcv G miss y llas robust) =
      some (Array.map rnd (Gen.Ws2d.ws2d ya (rd (rdA rg (if robust then 1 else 0)) 1) rwts),
        #[rd (rdA rg (if robust then 1 else 0)) 1])) := by
  have h5 : 5 ≤ y.length := le_trans h4 (countValid_le_length _ y)
  have hysz : ya.size = y.length := by rw [← Array.length_toList, hya, cleanOf_length]
  rcases OuterInv.final miss y llas robust h4 h with ⟨hu, hs⟩ | ⟨hu, hset, hsz, -, hs⟩
  · left
    refine ⟨hu, ?_⟩
    rw [wcv_unfold, if_pos h4, hs]
    rfl
  · right
    refine ⟨hu, hset, ?_⟩
    rw [wcv_unfold, if_pos h4, hs, outOf_some, gen_ws2d_arrW _ _ _ (by omega) (by omega), hya]
    simp [wcvOut]

/-! ### (d) the asymmetric re-weighting loop of ws2dwcvp -/

/-- state `(ww, z, znew, wa)` of the re-weighting loop with `k` passes left: the model's loop continued
    from it returns what the model returns -/
structure IrlsOk (y w : List α) (lam p : α) (k : ℕ) (ww z znew wa : Array α) : Prop where
  zlen : z.size = y.length
  nlen : znew.size = y.length
  alen : wa.size = y.length
  wlen : k < 10 → ww.size = y.length
  cont : irls y w lam p 10 (zerosLike y) (zerosLike y) = irls y w lam p k z.toList ww.toList

/-! ### (e) the conditions of the λ selection on arrays

The verification conditions speak of the arrays the source binds; each lemma below is one condition of the λ
selection (shared by ws2dwcv and ws2dwcvp), stated so that it applies to the condition as the generator leaves it. -/

/-- what the head of both kernels binds: the cleaned `y`, `w`, `d_eigs`, `n`, `m` are the model's -/
structure Bound (y w de : List α) (n : α) (ya wa dea : Array α) (na : α) (ma : ℤ) : Prop where
  ya : ya.toList = y
  wa : wa.toList = w
  de : dea.toList = de
  n : na = n
  m : ma = (y.length : ℤ)
  wlen : w.length = y.length
  three : 3 ≤ y.length

/-- `n = np.sum(w)` is the number of valid cells -/
theorem npSum_wOf (nodata : α) (isnan isinf : α → Bool) (y : List α) :
    npSum (SafeWcv.wOf nodata isnan isinf y.toArray) = (countValid (missG nodata isnan isinf) y : α) :=
  (congrArg sumF (toList_wOf nodata isnan isinf y)).trans (sumF_weightsOf _ _)

/-- `n > 4` -/
theorem four_lt_arr (nodata : α) (isnan isinf : α → Bool) (y : List α) :
    (nat 4 : α) < npSum (SafeWcv.wOf nodata isnan isinf y.toArray) ↔ 4 < countValid (missG nodata isnan isinf) y := by
  rw [npSum_wOf, nat]
  exact Nat.cast_lt

/-- … which the head of both kernels establishes when more than four cells are valid -/
theorem Bound.head (G : GFns α) (cos : α → α) (pi : α) (hG : ∀ i m : ℕ, G.eig i m = -2 + 2 * cos ((i : α) * pi / (m : α)))
    (nodata : α) (isnan isinf : α → Bool) (y : List α) (h4 : 4 < countValid (missG nodata isnan isinf) y) :
    Bound (cleanOf (missG nodata isnan isinf) y) (weightsOf (missG nodata isnan isinf) y) (deigs G y.length)
      (sumF (weightsOf (missG nodata isnan isinf) y))
      (SafeWcv.yOf (SafeWcv.wOf nodata isnan isinf y.toArray) y.toArray) (SafeWcv.wOf nodata isnan isinf y.toArray)
      (SafeWcv.dOf G cos pi y.length) (npSum (SafeWcv.wOf nodata isnan isinf y.toArray)) (y.length : ℤ) := by
  have := countValid_le_length (missG nodata isnan isinf) y
  have hw := toList_wOf nodata isnan isinf y
  exact ⟨toList_yOf y hw, hw, toList_dOf G cos pi hG _, congrArg sumF hw, by rw [cleanOf_length], by simp,
    by rw [cleanOf_length]; omega⟩

/-- `w_temp = w * r_weights`, `robust_weights = w * r_weights` -/
def mulA (a b : Array α) : Array α := npMap2 (fun x y => x * y) a b

theorem toList_mulA {wa : Array α} {w : List α} (hwa : wa.toList = w) (rw : Array α) :
    (mulA wa rw).toList = mul2 w rw.toList := by
  rw [mulA, toList_npMap2, hwa, mul2_eq]

/-- `gamma.sum()` -/
theorem trOf_eq (wt de : Array α) (s : α) : SafeWcv.trOf wt de s = sumF (gammaOf wt.toList de.toList s) := by
  simp only [SafeWcv.trOf, npSum, toList_npMap, toList_npMap2, gammaOf]
  congr 1
  generalize wt.toList = a
  generalize de.toList = d
  induction a generalizing d with
  | nil => simp
  | cons x a' ih =>
    cases d with
    | nil => simp
    | cons d ds => simp only [List.map_cons, List.zipWith_cons_cons, List.zip_cons_cons, ih]

/-- `mad = np.median(np.abs(r_sel - np.median(r_sel)))` with `r_sel = (y - y_temp)[w_temp != 0]` -/
def madA (ya yt wt : Array α) : α :=
  npMedian (npMap (fun e => absv e) (npMap
    (fun e => e - npMedian (npSelect (npMap2 (fun a b => a - b) ya yt) (npMap (fun e => !eqv e (nat 0)) wt)))
    (npSelect (npMap2 (fun a b => a - b) ya yt) (npMap (fun e => !eqv e (nat 0)) wt))))

theorem madA_eq (ya yt wt : Array α) : madA ya yt wt = madOf ya.toList yt.toList wt.toList := by
  simp only [madA, npMedian, toList_npMap, toList_npSelect, toList_npMap2, select_np]
  rw [madOf, rselOf, sub2_eq, List.map_map]
  rfl

/-- `mad_min = 1e-9 * (1.0 + (np.max(y_valid) - np.min(y_valid)))` with `y_valid = y[w != 0]` -/
def madMinA (G : GFns α) (ya wa : Array α) : α :=
  G.madtol * (nat 1 + (npMax (npSelect ya (npMap (fun e => !eqv e (nat 0)) wa)) -
    npMin (npSelect ya (npMap (fun e => !eqv e (nat 0)) wa))))

theorem madMinA_eq (G : GFns α) (ya wa : Array α) : madMinA G ya wa = madMinOf G ya.toList wa.toList := by
  simp only [madMinA, npMax, npMin, toList_npSelect, toList_npMap, select_np]
  rw [madMinOf, yvOf, nat_one]

/-- `u_arr = r_arr / (c1 * mad * sqrt(1 - sum(gamma) / n))` -/
def uA (G : GFns α) (ya yt wt de : Array α) (s n : α) : Array α :=
  npMap (fun e => e / (G.c1 * madA ya yt wt * G.sqrt (nat 1 - SafeWcv.trOf wt de s / n)))
    (npMap2 (fun a b => a - b) ya yt)

/-- `r_new = (1 - (u_arr / c2) ** 2) ** 2; r_new[|u_arr / c2| > 1] = 0; r_new[r_arr > 0] = 1` -/
def rnewA (G : GFns α) (ya yt wt de : Array α) (s n : α) : Array α :=
  npMaskSet
    (npMaskSet
      (npMap (fun e => e * e) (npMap (fun e => nat 1 - e) (npMap (fun e => e * e)
        (npMap (fun e => e / G.c2) (uA G ya yt wt de s n)))))
      (npMap (fun e => decide (nat 1 < e)) (npMap (fun e => absv e)
        (npMap (fun e => e / G.c2) (uA G ya yt wt de s n))))
      (nat 0))
    (npMap (fun e => decide (nat 0 < e)) (npMap2 (fun a b => a - b) ya yt)) (nat 1)

theorem toList_rnewA (G : GFns α) (ya yt wt de : Array α) (s n : α) :
    (rnewA G ya yt wt de s n).toList = rnewOf G ya.toList yt.toList wt.toList de.toList s n := by
  simp only [rnewA, uA, toList_npMaskSet, toList_npMap, toList_npMap2, trOf_eq, madA_eq, rnewOf,
    sub2_eq, nat_one]
  induction List.zipWith (fun a b => a - b) ya.toList yt.toList with
  | nil => rfl
  | cons x xs ih =>
    simp only [List.map_cons, List.zipWith_cons_cons, ih]
    congr 1
    simp only [bisq, nat_zero, absv_eq, decide_eq_true_eq]

/-- `np.sum((w * r_new) > 0)` -/
def cntA (wa rn : Array α) : ℤ := npCount (npMap (fun e => decide (nat 0 < e)) (mulA wa rn))

theorem cntA_eq (wa rn : Array α) : cntA wa rn = (countPos (mul2 wa.toList rn.toList) : ℤ) := by
  rw [cntA, npCount_eq, toList_npMap, toList_mulA rfl, List.filter_map, List.length_map, countPos, nat_zero]
  rfl

section loops
variable {G : GFns α} {y w de lp : List α} {n : α} {ya wa dea : Array α} {na : α} {ma : ℤ}
  (C : Bound y w de n ya wa dea na ma)
  {robust unbound : Bool} {pref : List ℤ} {cur : ℤ} {yt : Array α} {set : Bool} {rwts : Array α} {rwset : Bool}
  {z rw : Array α} {rg : Array (Array α)} {gt : Array α}
  (h : OuterInv G y w de lp robust n pref.length unbound yt set rwts rwset z rw rg gt)
include h

/-- entry of the loop over the λ grid -/
theorem OuterInv.sweep_init :
    unbound = false → SweepOk G y (mul2 w rw.toList) de (bestOf gt yt set) [] gt yt set z := fun hu =>
  let ⟨_, _, hok⟩ := h.ok hu
  SweepOk.init _ _ _ _ _ _ _ _ hok.ylen hok.zlen

include C

/-- the fit with `s` and its score are the model's -/
theorem sweep_arr (hu : unbound = false) (s : α) :
    SafeWcv.scoreOf G ya (mulA wa rw) dea s = gsc G y (mul2 w rw.toList) de s ∧
    Gen.Ws2d.ws2d ya s (mulA wa rw) = (ws2d y s (mul2 w rw.toList)).toArray ∧
    (mul2 w rw.toList).length = y.length := by
  obtain ⟨_, _, hok⟩ := h.ok hu
  have hysz : ya.size = y.length := by rw [← Array.length_toList, C.ya]
  have hl : (mul2 w rw.toList).length = y.length := by simp [C.wlen, hok.rwlen]
  have hwsz : (mulA wa rw).size = ya.size := by rw [← Array.length_toList, toList_mulA C.wa, hl, hysz]
  have h3 := C.three
  have hz := gen_ws2d_arrW ya (mulA wa rw) s hwsz (by omega)
  rw [C.ya, toList_mulA C.wa] at hz
  refine ⟨?_, hz, hl⟩
  simp only [SafeWcv.scoreOf, trOf_eq, npSum, toList_npMap, toList_npMap2, hz, toList_mulA C.wa, C.ya, C.de]
  simp only [gsc, gcvScore, mul2_eq, sub2_eq]

section sweep
variable {b0 : Best α} {pre : List α} {s sc : α} {gt1 yt1 z1 zf : Array α} {set1 : Bool}
  (hsw : unbound = false → SweepOk G y (mul2 w rw.toList) de b0 pre gt1 yt1 set1 z1)
  (hsc : sc = SafeWcv.scoreOf G ya (mulA wa rw) dea s) (hzf : zf = Gen.Ws2d.ws2d ya s (mulA wa rw))
include hsw hsc hzf

/-- one λ with `gcv[0] < gcv_temp[0]`: `gcv_temp = gcv; y_temp = z` -/
theorem SweepOk.lt_arr (hlt : decide (rd #[sc, s] 0 < rd gt1 0) = true) :
    unbound = false → SweepOk G y (mul2 w rw.toList) de b0 (pre ++ [s]) #[sc, s] zf true zf := fun hu =>
  let ⟨h1, h2, h3⟩ := sweep_arr C h hu s
  (hsw hu).step_lt (of_decide_eq_true hlt) (hsc.trans h1) (hzf.trans h2) h3

/-- … and otherwise -/
theorem SweepOk.ge_arr (hge : ¬ decide (rd #[sc, s] 0 < rd gt1 0) = true) :
    unbound = false → SweepOk G y (mul2 w rw.toList) de b0 (pre ++ [s]) gt1 yt1 set1 zf := fun hu =>
  let ⟨h1, h2, h3⟩ := sweep_arr C h hu s
  (hsw hu).step_ge (fun hlt => hge (decide_eq_true hlt)) (hsc.trans h1) (hzf.trans h2) h3

end sweep

variable {lams : List α} {gt' yt' z' : Array α} {set' : Bool}
  (hlams : lams = if 1 < pref.length then [rd (rdA rg 1) 1] else lp)
  (hsw : unbound = false → SweepOk G y (mul2 w rw.toList) de (bestOf gt yt set) lams gt' yt' set' z')
include hlams hsw

/-- one iteration with `robust = False` -/
theorem OuterInv.plain_arr (hr : ¬ robust = true) :
    OuterInv G y w de lp robust n (pref ++ [cur]).length unbound yt' set' (mulA wa rw) true z' rw (rg.push gt')
      gt' := by
  obtain rfl : robust = false := by simpa using hr
  rw [List.length_append, List.length_singleton]
  unfold OuterInv at *
  rw [grun_succ_last, Nat.zero_add]
  cases hg : grun G y w de lp false n pref.length 0 (gs0 G y) with
  | none => rw [hg] at h; simpa using h
  | some st =>
    rw [hg] at h
    obtain ⟨hu, hok⟩ := h
    have hsw := hsw hu
    have hb := hsw.best
    rw [hok.rweq, hok.best, hlams, iterLams_eq lp _ _ rg hok.hist hok.hlen, ← gcvSweep_eq] at hb
    simp only [Option.bind_some, gstep, Bool.false_eq_true, if_false]
    refine ⟨hu, hsw.zlen, hb, hsw.ylen, hok.rweq, hok.rwlen, ?_, by simp [hok.hlen],
      fun _ => ⟨rfl, by rw [toList_mulA C.wa, hok.rweq]⟩⟩
    simp only [Array.toList_push, List.map_append, List.map_cons, List.map_nil, hok.hist, ← hb]
    rfl

omit C in
/-- one iteration with `robust = True` in which `y_temp` is unbound after the sweep: the source fails -/
theorem OuterInv.unset_arr (hr : robust = true) (hset : (!set') = true) (rwts' : Array α) (rwset' : Bool)
    (rw' : Array α) (rg' : Array (Array α)) :
    OuterInv G y w de lp robust n (pref ++ [cur]).length true yt' set' rwts' rwset' z' rw' rg' gt' := by
  subst hr
  obtain rfl : set' = false := by simpa using hset
  rw [List.length_append, List.length_singleton]
  unfold OuterInv at *
  rw [grun_succ_last, Nat.zero_add]
  cases hg : grun G y w de lp true n pref.length 0 (gs0 G y) with
  | none => simp
  | some st =>
    rw [hg] at h
    obtain ⟨hu, hok⟩ := h
    have hb := (hsw hu).best
    rw [hok.rweq, hok.best, hlams, iterLams_eq lp _ _ rg hok.hist hok.hlen, ← gcvSweep_eq] at hb
    have hy : (gcvSweep G y (mul2 w st.2.1) de (iterLams lp pref.length st.2.2) st.1).ytemp = none := by
      rw [← hb]; rfl
    simp only [Option.bind_some, gstep, if_true, hy]

/-- one iteration with `robust = True`, `y_temp` bound: `r_weights` becomes `r_new` when the MAD is above noise
    level and at least two cells keep a positive weight, and stays otherwise -/
theorem OuterInv.reweight_arr (hr : robust = true) (hset : ¬ (!set') = true) {rw' : Array α}
    (hrw : decide (madMinA G ya wa < madA ya yt' (mulA wa rw)) = true ∧
        decide (cntA wa (rnewA G ya yt' (mulA wa rw) dea (rd gt' 1) na) > 1) = true ∧
        rw' = rnewA G ya yt' (mulA wa rw) dea (rd gt' 1) na ∨
      (¬ decide (madMinA G ya wa < madA ya yt' (mulA wa rw)) = true ∨
        ¬ decide (cntA wa (rnewA G ya yt' (mulA wa rw) dea (rd gt' 1) na) > 1) = true) ∧ rw' = rw) :
    OuterInv G y w de lp robust n (pref ++ [cur]).length unbound yt' set' (mulA wa rw') true z' rw' (rg.push gt')
      gt' := by
  subst hr
  obtain rfl : set' = true := by simpa using hset
  have hrw' : rw'.toList = robustStep G y yt'.toList (mul2 w rw.toList) de rw.toList w (rd gt' 1) n := by
    simp only [decide_eq_true_eq, madMinA_eq, madA_eq, cntA_eq, toList_rnewA, toList_mulA C.wa, C.ya, C.wa, C.de,
      C.n, Nat.one_lt_cast, gt_iff_lt] at hrw
    rw [robustStep_eq]
    rcases hrw with ⟨h1, h2, rfl⟩ | ⟨h12, rfl⟩
    · rw [if_pos h1, if_pos h2, toList_rnewA, toList_mulA C.wa, C.ya, C.de]
    · split_ifs with h1 h2
      · exact absurd h2 (h12.resolve_left (not_not_intro h1))
      · rfl
      · rfl
  rw [List.length_append, List.length_singleton]
  unfold OuterInv at *
  rw [grun_succ_last, Nat.zero_add]
  cases hg : grun G y w de lp true n pref.length 0 (gs0 G y) with
  | none => rw [hg] at h; simpa using h
  | some st =>
    rw [hg] at h
    obtain ⟨hu, hok⟩ := h
    have hsw := hsw hu
    have hb := hsw.best
    rw [hok.rweq, hok.best, hlams, iterLams_eq lp _ _ rg hok.hist hok.hlen, ← gcvSweep_eq] at hb
    have hy : (gcvSweep G y (mul2 w st.2.1) de (iterLams lp pref.length st.2.2) st.1).ytemp = some yt'.toList := by
      rw [← hb]; rfl
    have hlam : (gcvSweep G y (mul2 w st.2.1) de (iterLams lp pref.length st.2.2) st.1).lam = rd gt' 1 := by
      rw [← hb]; rfl
    simp only [Option.bind_some, gstep, if_true, hy]
    rw [hok.rweq] at hrw'
    refine ⟨hu, hsw.zlen, hb, hsw.ylen, by rw [hrw', hlam], ?_, ?_, by simp [hok.hlen],
      fun _ => ⟨rfl, by rw [toList_mulA C.wa, hrw', hlam]⟩⟩
    · have := congrArg List.length hrw'
      rw [robustStep_length _ _ _ _ _ _ _ _ _ (by simpa using hsw.ylen rfl)
        (by rw [← hok.rweq]; simpa using hok.rwlen)] at this
      simpa using this
    · simp only [Array.toList_push, List.map_append, List.map_cons, List.map_nil, hok.hist, ← hb]
      rfl

end loops

/-- the λ values of iteration `cur`: `[robust_gcv[1][1]]` if `cur > 1` … -/
theorem lams_hi {r cur : ℤ} {pref suff : List ℤ} (h : pyRange 0 r = pref ++ cur :: suff)
    (hc : decide (cur > 1) = true) (x lp : List α) : x = if 1 < pref.length then x else lp := by
  have := pyRange_split _ _ _ _ _ h
  have := of_decide_eq_true hc
  rw [if_pos (by omega)]

/-- … and `10 ** llas` otherwise -/
theorem lams_lo {r cur : ℤ} {pref suff : List ℤ} (h : pyRange 0 r = pref ++ cur :: suff)
    (hc : ¬ decide (cur > 1) = true) (x : List α) (f : α → α) (llas : List α) :
    (npMap f llas.toArray).toList = if 1 < pref.length then x else llas.map f := by
  have := pyRange_split _ _ _ _ _ h
  have : ¬ cur > 1 := fun hlt => hc (decide_eq_true hlt)
  rw [if_neg (by omega), toList_npMap]

/-! ### (f) the re-weighting loop of ws2dwcvp on arrays -/

/-- invariant of the re-weighting loop of ws2dwcvp with `k` passes left: `ub` is the flag `unbound` after the
    robust loop, which the loop keeps up; while it is down `robust_weights` is bound (`rwset`), as long as the
    data, and the state is the model's -/
def IrlsInv (y w : List α) (lam p : α) (k : ℕ) (ub rwset unbound : Bool) (ww z znew va : Array α) : Prop :=
  (ub = true → unbound = true) ∧
  (ub = false → unbound = false ∧ rwset = true ∧ w.length = y.length ∧ IrlsOk y w lam p k ww z znew va)

/-- `envelope = y > z; wa[envelope] = p; wa[~envelope] = 1 - p` -/
def asymA (p : α) (ya z va : Array α) : Array α :=
  npMaskSet (npMaskSet va (npMap2 (fun a b => decide (b < a)) ya z) p)
    (npMap (fun e => !e) (npMap2 (fun a b => decide (b < a)) ya z)) (nat 1 - p)

/-- `ww = robust_weights * wa` is the model's `asymW` -/
theorem ww_toList (p : α) (w ya z va : Array α) (hz : z.size = ya.size) (ha : va.size = ya.size) :
    (mulA w (asymA p ya z va)).toList = asymW p w.toList ya.toList z.toList := by
  rw [← Array.length_toList, ← Array.length_toList (xs := ya)] at hz ha
  simp only [mulA, asymA, toList_npMap2, toList_npMaskSet, toList_npMap, asymW_eq]
  generalize w.toList = w', ya.toList = y', z.toList = z', va.toList = a' at *
  apply List.ext_getElem
  · simp only [List.length_zipWith, List.length_map, List.length_zip]
    omega
  · intro i h1 h2
    simp only [List.getElem_zipWith, List.getElem_map, List.getElem_zip, aw, nat_one]
    by_cases hlt : z'[i]'(by simp at h2; omega) < y'[i]'(by simp at h2; omega) <;> simp [hlt]

/-- `znew[0:m] = ws2d(y, lopt[0], robust_weights * wa)` -/
def passA (ya rwts : Array α) (lam : α) (m : ℤ) (p : α) (z znew va : Array α) : Array α :=
  npSetSlice znew 0 m (Gen.Ws2d.ws2d ya lam (mulA rwts (asymA p ya z va)))

section irls
variable {G : GFns α} {miss : α → Bool} {y llas : List α} {robust : Bool} {p : α}
  {ub : Bool} {yt : Array α} {set : Bool} {rwts : Array α} {rwset : Bool} {z0 rw : Array α}
  {rg : Array (Array α)} {gt : Array α} (h4 : 4 < countValid miss y)
  (h : OuterInv G (cleanOf miss y) (weightsOf miss y) (deigs G y.length) (llas.map G.pow10) robust
    (sumF (weightsOf miss y)) (if robust then 4 else 1) ub yt set rwts rwset z0 rw rg gt)
include h4 h

/-- entry: `z[:] = 0.0` -/
theorem IrlsInv.init (ww : Array α) {m : ℕ} (hm : m = y.length) :
    IrlsInv (cleanOf miss y) rwts.toList (rd (rdA rg (if robust then 1 else 0)) 1) p 10 ub rwset ub ww
      (npFill z0 (nat 0)) (Array.replicate m (nat 0)) (Array.replicate m (nat 0)) := by
  refine ⟨id, fun hu => ?_⟩
  rcases OuterInv.final miss y llas robust h4 h with ⟨hu', -⟩ | ⟨-, hs, hr, hz, -⟩
  · exact absurd hu (by rw [hu']; decide)
  subst hm
  refine ⟨hu, hs, by simpa using hr, by simpa using hz, by simp, by simp, fun hk => absurd hk (by omega), ?_⟩
  have : (npFill z0 (nat 0)).toList = zerosLike (cleanOf miss y) := by
    rw [toList_npFill, zerosLike_eq_replicate, List.map_const', nat_zero]
    simp [hz]
  rw [this]
  rfl

/-- the result of `ws2dwcv` as the pair of buffers `(out, lopt)`: when `robust_weights` is unbound (the read
    fails; the invariant excludes it unless `unbound` is up), and when it is bound -/
theorem OuterInv.out_eq (rnd : α → α) {ya : Array α} (hya : ya.toList = cleanOf miss y) {lopt0 : Array α}
    (hl : lopt0.size = 1) (out0 : Array α) :
    ((!rwset) = true → none = wcvOut rnd y (wcv G miss y llas robust)) ∧
    (if ub = true then none else some
      (npCopyTo out0 (Array.map rnd (Gen.Ws2d.ws2d ya
        (rd (wr lopt0 0 (rd (rdA rg (if robust then 1 else 0)) 1)) 0) rwts)),
        wr lopt0 0 (rd (rdA rg (if robust then 1 else 0)) 1))) = wcvOut rnd y (wcv G miss y llas robust) := by
  rcases OuterInv.result miss y llas robust rnd h4 h ya hya with ⟨hu, hr⟩ | ⟨hu, hs, hr⟩
  · rw [hr, if_pos hu]
    exact ⟨fun _ => rfl, rfl⟩
  · refine ⟨fun hf => absurd hf (by rw [hs]; decide), ?_⟩
    rw [hr, if_neg (by rw [hu]; decide), wr_one _ _ hl, rd_single, npCopyTo_eq]

/-- the result of `ws2dwcvp` after the loop: the final fit with the last weights, rounding -/
theorem IrlsInv.result (rnd : α → α) {ya : Array α} (hya : ya.toList = cleanOf miss y) {lopt0 : Array α}
    (hl : lopt0.size = 1) {unbound : Bool} {ww z znew va : Array α}
    (hinv : IrlsInv (cleanOf miss y) rwts.toList (rd (rdA rg (if robust then 1 else 0)) 1) p
      (10 - (pyRange 0 10).length) ub rwset unbound ww z znew va) (out0 : Array α) :
    (if unbound = true then none else some
      (npCopyTo out0 (Array.map rnd (Gen.Ws2d.ws2d ya
        (rd (wr lopt0 0 (rd (rdA rg (if robust then 1 else 0)) 1)) 0) ww)),
        wr lopt0 0 (rd (rdA rg (if robust then 1 else 0)) 1))) =
      wcvOut rnd y (wcvp G miss y p llas robust) := by
  have h5 : 5 ≤ y.length := le_trans h4 (countValid_le_length _ y)
  have hysz : ya.size = y.length := by rw [← Array.length_toList, hya, cleanOf_length]
  rw [wcvp_unfold, if_pos h4]
  rcases OuterInv.final miss y llas robust h4 h with ⟨hu, hsel⟩ | ⟨hu, -, -, -, hsel⟩
  · rw [hsel, if_pos (hinv.1 hu)]
    rfl
  · obtain ⟨hb, -, -, hI⟩ := hinv.2 hu
    rw [show 10 - (pyRange 0 10).length = 0 by simp [pyRange_length]] at hI
    have hwsz := hI.wlen (by omega)
    rw [cleanOf_length] at hwsz
    rw [if_neg (by rw [hb]; decide), hsel, outOf_some, expectile, hI.cont, wr_one _ _ hl, rd_single,
      gen_ws2d_arrW _ _ _ (by omega) (by omega), hya]
    simp [wcvOut, irls]

end irls

section pass
variable {y w0 de : List α} {n : α} {ya wa dea : Array α} {na : α} {ma : ℤ} (C : Bound y w0 de n ya wa dea na ma)
  {lam p : α} {ub rwset unbound : Bool} {rwts ww z znew va lopt0 : Array α}

omit [IsStrictOrderedRing α] in
/-- a pass that reads the unbound `robust_weights`: excluded while `unbound` is down -/
theorem IrlsInv.unset {k : ℕ} (hinv : IrlsInv y rwts.toList lam p k ub rwset unbound ww z znew va)
    (hrws : (!rwset) = true) (k' : ℕ) (ww' z' znew' va' : Array α) :
    IrlsInv y rwts.toList lam p k' ub rwset true ww' z' znew' va' :=
  ⟨fun _ => rfl, fun hu => absurd hrws (by rw [(hinv.2 hu).2.1]; decide)⟩

include C

/-- what one pass computes -/
theorem IrlsOk.pass_arr (hl : lopt0.size = 1) (hw : rwts.toList.length = y.length) {k : ℕ}
    (hI : IrlsOk y rwts.toList lam p k ww z znew va) :
    (mulA rwts (asymA p ya z va)).toList = asymW p rwts.toList y z.toList ∧
    passA ya rwts (rd (wr lopt0 0 lam) 0) ma p z znew va = (pass y rwts.toList lam p z.toList).toArray ∧
    npSum (npMap (fun e => absv e) (npMap2 (fun a b => a - b) (passA ya rwts (rd (wr lopt0 0 lam) 0) ma p z znew va)
      z)) = l1dist (pass y rwts.toList lam p z.toList) z.toList ∧
    (pass y rwts.toList lam p z.toList).length = y.length ∧ (mulA rwts (asymA p ya z va)).size = y.length ∧
    (asymA p ya z va).size = y.length := by
  have hysz : ya.size = y.length := by rw [← Array.length_toList, C.ya]
  have h3 := C.three
  have hva : (asymA p ya z va).size = y.length := by
    simp [asymA, hI.alen, hI.zlen, hysz]
  have hww := ww_toList p rwts ya z va (by rw [hI.zlen, hysz]) (by rw [hI.alen, hysz])
  rw [C.ya] at hww
  have hal : (asymW p rwts.toList y z.toList).length = y.length := by simp [hw, hI.zlen]
  have hwwsz : (mulA rwts (asymA p ya z va)).size = y.length := by rw [← Array.length_toList, hww, hal]
  have hpl : (pass y rwts.toList lam p z.toList).length = y.length := C01.ws2d_length _ _ _ hal
  have hzn : passA ya rwts (rd (wr lopt0 0 lam) 0) ma p z znew va = (pass y rwts.toList lam p z.toList).toArray := by
    rw [passA, rd_wr_zero _ _ (by omega), gen_ws2d_arrW _ _ _ (by omega) (by omega), C.ya, hww,
      npSetSlice_full _ _ _ (by rw [C.m, hI.nlen]) (by rw [List.size_toArray, hI.nlen]; exact hpl)]
    rfl
  refine ⟨hww, hzn, ?_, hpl, hwwsz, hva⟩
  rw [hzn, npSum, toList_npMap, toList_npMap2, List.map_zipWith, List.toList_toArray]
  rfl

variable {pref suff : List ℤ} {cur : ℤ} {zn : Array α} (hl : lopt0.size = 1)
  (hr : pyRange 0 10 = pref ++ cur :: suff)
  (hinv : IrlsInv y rwts.toList lam p (10 - pref.length) ub rwset unbound ww z znew va)
  (hzn : zn = passA ya rwts (rd (wr lopt0 0 lam) 0) ma p z znew va)
include hl hr hinv hzn

/-- a pass that reproduces the curve: `break` -/
theorem IrlsInv.stop (hbrk : eqv (npSum (npMap (fun e => absv e) (npMap2 (fun a b => a - b) zn z))) (nat 0) = true) :
    IrlsInv y rwts.toList lam p (10 - (pyRange 0 10).length) ub rwset unbound (mulA rwts (asymA p ya z va)) z zn
      (asymA p ya z va) := by
  refine ⟨hinv.1, fun hu => ?_⟩
  obtain ⟨hb, hs, hw, hI⟩ := hinv.2 hu
  obtain ⟨hww, hp, hd, hpl, hwwsz, hva⟩ := IrlsOk.pass_arr C hl hw hI
  have hk := pyRange_split _ _ _ _ _ hr
  rw [hzn, hd] at hbrk
  refine ⟨hb, hs, hw, hI.zlen, by rw [hzn, hp, List.size_toArray, hpl], hva, fun _ => hwwsz, ?_⟩
  rw [hI.cont, show 10 - pref.length = (9 - pref.length) + 1 by omega, irls_succ, if_pos hbrk, hww,
    show 10 - (pyRange 0 10).length = 0 by simp [pyRange_length]]
  rfl

/-- a pass that does not: `z[0:m] = znew[0:m]` -/
theorem IrlsInv.step (hcont : ¬ eqv (npSum (npMap (fun e => absv e) (npMap2 (fun a b => a - b) zn z))) (nat 0)
      = true) :
    IrlsInv y rwts.toList lam p (10 - (pref ++ [cur]).length) ub rwset unbound (mulA rwts (asymA p ya z va))
      (npSetSlice z 0 ma (npSlice zn 0 ma)) zn (asymA p ya z va) := by
  refine ⟨hinv.1, fun hu => ?_⟩
  obtain ⟨hb, hs, hw, hI⟩ := hinv.2 hu
  obtain ⟨hww, hp, hd, hpl, hwwsz, hva⟩ := IrlsOk.pass_arr C hl hw hI
  have hk := pyRange_split _ _ _ _ _ hr
  rw [hzn, hd] at hcont
  have hps : (pass y rwts.toList lam p z.toList).toArray.size = z.size := by rw [List.size_toArray, hpl, hI.zlen]
  rw [hzn, hp, npSlice_full _ _ (by rw [hps, hI.zlen]; exact C.m),
    npSetSlice_full _ _ _ (by rw [hI.zlen]; exact C.m) hps]
  refine ⟨hb, hs, hw, by rw [List.size_toArray, hpl], by rw [List.size_toArray, hpl], hva, fun _ => hwwsz, ?_⟩
  rw [hI.cont, show 10 - pref.length = (10 - (pref ++ [cur]).length) + 1 by
    rw [List.length_append, List.length_singleton]; omega, irls_succ, if_neg hcont, hww, List.toList_toArray]

end pass

end Hdc.GenNum
