import Hdc.Lemmas.GenNumWcv
import Std.Tactic.Do
/-
The loop invariants of the two refinement proofs Hdc/Props/GenNumWcv.lean (ws2dwcv) and Hdc/Props/GenNumWcvp.lean
(ws2dwcvp), and the tactic macros with which Hdc/Props/SafeWs2dwcvOk.lean and SafeWs2dwcvpOk.lean treat the
verification conditions of the λ selection the two kernels share.  The macros are unhygienic on purpose: they
refer to the variables of the theorems (`G cos pi hG y llas nodata isnan isinf p`) and the named
facts about the head of the function (`hwa hya hde hna hma h4`).  The variables of the source are picked up by
name (`py_name`), never by position.
-/
namespace Hdc.GenNum
open Hdc Hdc.Gen.NumKernels Hdc.PyNpW Hdc.Smooth Std.Do

set_option hygiene false in
/-- invariant of the robust loop with `robust = r`, on the state tuple
    `(unbound, y_temp, y_temp_set, robust_weights, robust_weights_set, z, r_weights, robust_gcv, gcv_temp)` -/
macro "outer_inv" r:term:max : term => `(⇓⟨xs, s⟩ =>
  ⌜OuterInv G (cleanOf (missG nodata isnan isinf) y) (weightsOf (missG nodata isnan isinf) y)
    (deigs G y.length) (llas.map G.pow10) $r (sumF (weightsOf (missG nodata isnan isinf) y))
    xs.prefix.length s.1 s.2.1 s.2.2.1 s.2.2.2.1 s.2.2.2.2.1 s.2.2.2.2.2.1 s.2.2.2.2.2.2.1
    s.2.2.2.2.2.2.2.1 s.2.2.2.2.2.2.2.2⌝)

set_option hygiene false in
/-- invariant of the loop over the λ grid, on the state tuple `(y_temp, y_temp_set, z, gcv_temp, s, gamma)`;
    the state of the enclosing robust loop is picked up by name -/
macro "sweep_inv" : term => `(⇓⟨xs, s⟩ => by
  py_name gcv_temp as gt0; py_name y_temp as yt0; py_name y_temp_set as set0
  py_name r_weights as rw0; py_name unbound as ub0
  exact ⌜ub0 = false → SweepOk G (cleanOf (missG nodata isnan isinf) y)
    (mul2 (weightsOf (missG nodata isnan isinf) y) rw0.toList) (deigs G y.length) (bestOf gt0 yt0 set0)
    xs.prefix s.2.2.2.1 s.1 s.2.1 s.2.2.1⌝)

set_option hygiene false in
/-- the λ values of the current iteration: `[robust_gcv[1][1]]` if `it > 1`, `10 ** llas` otherwise -/
macro "wcv_lams" : tactic => `(tactic| first
  | exact lams_hi ‹_› ‹_› _ _
  | exact lams_lo ‹_› ‹_› _ _ _)

set_option hygiene false in
/-- invariant of the re-weighting loop of ws2dwcvp with `lopt[0] = robust_gcv[r, 1]`, on the state tuple `(unbound, ww, z, znew, wa)`; the
    final state `r` of the robust loop, `robust_weights`, its flag and `robust_gcv` are picked up by name -/
macro "irls_inv" r:term:max : term => `(⇓⟨xs, s⟩ => by
  py_name r as rfin; py_name robust_weights as rwts0; py_name robust_weights_set as rws0; py_name robust_gcv as rg0
  exact ⌜IrlsInv (cleanOf (missG nodata isnan isinf) y) rwts0.toList (rd (rdA rg0 $r) 1) p
    (10 - xs.prefix.length) rfin.1 rws0 s.1 s.2.1 s.2.2.1 s.2.2.2.1 s.2.2.2.2⌝)

set_option hygiene false in
/-- one iteration of the robust loop of the instrumented kernels, `robust = True`, `y_temp` bound: the re-weighting step,
    in its three branches (new weights / too few positive weights / MAD at noise level); `C`, `hinv`, `hsw` are the
    context, the invariant of the robust loop and what the loop over the λ grid has established -/
macro "wcv_vc_robust" : tactic => `(tactic| first
  | (have h2 := ‹decide (npCount _ > 1) = true›
     exact OuterInv.reweight_arr C.bound hinv (by wcv_lams) hsw rfl ‹_› (.inl ⟨‹_›, h2, rfl⟩))
  | (have h2 := ‹¬ decide (npCount _ > 1) = true›
     exact OuterInv.reweight_arr C.bound hinv (by wcv_lams) hsw rfl ‹_› (.inr ⟨.inr h2, rfl⟩))
  | exact OuterInv.reweight_arr C.bound hinv (by wcv_lams) hsw rfl ‹_› (.inr ⟨.inl ‹_›, rfl⟩))

end Hdc.GenNum
