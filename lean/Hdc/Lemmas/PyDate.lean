import Hdc.Model.PyDate
/-
Lemmas about the hand model of CPython's proleptic Gregorian calendar (`Hdc.PyDate`):
leap years, month lengths, `daysBeforeYear`/`daysBeforeMonth` recurrences, bounds and strict
monotonicity of `ymd2ord`.
-/
namespace Hdc.Py

theorem fdiv_pos (a : Int) {b : Int} (h : 0 < b) : Py.fdiv a b = a / b :=
  Int.fdiv_eq_ediv_of_nonneg a (Int.le_of_lt h)

theorem fmod_pos (a : Int) {b : Int} (h : 0 < b) : Py.fmod a b = a % b :=
  Int.fmod_eq_emod_of_nonneg a (Int.le_of_lt h)

theorem le_of_step_le {f : Int → Int} {a b : Int} (hab : a ≤ b)
    (step : ∀ x, a ≤ x → x < b → f x ≤ f (x + 1)) : f a ≤ f b := by
  obtain ⟨k, rfl⟩ : ∃ k : Nat, b = a + k := ⟨(b - a).toNat, by omega⟩
  clear hab
  induction k with
  | zero => exact Int.le_of_eq (by simp)
  | succ k ih =>
    have := ih fun x h1 h2 => step x h1 (by omega)
    have := step (a + k) (by omega) (by omega)
    rw [show a + ((k + 1 : Nat) : Int) = a + k + 1 by omega]
    omega

end Hdc.Py

namespace Hdc.PyDate

/-- a civil date of the proleptic Gregorian calendar in CPython's range -/
def ValidDate (y m d : Int) : Prop :=
  1 ≤ y ∧ y ≤ 9999 ∧ 1 ≤ m ∧ m ≤ 12 ∧ 1 ≤ d ∧ d ≤ daysInMonth y m

theorem isLeap_iff (y : Int) :
    isLeap y = true ↔ (y % 4 = 0 ∧ (y % 100 ≠ 0 ∨ y % 400 = 0)) := by
  simp [isLeap]

/-- number of days of year `y` minus 365 -/
def leapDay (y : Int) : Int := if isLeap y then 1 else 0

theorem leapDay_eq (y : Int) :
    leapDay y = if y % 4 = 0 ∧ (y % 100 ≠ 0 ∨ y % 400 = 0) then 1 else 0 := by
  simp only [leapDay, isLeap_iff]

theorem leapDay_bounds (y : Int) : 0 ≤ leapDay y ∧ leapDay y ≤ 1 := by
  unfold leapDay
  split <;> omega

theorem daysBeforeYear_succ (y : Int) :
    daysBeforeYear (y + 1) = daysBeforeYear y + 365 + leapDay y := by
  rw [leapDay_eq]
  unfold daysBeforeYear
  simp only []
  omega

theorem daysBeforeYear_one : daysBeforeYear 1 = 0 := by decide

theorem daysBeforeYear_10000 : daysBeforeYear 10000 = maxOrdinal := by decide

theorem daysBeforeYear_mono {y y' : Int} (h : y ≤ y') : daysBeforeYear y ≤ daysBeforeYear y' := by
  refine Py.le_of_step_le h fun x _ _ => ?_
  have := leapDay_bounds x
  rw [daysBeforeYear_succ]
  omega

theorem month_cases {m : Int} (h1 : 1 ≤ m) (h2 : m ≤ 12) :
    m = 1 ∨ m = 2 ∨ m = 3 ∨ m = 4 ∨ m = 5 ∨ m = 6 ∨ m = 7 ∨ m = 8 ∨ m = 9 ∨ m = 10 ∨ m = 11 ∨ m = 12 := by
  omega

/-- `_days_in_month`: the table `_DAYS_IN_MONTH`, and the leap day in February -/
theorem daysInMonth_eq (y m : Int) :
    daysInMonth y m = (if m = 2 then 28 else if m = 4 ∨ m = 6 ∨ m = 9 ∨ m = 11 then 30 else 31) +
      if m = 2 then leapDay y else 0 := by
  unfold daysInMonth leapDay
  split <;> split <;> rfl

theorem daysInMonth_bounds (y m : Int) : 28 ≤ daysInMonth y m ∧ daysInMonth y m ≤ 31 := by
  have := leapDay_bounds y
  rw [daysInMonth_eq]
  omega

theorem daysInMonth_feb (y : Int) : daysInMonth y 2 = 28 + leapDay y := by
  rw [daysInMonth_eq, if_pos rfl, if_pos rfl]

theorem daysInMonth_twelve (y : Int) : daysInMonth y 12 = 31 := rfl

/-- `_days_before_month`: the table, and the leap day from March on -/
theorem daysBeforeMonth_eq (y m : Int) :
    daysBeforeMonth y m = daysBeforeMonthTbl m + if 2 < m then leapDay y else 0 := by
  unfold daysBeforeMonth leapDay
  cases isLeap y <;> simp

theorem daysBeforeMonth_one (y : Int) : daysBeforeMonth y 1 = 0 := by
  rw [daysBeforeMonth_eq]
  rfl

theorem daysBeforeMonth_twelve (y : Int) : daysBeforeMonth y 12 = 334 + leapDay y := by
  rw [daysBeforeMonth_eq]
  rfl

/-- `_DAYS_BEFORE_MONTH` is the running sum of `_DAYS_IN_MONTH` -/
theorem daysBeforeMonthTbl_succ {m : Int} (h1 : 1 ≤ m) (h2 : m < 12) :
    daysBeforeMonthTbl (m + 1) = daysBeforeMonthTbl m +
      if m = 2 then 28 else if m = 4 ∨ m = 6 ∨ m = 9 ∨ m = 11 then 30 else 31 := by
  have hm : m = 1 ∨ m = 2 ∨ m = 3 ∨ m = 4 ∨ m = 5 ∨ m = 6 ∨ m = 7 ∨ m = 8 ∨ m = 9 ∨ m = 10 ∨ m = 11 := by
    omega
  rcases hm with rfl | rfl | rfl | rfl | rfl | rfl | rfl | rfl | rfl | rfl | rfl <;> rfl

theorem daysBeforeMonth_succ (y : Int) {m : Int} (h1 : 1 ≤ m) (h2 : m < 12) :
    daysBeforeMonth y (m + 1) = daysBeforeMonth y m + daysInMonth y m := by
  rw [daysBeforeMonth_eq, daysBeforeMonth_eq, daysInMonth_eq, daysBeforeMonthTbl_succ h1 h2]
  generalize (if m = 2 then (28 : Int) else if m = 4 ∨ m = 6 ∨ m = 9 ∨ m = 11 then 30 else 31) = t
  omega

/-- the year has `365 + leapDay` days -/
theorem daysBeforeMonth_dec (y : Int) :
    daysBeforeMonth y 12 + daysInMonth y 12 = 365 + leapDay y := by
  rw [daysBeforeMonth_twelve, daysInMonth_twelve]
  omega

theorem daysBeforeMonth_mono (y : Int) {m m' : Int} (h1 : 1 ≤ m) (h : m ≤ m') (h2 : m' ≤ 12) :
    daysBeforeMonth y m ≤ daysBeforeMonth y m' := by
  refine Py.le_of_step_le (f := daysBeforeMonth y) h fun x hx hx' => ?_
  have := (daysInMonth_bounds y x).1
  rw [daysBeforeMonth_succ y (by omega) (by omega)]
  omega

theorem daysBeforeMonth_nonneg (y : Int) {m : Int} (h1 : 1 ≤ m) (h2 : m ≤ 12) :
    0 ≤ daysBeforeMonth y m := by
  have := daysBeforeMonth_mono y (Int.le_refl 1) h1 h2
  rwa [daysBeforeMonth_one] at this

/-- month ends are increasing within the year -/
theorem daysBeforeMonth_add_le (y : Int) {m m' : Int} (h1 : 1 ≤ m) (h : m < m') (h2 : m' ≤ 12) :
    daysBeforeMonth y m + daysInMonth y m ≤ daysBeforeMonth y m' := by
  rw [← daysBeforeMonth_succ y h1 (by omega)]
  exact daysBeforeMonth_mono y (by omega) h h2

theorem daysBeforeMonth_add_le_year (y : Int) {m : Int} (h1 : 1 ≤ m) (h2 : m ≤ 12) :
    daysBeforeMonth y m + daysInMonth y m ≤ 365 + leapDay y := by
  by_cases h : m < 12
  · have := daysBeforeMonth_add_le y h1 h (Int.le_refl 12)
    have := daysBeforeMonth_twelve y
    omega
  · obtain rfl : m = 12 := by omega
    exact Int.le_of_eq (daysBeforeMonth_dec y)

theorem ymd2ord_next_month (y : Int) {m : Int} (h1 : 1 ≤ m) (h2 : m < 12) :
    ymd2ord y (m + 1) 1 = ymd2ord y m (daysInMonth y m) + 1 := by
  unfold ymd2ord
  rw [daysBeforeMonth_succ y h1 h2]; omega

theorem ymd2ord_next_year (y : Int) :
    ymd2ord (y + 1) 1 1 = ymd2ord y 12 (daysInMonth y 12) + 1 := by
  unfold ymd2ord
  rw [daysBeforeYear_succ, daysBeforeMonth_one]
  have := daysBeforeMonth_dec y
  omega

theorem ymd2ord_add_day (y m d k : Int) : ymd2ord y m (d + k) = ymd2ord y m d + k := by
  unfold ymd2ord; omega

/-- `_ymd2ord` is strictly increasing in `(y, m, d)` ordered lexicographically (valid dates) -/
theorem ymd2ord_lt {y m d y' m' d' : Int} (hv : ValidDate y m d) (hv' : ValidDate y' m' d')
    (h : y < y' ∨ (y = y' ∧ (m < m' ∨ (m = m' ∧ d < d')))) : ymd2ord y m d < ymd2ord y' m' d' := by
  obtain ⟨_, _, h1, h2, _, hd⟩ := hv
  obtain ⟨_, _, h1', h2', hd', _⟩ := hv'
  unfold ymd2ord
  rcases h with h | ⟨rfl, h | ⟨rfl, h⟩⟩
  · -- a later year: the whole rest of year `y` lies in between
    have a1 := daysBeforeMonth_add_le_year y h1 h2
    have a2 := daysBeforeYear_succ y
    have a3 := daysBeforeYear_mono (show y + 1 ≤ y' by omega)
    have a4 := daysBeforeMonth_nonneg y' h1' h2'
    omega
  · have := daysBeforeMonth_add_le y h1 h h2'
    omega
  · omega

theorem ymd2ord_lt_iff {y m d y' m' d' : Int} (hv : ValidDate y m d) (hv' : ValidDate y' m' d') :
    ymd2ord y m d < ymd2ord y' m' d' ↔ (y < y' ∨ (y = y' ∧ (m < m' ∨ (m = m' ∧ d < d')))) := by
  refine ⟨fun h => ?_, ymd2ord_lt hv hv'⟩
  by_cases he : y = y' ∧ m = m' ∧ d = d'
  · obtain ⟨rfl, rfl, rfl⟩ := he
    omega
  · false_or_by_contra
    have := ymd2ord_lt hv' hv (by omega)
    omega

theorem ymd2ord_inj {y m d y' m' d' : Int} (hv : ValidDate y m d) (hv' : ValidDate y' m' d')
    (h : ymd2ord y m d = ymd2ord y' m' d') : y = y' ∧ m = m' ∧ d = d' := by
  have a := ymd2ord_lt_iff hv hv'
  have b := ymd2ord_lt_iff hv' hv
  omega

theorem ymd2ord_bounds {y m d : Int} (hv : ValidDate y m d) :
    d ≤ ymd2ord y m d ∧ ymd2ord y m d ≤ maxOrdinal := by
  obtain ⟨hy1, hy2, h1, h2, hd1, hd⟩ := hv
  unfold ymd2ord
  have a1 := daysBeforeMonth_add_le_year y h1 h2
  have a2 := daysBeforeYear_succ y
  have a3 := daysBeforeYear_mono (show y + 1 ≤ 10000 by omega)
  have a4 := daysBeforeMonth_nonneg y h1 h2
  have a5 := daysBeforeYear_mono hy1
  rw [daysBeforeYear_10000] at a3
  rw [daysBeforeYear_one] at a5
  omega

end Hdc.PyDate
