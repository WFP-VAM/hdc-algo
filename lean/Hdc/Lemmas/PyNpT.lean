import Hdc.PyNpT
import Hdc.Lemmas.GenKernels
/-
Lemmas about the NumPy combinators of Hdc/PyNpT.lean (kernel independent): what the mask / gather / scatter idioms do on
lists, cells of any type read as functions, the row-major flattening.
-/
namespace Hdc.PyNpT

/-! ### `a == k`, `a[mask]`, `a[mask] = v` -/

/-- the cells of `xx` whose label is `g` (`xx[groups == g]`) -/
def gsel {γ : Type} (xx : List γ) (groups : List Int) (g : Int) : List γ :=
  ((xx.zip groups).filter fun p => decide (p.2 = g)).map fun p => p.1

theorem npEqMask_toList (groups : List Int) (g : Int) :
    (npEqMask groups.toArray g).toList = groups.map fun k => decide (k = g) := by
  simp [npEqMask]

/-- `xx[groups == g]` -/
theorem npCompress_eqMask {γ : Type} (xx : List γ) (groups : List Int) (g : Int) :
    npCompress xx.toArray (npEqMask groups.toArray g) = (gsel xx groups g).toArray := by
  simp only [npCompress, npEqMask_toList, gsel, List.zip_map_right, List.filter_map, List.map_map]
  rfl

theorem size_npMaskSet {γ : Type} (a : Array γ) (mask : Array Bool) (v : γ) :
    (npMaskSet a mask v).size = a.size := by
  simp [npMaskSet]

theorem zipIdx_map_eq_zipWith {γ δ : Type} (f : Bool → γ → δ) (bs : List Bool) (ys : List γ) (i : ℕ)
    (m : Array Bool) (hm : ∀ j, j < ys.length → m.getD (i + j) false = bs.getD j false)
    (h : bs.length = ys.length) :
    ((ys.zipIdx i).map fun p => f (m.getD p.2 false) p.1) = List.zipWith f bs ys := by
  induction ys generalizing bs i with
  | nil => cases bs <;> simp_all
  | cons y ys ih =>
    cases bs with
    | nil => simp at h
    | cons b bs =>
      simp only [List.zipIdx_cons, List.map_cons, List.zipWith_cons_cons]
      congr 1
      · have := hm 0 (by simp)
        simpa using congrArg (fun t => f t y) this
      · apply ih bs (i + 1) ?_ (by simpa using h)
        intro j hj
        have := hm (j + 1) (by simpa using hj)
        simpa [Nat.add_assoc, Nat.add_comm 1 j] using this

/-- `yy[groups == g] = v` on a buffer with one cell per label -/
theorem npMaskSet_eqMask_toList {γ : Type} (yy : Array γ) (groups : List Int) (g : Int) (v : γ)
    (h : groups.length = yy.size) :
    (npMaskSet yy (npEqMask groups.toArray g) v).toList
      = List.zipWith (fun k y => if k = g then v else y) groups yy.toList := by
  have h1 := zipIdx_map_eq_zipWith (fun (b : Bool) (y : γ) => if b then v else y)
    (groups.map fun k => decide (k = g)) yy.toList 0 (npEqMask groups.toArray g)
    (by
      intro j _
      simp [npEqMask, List.getD_eq_getElem?_getD, Array.getD_eq_getD_getElem?])
    (by simpa using h)
  simp only [npMaskSet, h1, List.zipWith_map_left]
  simp

/-! ### cells of any type read as functions -/

/-- an array read as a function (`d` outside) -/
def gD {γ : Type} (a : Array γ) (j : ℕ) (d : γ) : γ := a.getD j d

theorem ix_of_eq (n : ℕ) (i : ℤ) (j : ℕ) (h : i = (j : ℤ)) : ix n i = j :=
  Hdc.GenKernels.ix_of_eq n i j h

theorem rdD_of_eq {γ : Type} (a : Array γ) (i : ℤ) (d : γ) (j : ℕ) (h : i = (j : ℤ)) :
    rdD a i d = gD a j d := by
  simp only [rdD, gD, ix_of_eq a.size i j h]

theorem rdD_nonneg {γ : Type} (a : Array γ) (i : ℤ) (d : γ) (h : 0 ≤ i) :
    rdD a i d = gD a i.toNat d := rdD_of_eq a i d i.toNat (by omega)

theorem rdD_natCast {γ : Type} (a : Array γ) (j : ℕ) (d : γ) : rdD a (j : ℤ) d = gD a j d :=
  rdD_of_eq a _ d j rfl

theorem rd_natCast (a : Array Int) (j : ℕ) :
    Hdc.Gen.Kernels.rd a (j : ℤ) = Hdc.GenKernels.gv a j := Hdc.GenKernels.rd_of_eq a _ j rfl

theorem lv_mem (l : List Int) (j : ℕ) (h : j < l.length) : Hdc.GenKernels.lv l j ∈ l := by
  rw [Hdc.GenKernels.lv_eq_getElem l j h]; exact List.getElem_mem h

@[simp] theorem size_wrG {γ : Type} (a : Array γ) (i : ℤ) (v : γ) : (wrG a i v).size = a.size := by
  simp [wrG]

theorem gD_wrG_self {γ : Type} (a : Array γ) (i : ℤ) (v d : γ) (j : ℕ) (h : i = (j : ℤ))
    (hj : j < a.size) : gD (wrG a i v) j d = v := by
  simp only [wrG, ix_of_eq a.size i j h, gD]
  simp [Array.getElem?_setIfInBounds_self_of_lt hj]

theorem gD_wrG_ne {γ : Type} (a : Array γ) (i : ℤ) (v d : γ) (j : ℕ) (hi : 0 ≤ i)
    (h : i ≠ (j : ℤ)) : gD (wrG a i v) j d = gD a j d := by
  simp only [wrG, ix_of_eq a.size i i.toNat (by omega), gD]
  have : i.toNat ≠ j := by omega
  simp [Array.getElem?_setIfInBounds_ne this]

/-- a write beyond the end does nothing (Python raises; Numba does not check; the translation keeps the array) -/
theorem wrG_out {γ : Type} (a : Array γ) (i : ℤ) (v : γ) (hi : (a.size : ℤ) ≤ i) : wrG a i v = a := by
  simp only [wrG, ix_of_eq a.size i i.toNat (by omega)]
  exact Array.setIfInBounds_eq_of_size_le (by omega)

/-- the same for the integer arrays of `Hdc.Gen.Kernels` -/
theorem wr_out (a : Array Int) (i : ℤ) (v : Int) (hi : (a.size : ℤ) ≤ i) :
    Hdc.Gen.Kernels.wr a i v = a :=
  wrG_out a i v hi

theorem gD_map_const {γ : Type} (a : Array γ) (c d : γ) (j : ℕ) (hj : j < a.size) :
    gD (a.map fun _ => c) j d = c := by
  simp [gD, Array.getD_eq_getD_getElem?, hj]

theorem gv_map_const (a : Array Int) (c : Int) (j : ℕ) (hj : j < a.size) :
    Hdc.GenKernels.gv (a.map fun _ => c) j = c := by
  simp [Hdc.GenKernels.gv, Array.getD_eq_getD_getElem?, hj]

/-- a write at the frontier `L` of the finished prefix extends the prefix -/
theorem take_wrG {γ : Type} (a : Array γ) (i : ℤ) (v : γ) (L : ℕ) (hi : i = (L : ℤ))
    (hL : L < a.size) : (wrG a i v).toList.take (L + 1) = a.toList.take L ++ [v] := by
  simp only [wrG, ix_of_eq a.size i L hi, Array.toList_setIfInBounds]
  rw [List.take_add_one, List.take_set_of_le (Nat.le_refl L)]
  simp [hL]

/-! ### the row-major flattening -/

theorem flat2_nat (d0 d1 i j : ℕ) : flat2 d0 d1 i j = ((i * d1 + j : ℕ) : ℤ) := by
  have h1 : ¬ ((i : ℤ) < 0) := by omega
  have h2 : ¬ ((j : ℤ) < 0) := by omega
  simp only [flat2, ax, h1, h2, if_false]
  push_cast; rfl

theorem flat3_nat (d0 d1 d2 i j k : ℕ) :
    flat3 d0 d1 d2 i j k = (((i * d1 + j) * d2 + k : ℕ) : ℤ) := by
  have h1 : ¬ ((i : ℤ) < 0) := by omega
  have h2 : ¬ ((j : ℤ) < 0) := by omega
  have h3 : ¬ ((k : ℤ) < 0) := by omega
  simp only [flat3, ax, h1, h2, h3, if_false]
  push_cast; rfl

/-! ### lists and arrays over a field read as functions (`fnl`, `av`: 0 outside) -/

section field
open Hdc.Ws2dGen (av)
open Hdc.Ws2d (fnl)
variable {α : Type} [Field α]

theorem av_toArray (l : List α) (j : ℕ) : av l.toArray j = fnl l j := by
  simp [av, fnl]

theorem av_eq_fnl_toList (a : Array α) (j : ℕ) : av a j = fnl a.toList j := by
  simp [av, fnl]

theorem fnl_dropLast (l : List α) (j : ℕ) (h : j + 1 < l.length) : fnl l.dropLast j = fnl l j := by
  simp only [fnl, List.getD_eq_getElem?_getD, List.dropLast_eq_take]
  rw [List.getElem?_take_of_lt (by omega)]

theorem fnl_tail (l : List α) (j : ℕ) : fnl l.tail j = fnl l (j + 1) := by
  cases l <;> simp [fnl]

theorem fnl_eq_getElem (l : List α) (j : ℕ) (h : j < l.length) : fnl l j = l[j] := by
  simp [fnl, h]

end field

/-! ### slices -/

/-- `a[:-1]` is `dropLast` (any length, including 0) -/
theorem pySliceG_init {γ : Type} (l : List γ) : pySliceG l.toArray 0 (-1) = l.dropLast.toArray := by
  have h1 : (max (0 : ℤ) (-1 + (l.length : ℤ))).toNat = l.length - 1 := by omega
  have h2 : (min (0 : ℤ) (l.length : ℤ)).toNat = 0 := by omega
  simp only [pySliceG, List.size_toArray, show ((-1 : ℤ) < 0) from by omega,
    show ¬ ((0 : ℤ) < 0) from by omega, if_true, if_false, h1, h2]
  simp [List.dropLast_eq_take]

/-- `a[1:]` is `tail` (any length, including 0) -/
theorem pySliceG_tail {γ : Type} (l : List γ) :
    pySliceG l.toArray 1 (l.toArray.size : ℤ) = l.tail.toArray := by
  have h1 : (min (1 : ℤ) (l.length : ℤ)).toNat = min 1 l.length := by omega
  have h2 : (min (l.length : ℤ) (l.length : ℤ)).toNat = l.length := by omega
  simp only [pySliceG, List.size_toArray, show ¬ ((1 : ℤ) < 0) from by omega,
    show ¬ ((l.length : ℤ) < 0) from by omega, if_false, h1, h2]
  cases l <;> simp

/-! ### loop positions -/

open Lean Elab Tactic Meta in
/-- `py_subst_ranges`: every fact `cur = e ∧ P` about a loop variable `cur` (as `py_ranges` / `pyn_ranges` add them) is
    split and `cur` is replaced by `e` everywhere; `P` stays in the context. -/
elab "py_subst_ranges" : tactic => do
  for _ in [0:16] do
    let g ← getMainGoal
    let found ← g.withContext do
      let lctx ← getLCtx
      let mut r : Option FVarId := none
      for decl in lctx do
        if decl.isImplementationDetail then continue
        let ty ← instantiateMVars decl.type
        if let some (l, _) := ty.and? then
          if let some (_, lhs, _) := l.eq? then
            if lhs.isFVar then
              if !(← lhs.fvarId!.isLetVar) then r := some decl.fvarId
      return r
    match found with
    | none => break
    | some fv =>
      let subgoals ← g.cases fv
      let some s := subgoals[0]? | throwError "py_subst_ranges: unexpected"
      let hEq := s.fields[0]!.fvarId!
      let g'' ← Lean.Meta.subst s.mvarId hEq
      replaceMainGoal [g'']

/-! ### sums and counts as a fold over pairs -/

theorem foldl_pair (l : List (Int × Int)) (a : Int) (c : ℕ) :
    l.foldl (fun (acc : Int × Nat) (p : Int × Int) => (acc.1 + p.1, acc.2 + 1)) (a, c)
      = (a + (l.map fun p => p.1).sum, c + l.length) := by
  induction l generalizing a c with
  | nil => simp
  | cons p ps ih => simp [ih]; omega

/-- a sum of naturals over the selected cells of a prefix is at most the sum over the whole list -/
theorem sum_map_filter_take_le {α : Type} (p : α → Bool) (g : α → ℕ) (l : List α) (q : ℕ) :
    (((l.take q).filter p).map g).sum ≤ ((l.filter p).map g).sum := by
  conv_rhs => rw [← List.take_append_drop q l]
  simp only [List.filter_append, List.map_append, List.sum_append]
  omega

theorem natAbs_sum_le (l : List Int) : l.sum.natAbs ≤ (l.map Int.natAbs).sum := by
  induction l with
  | nil => simp
  | cons x xs ih => simp only [List.sum_cons, List.map_cons]; omega

/-- `n` cells of absolute value at most `M` -/
theorem sum_natAbs_le (l : List (Int × Int)) (M : ℕ) (hl : ∀ p ∈ l, p.1.natAbs ≤ M) :
    (l.map fun p => p.1.natAbs).sum ≤ l.length * M := by
  induction l with
  | nil => simp
  | cons p ps ih =>
    have := hl p (by simp)
    have := ih (fun q hq => hl q (by simp [hq]))
    simp only [List.map_cons, List.sum_cons, List.length_cons, Nat.add_mul, Nat.one_mul]
    omega

theorem natAbs_le_sum (l : List Int) : ∀ x ∈ l, x.natAbs ≤ (l.map Int.natAbs).sum := by
  induction l with
  | nil => simp
  | cons y ys ih =>
    intro x hx
    rcases List.mem_cons.mp hx with rfl | hx
    · simp
    · have := ih x hx
      simp only [List.map_cons, List.sum_cons]
      omega

end Hdc.PyNpT
