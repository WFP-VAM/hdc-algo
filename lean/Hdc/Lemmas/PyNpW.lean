import Hdc.PyNpW
import Hdc.Lemmas.GenNum
import Hdc.Lemmas.SmoothBasic
/-
Lemmas about the NumPy combinators of Hdc/PyNpW.lean: each combinator applied to arrays that come from
lists is the array of the corresponding `List` operation (they move a
program expression over `Array`s to the list level, where the hand models live).
Kernel independent: nothing here mentions a generated kernel.
-/
namespace Hdc.PyNpW
open Hdc Hdc.Gen.NumKernels

set_option linter.unusedSectionVars false

section generic
variable {α β γ : Type}

theorem npMap_toArray (f : α → β) (l : List α) : npMap f l.toArray = (l.map f).toArray := by
  simp [npMap]

theorem npMap2_toArray (f : α → β → γ) (a : List α) (b : List β) :
    npMap2 f a.toArray b.toArray = (List.zipWith f a b).toArray := by
  simp [npMap2]

theorem npMaskSet_toArray (a : List α) (m : List Bool) (c : α) :
    npMaskSet a.toArray m.toArray c = (List.zipWith (fun x b => if b then c else x) a m).toArray := by
  simp [npMaskSet]

theorem npWhereSA_toArray (c : List Bool) (a : α) (b : List α) :
    npWhereSA c.toArray a b.toArray = (List.zipWith (fun ci bi => if ci then a else bi) c b).toArray := by
  simp [npWhereSA]

theorem npSelect_toArray (a : List α) (m : List Bool) :
    npSelect a.toArray m.toArray = (((a.zip m).filter fun p => p.2).map fun p => p.1).toArray := rfl

theorem npCount_toArray (m : List Bool) : npCount m.toArray = ((m.filter id).length : ℤ) := rfl

theorem npFill_toArray (a : List α) (c : α) : npFill a.toArray c = (a.map fun _ => c).toArray := by
  simp [npFill]

theorem npFill_replicate (n : ℕ) (v c : α) : npFill (Array.replicate n v) c = Array.replicate n c := by
  simp [npFill]

@[simp] theorem npCopyTo_eq (a b : Array α) : npCopyTo a b = b := rfl

/-! #### the same facts in `toList` form (for arbitrary arrays) -/

@[simp] theorem toList_npMap (f : α → β) (a : Array α) : (npMap f a).toList = a.toList.map f := by
  simp [npMap]
@[simp] theorem toList_npMap2 (f : α → β → γ) (a : Array α) (b : Array β) :
    (npMap2 f a b).toList = List.zipWith f a.toList b.toList := by
  simp [npMap2]
@[simp] theorem toList_npMaskSet (a : Array α) (m : Array Bool) (c : α) :
    (npMaskSet a m c).toList = List.zipWith (fun x b => if b then c else x) a.toList m.toList := by
  simp [npMaskSet]
@[simp] theorem toList_npWhereSA (c : Array Bool) (a : α) (b : Array α) :
    (npWhereSA c a b).toList = List.zipWith (fun ci bi => if ci then a else bi) c.toList b.toList := by
  simp [npWhereSA]
@[simp] theorem toList_npSelect (a : Array α) (m : Array Bool) :
    (npSelect a m).toList = ((a.toList.zip m.toList).filter fun p => p.2).map fun p => p.1 := rfl
theorem npCount_eq (m : Array Bool) : npCount m = ((m.toList.filter id).length : ℤ) := rfl
@[simp] theorem toList_npFill (a : Array α) (c : α) : (npFill a c).toList = a.toList.map fun _ => c := by
  simp [npFill]
@[simp] theorem size_npMap (f : α → β) (a : Array α) : (npMap f a).size = a.size := by simp [npMap]
@[simp] theorem size_npMap2 (f : α → β → γ) (a : Array α) (b : Array β) :
    (npMap2 f a b).size = min a.size b.size := by simp [npMap2]
@[simp] theorem size_npMaskSet (a : Array α) (m : Array Bool) (c : α) :
    (npMaskSet a m c).size = min a.size m.size := by simp [npMaskSet]
@[simp] theorem size_npWhereSA (c : Array Bool) (a : α) (b : Array α) :
    (npWhereSA c a b).size = min c.size b.size := by simp [npWhereSA]
@[simp] theorem size_npFill (a : Array α) (c : α) : (npFill a c).size = a.size := by simp [npFill]

@[simp] theorem toList_wr_zero [Add α] [NatCast α] (a : Array α) (v : α) :
    (Hdc.Gen.NumKernels.wr a 0 v).toList = a.toList.set 0 v := by
  simp [Hdc.Gen.NumKernels.wr, Hdc.Gen.NumKernels.ix]

theorem rdA_eq (a : Array (Array α)) (j : ℕ) : rdA a (j : ℤ) = a.toList.getD j #[] := by
  simp only [rdA, Hdc.GenNum.ix_of_eq _ (j : ℤ) j rfl]
  simp [Array.getD, List.getD]
  split <;> simp_all
theorem rdA_zero (a : Array (Array α)) : rdA a 0 = a.toList.getD 0 #[] := rdA_eq a 0
theorem rdA_one (a : Array (Array α)) : rdA a 1 = a.toList.getD 1 #[] := rdA_eq a 1

theorem npArange_natCast (m : ℕ) :
    npArange (m : ℤ) = (List.map (fun (k : ℕ) => (k : ℤ)) (List.range m)).toArray := by
  unfold npArange pyRange
  congr 1
  rw [show ((m : ℤ) - 0).toNat = m by omega]
  apply List.map_congr_left
  intro k _
  simp

theorem sliceIx_zero (n : ℕ) : sliceIx n 0 = 0 := by simp [sliceIx]

theorem sliceIx_size (n : ℕ) : sliceIx n (n : ℤ) = n := by
  have : ¬ ((n : ℤ) < 0) := by omega
  simp [sliceIx, this]

/-- `a[0:m] = b` with `m = len(a) = len(b)` replaces the content -/
theorem npSetSlice_full (a b : Array α) (m : ℤ) (hm : m = (a.size : ℤ)) (hb : b.size = a.size) :
    npSetSlice a 0 m b = b := by
  subst hm
  apply Array.ext
  · simp [npSetSlice, hb]
  · intro i h1 h2
    simp only [npSetSlice, sliceIx_zero, sliceIx_size, Array.getElem_ofFn]
    have hi : i < a.size := by simpa [npSetSlice] using h1
    simp [hi, Array.getD, h2]

/-- `b[0:m]` with `m = len(b)` is the whole array -/
theorem npSlice_full (b : Array α) (m : ℤ) (hm : m = (b.size : ℤ)) : npSlice b 0 m = b := by
  subst hm
  simp [npSlice, sliceIx_zero, sliceIx_size]

theorem rdA_push_lt (a : Array (Array α)) (x : Array α) (j : ℕ) (hj : j < a.size) :
    rdA (a.push x) (j : ℤ) = rdA a (j : ℤ) := by
  simp only [rdA, Hdc.GenNum.ix_of_eq _ (j : ℤ) j rfl, Array.size_push]
  simp [Array.getD, hj, Nat.lt_succ_of_lt hj, Array.getElem_push_lt hj]

theorem rdA_push_eq (a : Array (Array α)) (x : Array α) :
    rdA (a.push x) (a.size : ℤ) = x := by
  simp only [rdA, Hdc.GenNum.ix_of_eq _ (a.size : ℤ) a.size rfl, Array.size_push]
  simp [Array.getD]

theorem rdA_toArray (l : List (Array α)) (j : ℕ) : rdA l.toArray (j : ℤ) = l.getD j #[] := by
  simp only [rdA, Hdc.GenNum.ix_of_eq _ (j : ℤ) j rfl]
  simp [Array.getD, List.getD]
  split <;> simp_all

open Lean Elab Tactic Meta in
/-- remove the join points of a `do` block (local definitions `__do_jp`: copies of program text that
    the verification-condition generator has already inlined) from the context -/
elab "clear_jps" : tactic => withMainContext do
  let lctx ← getLCtx
  let mut g ← getMainGoal
  for decl in lctx.decls.toArray.reverse do
    if let some decl := decl then
      if decl.userName.eraseMacroScopes == `__do_jp then
        try g ← g.clear decl.fvarId catch _ => pure ()
  replaceMainGoal [g]

end generic

section carrier
variable {α : Type} [Field α] [LinearOrder α] [IsStrictOrderedRing α]

theorem npSum_toArray (l : List α) : npSum l.toArray = sumF l := rfl
theorem npMedian_toArray (l : List α) : npMedian l.toArray = median l := rfl
theorem npMax_toArray (l : List α) : npMax l.toArray = maxL l := rfl
theorem npMin_toArray (l : List α) : npMin l.toArray = minL l := rfl

/-- `a[0] = v` on an array that comes from a list -/
theorem wr_zero_toArray (l : List α) (v : α) : wr l.toArray 0 v = (l.set 0 v).toArray := by
  simp [wr, ix]

/-- `[a, b][0]`, `[a, b][1]` -/
theorem rd_single (a : α) : rd #[a] 0 = a := by simp [rd, ix]
theorem rd_pair_zero (a b : α) : rd #[a, b] 0 = a := by simp [rd, ix]
theorem rd_pair_one (a b : α) : rd #[a, b] 1 = b := by simp [rd, ix]

end carrier

end Hdc.PyNpW
