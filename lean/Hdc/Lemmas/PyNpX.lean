import Hdc.PyNpX
import Hdc.Lemmas.PyNpT
/-
Lemmas about the n-d combinators of Hdc/PyNpX.lean (kernel independent): the row-major position `pos3` of a cell of a 3-d
array is injective and in range; the column copy; `a[:] = b`; the rounded column store.
-/
namespace Hdc.PyNpX
open Hdc.PyNpT

/-- row-major position of `a[t, r, c]` in an array of shape `(_, nr, nc)` -/
def pos3 (nr nc t r c : ℕ) : ℕ := (t * nr + r) * nc + c

theorem mixed_inj {a a' b b' n : ℕ} (hb : b < n) (hb' : b' < n) (h : a * n + b = a' * n + b') :
    a = a' ∧ b = b' := by
  rcases Nat.lt_trichotomy a a' with h1 | h1 | h1
  · have h2 := Nat.mul_le_mul_right n (show a + 1 ≤ a' from h1)
    rw [Nat.add_mul, Nat.one_mul] at h2
    omega
  · subst h1; exact ⟨rfl, by omega⟩
  · have h2 := Nat.mul_le_mul_right n (show a' + 1 ≤ a from h1)
    rw [Nat.add_mul, Nat.one_mul] at h2
    omega

theorem pos3_inj {nr nc t r c t' r' c' : ℕ} (hr : r < nr) (hc : c < nc) (hr' : r' < nr) (hc' : c' < nc)
    (h : pos3 nr nc t r c = pos3 nr nc t' r' c') : t = t' ∧ r = r' ∧ c = c' := by
  obtain ⟨h1, h2⟩ := mixed_inj hc hc' h
  obtain ⟨h3, h4⟩ := mixed_inj hr hr' h1
  exact ⟨h3, h4, h2⟩

theorem pos3_lt {nt nr nc t r c : ℕ} (ht : t < nt) (hr : r < nr) (hc : c < nc) :
    pos3 nr nc t r c < nt * nr * nc := by
  have h1 : t * nr + r + 1 ≤ nt * nr := by
    have := Nat.mul_le_mul_right nr (show t + 1 ≤ nt from ht)
    rw [Nat.add_mul, Nat.one_mul] at this
    omega
  have h2 := Nat.mul_le_mul_right nc h1
  rw [Nat.add_mul, Nat.one_mul] at h2
  unfold pos3
  omega

theorem flat3_pos3 (nt nr nc t r c : ℕ) :
    flat3 (nt : ℤ) (nr : ℤ) (nc : ℤ) (t : ℤ) (r : ℤ) (c : ℤ) = ((pos3 nr nc t r c : ℕ) : ℤ) :=
  flat3_nat nt nr nc t r c

/-- `a[:, r, c]`, cell by cell -/
theorem npCol3_nat {γ : Type} (a : Array γ) (d : γ) (nt nr nc r c : ℕ) :
    npCol3 a d (nt : ℤ) (nr : ℤ) (nc : ℤ) (r : ℤ) (c : ℤ)
      = ((List.range nt).map fun t => gD a (pos3 nr nc t r c) d).toArray := by
  simp only [npCol3, Int.toNat_natCast, flat3_pos3, rdD_natCast]

@[simp] theorem size_npSetAll {γ : Type} (a b : Array γ) : (npSetAll a b).size = a.size := by
  unfold npSetAll
  split_ifs with h
  · exact h
  · rfl

theorem npSetAll_eq {γ : Type} (a b : Array γ) (h : b.size = a.size) : npSetAll a b = b := by
  simp [npSetAll, h]

/-- the fold of `npRoundIntoCol3`: cells `k .. k + len(l) - 1` of the column `(r, c)` get the rounded values, every other
    cell keeps its value -/
theorem foldl_col_spec {β γ : Type} (rnd : β → γ) (d : γ) (nt nr nc r c : ℕ) (hr : r < nr) (hc : c < nc) :
    ∀ (l : List β) (k : ℕ) (out : Array γ), k + l.length ≤ nt → out.size = nt * nr * nc →
      ((l.zipIdx k).foldl (fun o p => wrG o (flat3 (nt : ℤ) (nr : ℤ) (nc : ℤ) ((p.2 : ℕ) : ℤ) (r : ℤ) (c : ℤ)) (rnd p.1)) out).size
          = out.size ∧
      ∀ t r' c', t < nt → r' < nr → c' < nc →
        gD ((l.zipIdx k).foldl (fun o p => wrG o (flat3 (nt : ℤ) (nr : ℤ) (nc : ℤ) ((p.2 : ℕ) : ℤ) (r : ℤ) (c : ℤ)) (rnd p.1)) out)
            (pos3 nr nc t r' c') d
          = if r' = r ∧ c' = c ∧ k ≤ t ∧ t < k + l.length then (l.map rnd).getD (t - k) d
            else gD out (pos3 nr nc t r' c') d := by
  intro l
  induction l with
  | nil =>
    intro k out _ _
    refine ⟨rfl, fun t r' c' _ _ _ => ?_⟩
    rw [if_neg (by simp)]
    rfl
  | cons x xs ih =>
    intro k out hk hsz
    simp only [List.zipIdx_cons, List.foldl_cons, List.length_cons] at hk ⊢
    obtain ⟨hs, hg⟩ := ih (k + 1) (wrG out (flat3 (nt : ℤ) (nr : ℤ) (nc : ℤ) ((k : ℕ) : ℤ) (r : ℤ) (c : ℤ)) (rnd x))
      (by omega) (by simpa using hsz)
    refine ⟨by rw [hs]; simp, fun t r' c' ht hr' hc' => ?_⟩
    rw [hg t r' c' ht hr' hc']
    by_cases hcond : r' = r ∧ c' = c ∧ k + 1 ≤ t ∧ t < k + 1 + xs.length
    · rw [if_pos hcond, if_pos ⟨hcond.1, hcond.2.1, by omega, by omega⟩]
      obtain ⟨_, _, h3, _⟩ := hcond
      have : t - k = (t - (k + 1)) + 1 := by omega
      rw [this, List.map_cons, List.getD_cons_succ]
    · rw [if_neg hcond]
      by_cases h0 : r' = r ∧ c' = c ∧ t = k
      · obtain ⟨rfl, rfl, rfl⟩ := h0
        rw [if_pos ⟨rfl, rfl, by omega, by omega⟩, Nat.sub_self, List.map_cons, List.getD_cons_zero]
        exact gD_wrG_self _ _ _ _ _ (flat3_pos3 nt nr nc t r' c') (by rw [hsz]; exact pos3_lt ht hr' hc')
      · rw [if_neg (by intro h; apply hcond; apply h0.elim; omega)]
        apply gD_wrG_ne _ _ _ _ _ (by rw [flat3_pos3]; omega)
        rw [flat3_pos3]
        intro h
        obtain ⟨h1, h2, h3⟩ := pos3_inj hr hc hr' hc' (Int.ofNat_inj.1 h)
        exact h0 ⟨h2.symm, h3.symm, h1.symm⟩

/-- `np.round(z, 0, out[:, r, c])` on an array of shape `(nt, nr, nc)`, `len(z) = nt`: the column gets the rounded values,
    every other cell keeps its value, the size does not change -/
theorem npRoundIntoCol3_spec {β γ : Type} (rnd : β → γ) (d : γ) (z : Array β) (out : Array γ) (nt nr nc r c : ℕ)
    (hr : r < nr) (hc : c < nc) (hz : z.size = nt) (hsz : out.size = nt * nr * nc) :
    (npRoundIntoCol3 rnd z out (nt : ℤ) (nr : ℤ) (nc : ℤ) (r : ℤ) (c : ℤ)).size = out.size ∧
    ∀ t r' c', t < nt → r' < nr → c' < nc →
      gD (npRoundIntoCol3 rnd z out (nt : ℤ) (nr : ℤ) (nc : ℤ) (r : ℤ) (c : ℤ)) (pos3 nr nc t r' c') d
        = if r' = r ∧ c' = c then (z.toList.map rnd).getD t d else gD out (pos3 nr nc t r' c') d := by
  have h := foldl_col_spec rnd d nt nr nc r c hr hc z.toList 0 out (by simp [hz]) hsz
  simp only [npRoundIntoCol3, Int.toNat_natCast, hz, if_true]
  refine ⟨h.1, fun t r' c' ht hr' hc' => ?_⟩
  rw [h.2 t r' c' ht hr' hc']
  simp only [Nat.zero_le, Nat.zero_add, Array.length_toList, hz, ht, and_true, Nat.sub_zero]

theorem npRoundIntoCol3_mismatch {β γ : Type} (rnd : β → γ) (z : Array β) (out : Array γ) (d0 d1 d2 j k : ℤ)
    (hz : z.size ≠ d0.toNat) : npRoundIntoCol3 rnd z out d0 d1 d2 j k = out := by
  simp [npRoundIntoCol3, hz]

end Hdc.PyNpX
