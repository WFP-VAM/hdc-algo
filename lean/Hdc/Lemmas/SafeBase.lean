import Hdc.Gen.SafeBase
import Hdc.Lemmas.GenKernels
/-
Facts about the check combinators of the instrumentation mode (Hdc/Gen/SafeBase.lean: `oob`, `oobFlat`, `maskBad`) and
about the sizes of the arrays the translated statements produce.  Kernel independent.
-/
namespace Hdc.SafeLemmas
open Hdc.Gen.Safe Hdc.Gen.Kernels

/-- the flag stays down exactly on Python's accepted index range -/
theorem oob_eq_false_iff (n i : Int) : oob n i = false ↔ (-n ≤ i ∧ i < n) := by
  simp only [oob, Bool.or_eq_false_iff, decide_eq_false_iff_not, not_lt, not_le]

theorem oob_eq_true_iff (n i : Int) : oob n i = true ↔ (i < -n ∨ n ≤ i) := by
  simp only [oob, Bool.or_eq_true, decide_eq_true_eq]

/-- one more check passed: the flag stays down -/
theorem or_eq_false {a b : Bool} (ha : a = false) (hb : b = false) : (a || b) = false := by
  rw [ha, hb]; rfl

/-- the check of `a[i]` with `0 ≤ i < n` -/
theorem or_oob {b : Bool} {n i : Int} (hb : b = false) (h : 0 ≤ i ∧ i < n) : (b || oob n i) = false :=
  or_eq_false hb ((oob_eq_false_iff n i).mpr ⟨by omega, h.2⟩)

/-- with the flag down so far, a check of `a[i]` raises it exactly outside Python's accepted range -/
theorem or_oob_eq_true_iff {b : Bool} (hb : b = false) (n i : Int) :
    (b || oob n i) = true ↔ (i < -n ∨ n ≤ i) := by
  rw [hb, Bool.false_or, oob_eq_true_iff]

/-- an array of `n.toNat` cells (as the invariants record sizes) has at least `n` cells -/
theorem le_size {γ : Type} {a : Array γ} {n : Int} (hs : a.size = n.toNat) : n ≤ (a.size : Int) := by
  omega

/-- the check of `a[i]` with `i` in Python's accepted range of the `n = len(a)` cells -/
theorem or_oob_size {γ : Type} {b : Bool} {a : Array γ} {n i : Int} (hb : b = false) (hs : a.size = n.toNat)
    (h : -n ≤ i ∧ i < n) : (b || oob (a.size : Int) i) = false :=
  or_eq_false hb ((oob_eq_false_iff _ i).mpr (by omega))

theorem oobFlat_eq_false_iff (n : Nat) (p : Int) : oobFlat n p = false ↔ (0 ≤ p ∧ p < (n : Int)) := by
  simp only [oobFlat, Bool.or_eq_false_iff, decide_eq_false_iff_not, not_lt, not_le]

theorem maskBad_eq_false_iff {γ : Type} (a : Array γ) (m : Array Bool) :
    maskBad a m = false ↔ m.size = a.size := by
  simp only [maskBad, decide_eq_false_iff_not, not_not]

theorem size_whereEq_le (a : Array Int) (k : Int) : (whereEq a k).size ≤ a.size := by
  simp only [whereEq, List.size_toArray, List.length_map]
  exact (List.length_filter_le _ _).trans (by simp)

/-- `a[lo:hi]` for `lo ≥ 0`, `hi < 0`:  `max 0 (len a + hi - lo)` cells -/
theorem size_pySlice (a : Array Int) (lo hi : Int) :
    (pySlice a lo hi).size =
      (min (if hi < 0 then max 0 (hi + (a.size : Int)) else min hi (a.size : Int)).toNat a.size)
        - (if lo < 0 then max 0 (lo + (a.size : Int)) else min lo (a.size : Int)).toNat := by
  simp only [pySlice, Array.size_extract]

theorem maskBad_eq_true_iff {γ : Type} (a : Array γ) (m : Array Bool) :
    maskBad a m = true ↔ m.size ≠ a.size := by
  simp only [maskBad, decide_eq_true_eq]

theorem oobFlat_eq_true_iff (n : Nat) (p : Int) : oobFlat n p = true ↔ (p < 0 ∨ (n : Int) ≤ p) := by
  simp only [oobFlat, Bool.or_eq_true, decide_eq_true_eq]

/-- a read inside the array (no wrap) returns one of its cells -/
theorem rd_mem (a : Array Int) (i : Int) (h0 : 0 ≤ i) (h1 : i < (a.size : Int)) : rd a i ∈ a.toList := by
  have hlt : i.toNat < a.size := by omega
  rw [Hdc.GenKernels.rd_nonneg a i h0, Hdc.GenKernels.gv, Array.getD_eq_getD_getElem?,
    Array.getElem?_eq_getElem hlt, Option.getD_some]
  exact Array.getElem_mem_toList hlt

/-- `a[1:]` and `a[:-1]` have the same length (`max 0 (len a - 1)`) -/
theorem size_pySlice_tail_eq_init (a : Array Int) :
    (pySlice a 1 (a.size : Int)).size = (pySlice a 0 (-1)).size := by
  simp only [size_pySlice]
  have h1 : ¬ ((1 : Int) < 0) := by omega
  have h2 : ¬ ((a.size : Int) < 0) := by omega
  have h3 : ((-1 : Int) < 0) := by omega
  have h4 : ¬ ((0 : Int) < 0) := by omega
  simp only [h1, h2, h3, h4, if_true, if_false]
  omega

end Hdc.SafeLemmas
