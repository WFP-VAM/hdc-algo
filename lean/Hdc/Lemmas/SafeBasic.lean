import Hdc.PySafe
import Hdc.Num
import Hdc.Lemmas.StatsBasic
import Mathlib.Algebra.Order.Field.Basic
/-
SafeBasic  Kernel-independent facts for the proofs "under the contract the flag of the instrumented program is false"
(Hdc/Props/Safe*.lean): the checks `oob`, `badSlice`, `eqv · 0` as propositions, and the bookkeeping predicate
`FlagIs P bad` ("the flag is set exactly when `P`") with the rules for `bad := (bad || c1 || c2 …)`.
Nothing here mentions a generated program.
-/
namespace Hdc.SafeL

/-- a subscript on an array of length `n` with an index in Python's accepted range is not flagged -/
theorem oob_false (n : ℕ) (i : ℤ) (h : -(n : ℤ) ≤ i ∧ i < (n : ℤ)) : oob n i = false :=
  oob_eq_false h.1 h.2

theorem oob_size {β : Type} {a : Array β} {n : ℕ} (hs : a.size = n) {i : ℤ} (h1 : -(n : ℤ) ≤ i)
    (h2 : i < (n : ℤ)) : oob a.size i = false := by
  rw [hs]; exact oob_eq_false h1 h2

theorem oob_true (n : ℕ) (i : ℤ) (h : i < -(n : ℤ) ∨ (n : ℤ) ≤ i) : oob n i = true := by
  unfold oob
  rcases h with h | h
  · have : ¬ (-(n : ℤ) ≤ i) := by omega
    simp [this]
  · have : ¬ (i < (n : ℤ)) := by omega
    simp [this]

section order
variable {α : Type} [Field α] [LinearOrder α]

theorem nat_zero : (nat 0 : α) = 0 := by simp [nat]

theorem eqv_iff (a b : α) : eqv a b = true ↔ a = b := Stats.eqv_iff a b

theorem eqv_false_iff (a b : α) : eqv a b = false ↔ a ≠ b := Stats.eqv_false_iff a b

/-- the divisor check of the instrumented programs -/
theorem eqv_zero_iff (a : α) : eqv a (nat 0) = true ↔ a = 0 := by
  rw [eqv_iff]; simp [nat]

theorem eqv_zero_false (a : α) (h : a ≠ 0) : eqv a (nat 0) = false := by
  rw [eqv_false_iff]; simpa [nat] using h

end order

def FlagIs (P : Prop) (b : Bool) : Prop := b = true ↔ P

theorem FlagIs.init : FlagIs False false := by simp [FlagIs]

theorem FlagIs.congr {P Q : Prop} {b : Bool} (h : FlagIs P b) (hpq : P ↔ Q) : FlagIs Q b :=
  Iff.trans h hpq

/-- `bad := bad || c` with a check that cannot fire -/
theorem FlagIs.or_false {P : Prop} {b c : Bool} (h : FlagIs P b) (hc : c = false) :
    FlagIs P (b || c) := by
  subst hc; simpa using h

/-- `bad := bad || c` with a check that fires exactly when `Q` -/
theorem FlagIs.or {P Q : Prop} {b c : Bool} (h : FlagIs P b) (hc : c = true ↔ Q) :
    FlagIs (P ∨ Q) (b || c) := by
  unfold FlagIs at *
  rw [Bool.or_eq_true, h, hc]

theorem FlagIs.eq_false {P : Prop} {b : Bool} (h : FlagIs P b) (hp : ¬ P) : b = false := by
  cases b
  · rfl
  · exact absurd (h.1 rfl) hp

theorem FlagIs.eq_true {P : Prop} {b : Bool} (h : FlagIs P b) (hp : P) : b = true := h.2 hp

end Hdc.SafeL
