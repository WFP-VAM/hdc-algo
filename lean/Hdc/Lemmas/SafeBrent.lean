import Hdc.Lemmas.SafeBasic
import Hdc.Props.GenNumBrent
/-
SafeBrent  Why no division of `brentq` (hdc/algo/ops/stats.py) can be a division by zero, for EVERY function `f`, every
bracket and every pair of tolerances, over a linearly ordered field (Hdc/Props/SafeBrentq.lean).

Loop invariant `PInv` (at the head of the loop, on the model's state `BState`):   `fpre = f xpre`, `fcur = f xcur`, and
    `fpre * fcur < 0`  (the bracket is about to be reset)   or   `fblk = f xblk` and (`fcur = 0` or `fblk * fcur < 0`).
After the bracket reset and the swap ("mid-iteration", `Mid`) this gives `fpre = f xpre`, `fcur = f xcur`, `fblk = f xblk` and
`fblk * fcur < 0` (the program has returned when `fcur = 0`).  Then, in the interpolation branch (`|fcur| < |fpre|`):
  * `fcur - fpre ≠ 0`                         because `|fcur| < |fpre|`                                          (secant step)
  * `xpre - xcur ≠ 0`                         because `f xpre = fpre ≠ fcur = f xcur`
  * `xblk - xcur ≠ 0`                         because `f xblk` and `f xcur` have opposite signs
  * `dblk * dpre * (fblk - fpre) ≠ 0`         the two slopes are quotients of non-zero numbers, and `fblk ≠ fpre`: this branch
                                              (`xpre ≠ xblk`) is only reached when neither the reset nor the swap happened in
                                              this pass, so `fpre * fcur > 0`, while `fblk * fcur < 0`.
Nothing here mentions a generated program.
-/
namespace Hdc.SafeBrent
open Hdc Hdc.SafeL Hdc.GenNum
open Hdc.Spi (absv_eq)

set_option linter.unusedSectionVars false

variable {α : Type} [Field α] [LinearOrder α] [IsStrictOrderedRing α] {f : α → α}

/-- the loop invariant, on the model's state (`bstate` of the state tuple of the instrumented loop without its flag) -/
def PInv (f : α → α) (s : BState α) : Prop :=
  s.fpre = f s.xpre ∧ s.fcur = f s.xcur ∧
    (s.fpre * s.fcur < 0 ∨ (s.fblk = f s.xblk ∧ (s.fcur = 0 ∨ s.fblk * s.fcur < 0)))

/-- entry of the loop: the three tests before it leave a sign change -/
theorem PInv.init {xa xb xk fk sp sc : α} {Q : Prop}
    (h1 : ¬ decide (nat 0 < f xa * f xb) = true) (h2 : ¬ eqv (f xa) (nat 0) = true)
    (h3 : ¬ eqv (f xb) (nat 0) = true) :
    True ∧ True ∧ PInv f ⟨xa, xb, xk, f xa, f xb, fk, sp, sc⟩ ∨ Q := by
  rw [decide_eq_true_eq, nat_zero] at h1
  rw [eqv_zero_iff] at h2 h3
  exact Or.inl ⟨trivial, trivial, rfl, rfl, Or.inl (lt_of_le_of_ne (not_lt.1 h1) (mul_ne_zero h2 h3))⟩

/-- the facts that hold after the re-bracketing ("mid-iteration"); `same`: `xpre ≠ xblk` only when neither the reset nor the
    swap happened in this pass -/
structure Mid (f : α → α) (t : BState α) : Prop where
  hp : t.fpre = f t.xpre
  hc : t.fcur = f t.xcur
  hk : t.fblk = f t.xblk
  sign : t.fcur = 0 ∨ t.fblk * t.fcur < 0
  same : t.xpre = t.xblk ∨ ¬ t.fpre * t.fcur < 0

/-- a swap with `fcur = 0` is impossible: it needs `|fblk| < |fcur|` -/
theorem PInv.mid {s t : BState α} (h : PInv f s) (hb : brentBracket s = t) : Mid f t := by
  subst hb
  obtain ⟨hp, hc, hK⟩ := h
  simp only [brentBracket, nat_zero, absv_eq]
  split_ifs with h1 h2 h2
  · exact ⟨hc, hp, hc, Or.inr (by rwa [mul_comm]), Or.inl rfl⟩
  · exact ⟨hp, hc, hp, Or.inr h1, Or.inl rfl⟩
  · obtain ⟨hk, hs⟩ := hK.resolve_left h1
    refine ⟨hc, hk, hc, Or.inr ?_, Or.inl rfl⟩
    rcases hs with hs | hs
    · rw [hs, abs_zero] at h2
      exact absurd h2 (not_lt.2 (abs_nonneg _))
    · rwa [mul_comm]
  · obtain ⟨hk, hs⟩ := hK.resolve_left h1
    exact ⟨hp, hc, hk, hs, Or.inr h1⟩

/-! ### the four divisors -/

theorem div1 {fc fp : α} (h : |fc| < |fp|) : fc - fp ≠ 0 := by
  intro h0
  rw [sub_eq_zero.1 h0] at h
  exact lt_irrefl _ h

theorem div2 {f : α → α} {xp xc fp fc : α} (hp : fp = f xp) (hc : fc = f xc) (h : |fc| < |fp|) :
    xp - xc ≠ 0 := by
  intro h0
  rw [hp, hc, sub_eq_zero.1 h0] at h
  exact lt_irrefl _ h

theorem div3 {f : α → α} {xk xc fk fc : α} (hk : fk = f xk) (hc : fc = f xc) (h : fk * fc < 0) :
    xk - xc ≠ 0 := by
  intro h0
  rw [hk, hc, sub_eq_zero.1 h0] at h
  exact absurd h (not_lt.2 (mul_self_nonneg _))

theorem div4 {f : α → α} {xp xc xk fp fc fk : α} (hp : fp = f xp) (hc : fc = f xc) (hk : fk = f xk)
    (h : |fc| < |fp|) (hs : fk * fc < 0) (hR : ¬ fp * fc < 0) :
    (fk - fc) / (xk - xc) * ((fp - fc) / (xp - xc)) * (fk - fp) ≠ 0 := by
  have h1 : fk - fc ≠ 0 := by
    intro h0
    rw [sub_eq_zero.1 h0] at hs
    exact absurd hs (not_lt.2 (mul_self_nonneg _))
  have h2 : fp - fc ≠ 0 := fun h0 => div1 h (by rw [← neg_sub, h0, neg_zero])
  have h3 : fk - fp ≠ 0 := by
    intro h0
    rw [sub_eq_zero.1 h0] at hs
    exact hR hs
  exact mul_ne_zero (mul_ne_zero (div_ne_zero h1 (div3 hk hc hs)) (div_ne_zero h2 (div2 hp hc h))) h3

/-! ### the rest of a pass, from the mid-iteration facts

The hypotheses are the outcomes of the tests of the program as it evaluates them, the conclusions have the shape of the
verification conditions of `Invariant.withEarlyReturnNewDo`. -/

section pass
variable {t : BState α} {b : Bool} {δ sbis sp : α}

/-- the pass goes on: `fblk`, `fcur` have opposite signs -/
theorem Mid.sign_lt (hm : Mid f t) (hr : (eqv t.fcur (nat 0) || decide (absv sbis < δ)) = false) :
    t.fblk * t.fcur < 0 := by
  rw [Bool.or_eq_false_iff, eqv_false_iff, nat_zero] at hr
  exact hm.sign.resolve_left hr.1

/-- the flag after the trial step (`v`: interpolation is tried, `w`: by the secant step).  The inverse quadratic step is reached
    with `xpre ≠ xblk` only, so neither the reset nor the swap happened -/
theorem Mid.flag {v w : Bool} (hm : Mid f t) (hb : b = false)
    (hr : (eqv t.fcur (nat 0) || decide (absv sbis < δ)) = false)
    (hi : (decide (δ < absv sp) && decide (absv t.fcur < absv t.fpre)) = v) (hx : eqv t.xpre t.xblk = w) :
    (bif v then
      (bif w then b || eqv (t.fcur - t.fpre) (nat 0)
       else b || eqv (t.xpre - t.xcur) (nat 0) || eqv (t.xblk - t.xcur) (nat 0) ||
        eqv ((t.fblk - t.fcur) / (t.xblk - t.xcur) * ((t.fpre - t.fcur) / (t.xpre - t.xcur)) * (t.fblk - t.fpre)) (nat 0))
      else b) = false := by
  cases v
  · exact hb
  simp only [Bool.and_eq_true, decide_eq_true_eq, absv_eq] at hi
  cases w
  · rw [eqv_false_iff] at hx
    have hs := hm.sign_lt hr
    simp only [cond_true, cond_false, hb, Bool.false_or, eqv_zero_false _ (div2 hm.hp hm.hc hi.2),
      eqv_zero_false _ (div3 hm.hk hm.hc hs), eqv_zero_false _ (div4 hm.hp hm.hc hm.hk hi.2 hs (hm.same.resolve_left hx))]
  · simp only [cond_true, hb, Bool.false_or, eqv_zero_false _ (div1 hi.2)]

/-- end of a pass that goes on: `xpre, fpre := xcur, fcur`, a new point `xn` -/
theorem Mid.next {sc xn : α} {Q : Prop} (hm : Mid f t)
    (hr : (eqv t.fcur (nat 0) || decide (absv sbis < δ)) = false) (hb : b = false) :
    True ∧ b = false ∧ PInv f ⟨t.xcur, xn, t.xblk, t.fcur, f xn, t.fblk, sp, sc⟩ ∨ Q := by
  have hs := hm.sign_lt hr
  refine Or.inl ⟨trivial, hb, hm.hc, rfl, ?_⟩
  show t.fcur * f xn < 0 ∨ (t.fblk = f t.xblk ∧ (f xn = 0 ∨ t.fblk * f xn < 0))
  rcases lt_trichotomy (f xn) 0 with hn | hn | hn
  · rcases mul_neg_iff.1 hs with ⟨hk, hc⟩ | ⟨hk, hc⟩
    · exact Or.inr ⟨hm.hk, Or.inr (mul_neg_of_pos_of_neg hk hn)⟩
    · exact Or.inl (mul_neg_of_pos_of_neg hc hn)
  · exact Or.inr ⟨hm.hk, Or.inl hn⟩
  · rcases mul_neg_iff.1 hs with ⟨hk, hc⟩ | ⟨hk, hc⟩
    · exact Or.inl (mul_neg_of_neg_of_pos hc hn)
    · exact Or.inr ⟨hm.hk, Or.inr (mul_neg_of_neg_of_pos hk hn)⟩

/-- a pass that returns leaves the flag as it is -/
theorem returns {x : α} {P : Prop} (hb : b = false) :
    P ∨ ∃ a : α × Bool, some (x, b) = some a ∧ True ∧ a.2 = false :=
  Or.inr ⟨_, rfl, trivial, hb⟩

end pass

end Hdc.SafeBrent
