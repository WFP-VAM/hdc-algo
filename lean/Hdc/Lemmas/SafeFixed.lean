import Hdc.Lemmas.GenNumFixed
import Hdc.Lemmas.SafeOptv
import Hdc.Props.C03
import Hdc.PySafeF
/-
SafeFixed  Facts for "under the contract the flag of the instrumented `ws2dgu` / `ws2dpgu` is false"
(Hdc/Props/SafeWs2dgu.lean, SafeWs2dpgu.lean):
  * the cleaned data with the validity weights satisfy the contract of `ws2d` (`SafeWs2d.Contract`, n ≥ 3) as soon as two
    cells are valid and λ > 0;
  * for `0 < p < 1` the asymmetric re-weighting (`w * wa`, `wa = p` above the curve, `1 - p` elsewhere) stays inside it;
  * the flag of the instrumented smoother on ARRAYS (the loop of ws2dpgu hands it the array `ww` of the previous pass).
Nothing here mentions the two generated kernels.
-/
namespace Hdc.SafeFixed
open Hdc Hdc.C01 Hdc.Smooth Hdc.SafeL

set_option linter.unusedSectionVars false

variable {α : Type} [Field α] [LinearOrder α] [IsStrictOrderedRing α]

/-- the contract of `ws2d` for the cleaned data with the validity weights -/
theorem contract_clean (miss : α → Bool) (y : List α) (lam : α) (hn : 3 ≤ y.length) (hlam : 0 < lam)
    (hv : 2 ≤ countValid miss y) : SafeWs2d.Contract (cleanOf miss y) (weightsOf miss y) lam :=
  have h := SafeOptv.contract_raw miss y lam hn hlam hv
  ⟨by simpa using hn, by simp, hlam, h.w_nonneg, h.two_pos⟩

/-- for `0 < p < 1` the re-weighted problem is again inside the contract of `ws2d` -/
theorem contract_asym {y w : List α} {lam : α} (h : SafeWs2d.Contract y w lam) (p : α) (hp0 : 0 < p)
    (hp1 : p < 1) (z : List α) (hz : z.length = y.length) : SafeWs2d.Contract y (asymW p w y z) lam where
  len := h.len
  wlen := C03.asymW_length p w y z h.wlen hz
  lam_pos := h.lam_pos
  w_nonneg := by
    intro x hx
    obtain ⟨i, hi, rfl⟩ := List.getElem_of_mem hx
    have hi' := hi
    rw [C03.asymW_length p w y z h.wlen hz] at hi'
    have hiw : i < w.length := by rw [h.wlen]; exact hi'
    rw [← fn_of_lt _ i hi, fn_asymW p w y z i hiw hi' (by rw [hz]; exact hi')]
    refine C03.aw_nonneg p _ _ _ hp0 hp1 ?_
    rw [fn_of_lt _ i hiw]
    exact h.w_nonneg _ (List.getElem_mem hiw)
  two_pos := by
    obtain ⟨i, j, hij, hj, hi0, hj0⟩ := h.two_pos
    have hj' : j < y.length := by rw [← h.wlen]; exact hj
    refine ⟨i, j, hij, by rw [C03.asymW_length p w y z h.wlen hz]; exact hj', ?_, ?_⟩
    · rw [C03.asymW_pos_iff p w y z hp0 hp1 i (by omega) (by omega) (by omega)]; exact hi0
    · rw [C03.asymW_pos_iff p w y z hp0 hp1 j hj hj' (by omega)]; exact hj0

theorem ws2d_ok_arr (y w : Array α) (lam : α) (h : SafeWs2d.Contract y.toList w.toList lam) :
    (Gen.Safe.ws2d y lam w).2 = false := by
  have := SafeWs2d.safe_ws2d_ok y.toList w.toList lam h
  simpa using this

/-- the call `ws2d(y, λ, w)` of the fixed-λ kernels on the cleaned data -/
theorem ws2d_clean_ok (miss : α → Bool) (y : List α) (lam : α) (hn : 3 ≤ y.length) (hlam : 0 < lam)
    (hv : 2 ≤ countValid miss y) :
    (Gen.Safe.ws2d (cleanOf miss y).toArray lam (weightsOf miss y).toArray).2 = false :=
  SafeWs2d.safe_ws2d_ok _ _ lam (contract_clean miss y lam hn hlam hv)

/-- `lmda != 0.0` and `0 ≤ λ` (the documented range of the smoothing parameter) give `0 < λ` -/
theorem lam_pos_of (lam : α) (h0 : eqv lam (nat 0) = false) (hl : 0 ≤ lam) : 0 < lam := by
  rw [eqv_false_iff] at h0
  exact lt_of_le_of_ne hl (by simpa [nat] using h0.symm)

end Hdc.SafeFixed
