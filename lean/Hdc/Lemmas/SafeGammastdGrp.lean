import Hdc.PySafeS
import Hdc.Props.SafeGammastd
import Std.Tactic.Do
/-
SafeGammastdGrp  Facts for "under the contract the flag of the instrumented `gammastd_grp` / `gammastd_yxt` is false"
(Hdc/Props/SafeGammastdGrp.lean, SafeGammastdYxt.lean): the sizes of the arrays the mask combinators of Hdc/PyNpS.lean
produce, the size of the series `gammastd` returns, and the 2-d subscript check for an index inside its row.
-/
namespace Hdc.SafeSpi
open Hdc Hdc.Gen.NumKernels Hdc.GenNum Hdc.SafeL Std.Do

set_option mvcgen.warning false
set_option linter.unusedTactic false
set_option linter.unreachableTactic false
set_option linter.unusedSectionVars false

section masks
variable {β : Type}

theorem maskFillL_length (a : List β) (m : List Bool) (v : β) : (maskFillL a m v).length = a.length := by
  induction a generalizing m with
  | nil => cases m <;> simp [maskFillL]
  | cons x xs ih => cases m <;> simp [maskFillL, ih]

theorem maskSetL_length (a : List β) (m : List Bool) (vals : List β) : (maskSetL a m vals).length = a.length := by
  induction a generalizing m vals with
  | nil => cases m <;> simp [maskSetL]
  | cons x xs ih =>
    cases m with
    | nil => simp [maskSetL]
    | cons b bs =>
      cases b
      · simp [maskSetL, ih]
      · cases vals <;> simp [maskSetL, ih]

theorem gatherL_length (a : List β) (m : List Bool) (h : a.length = m.length) :
    (gatherL a m).length = (m.filter id).length := by
  induction a generalizing m with
  | nil => cases m <;> simp_all [gatherL]
  | cons x xs ih =>
    cases m with
    | nil => simp at h
    | cons b bs =>
      have := ih bs (by simpa using h)
      cases b <;> simp [gatherL, this]

@[simp] theorem size_npMaskFill (a : Array β) (m : Array Bool) (v : β) : (npMaskFill a m v).size = a.size := by
  simp [npMaskFill, maskFillL_length]

@[simp] theorem size_npMaskSet (a : Array β) (m : Array Bool) (vals : Array β) : (npMaskSet a m vals).size = a.size := by
  simp [npMaskSet, maskSetL_length]

/-- `len a[m] = m.sum()` for a mask of the array's length -/
theorem size_npGather (a : Array β) (m : Array Bool) (h : a.size = m.size) :
    npCount m = ((npGather a m).size : Int) := by
  simp only [npGather, npCount, List.size_toArray]
  rw [gatherL_length _ _ (by simpa using h)]

end masks

/-- a 2-d subscript with both indices inside the array is not flagged -/
theorem oob2_false {β : Type} (c : Array (Array β)) (i j : ℤ) (hi : 0 ≤ i) (hi' : i < c.size)
    (hj : 0 ≤ j) (hj' : j < (c.getD i.toNat #[]).size) : oob2 c i j = false := by
  have e : ix c.size i = i.toNat := ix_of_eq _ _ _ (by omega)
  rw [oob2_eq_false_iff, e]
  exact ⟨oob_eq_false (by omega) hi', oob_eq_false (by omega) hj'⟩

variable {α : Type} [Field α] [LinearOrder α] [IsStrictOrderedRing α]

/-- the series `gammastd` returns has the length of its input (all four exits) -/
theorem size_gammastd (F : GamFns α) (digamma : α → α) (xtol rtol : α) (x : Array α) (nodata : α)
    (cs ce : Int) (a b : α) :
    (Gen.NumKernels.gammastd F digamma xtol rtol x nodata cs ce a b).size = x.size := by
  generalize hres : Gen.NumKernels.gammastd F digamma xtol rtol x nodata cs ce a b = res
  apply Id.of_wp_run_eq hres
  mvcgen -trivial invariants
  · ⇓⟨xs, s⟩ => ⌜True⌝
  · ⇓⟨xs, s⟩ => ⌜s.size = x.size⌝
  · ⇓⟨xs, s⟩ => ⌜s.size = x.size⌝
  all_goals
    simp (config := {zetaDelta := true}) only [size_wr, size_npFull, size_npFullLike, Int.toNat_natCast] at *
  all_goals first | trivial | assumption

theorem size_safe_gammastd (F : GamFns α) (digamma : α → α) (xtol rtol : α) (x : Array α) (nodata : α)
    (cs ce : Int) (a b : α) :
    (Gen.Safe.gammastd F digamma xtol rtol x nodata cs ce a b).1.size = x.size := by
  rw [SafeGammastd.safe_gammastd_fst, size_gammastd]

end Hdc.SafeSpi
