import Hdc.Lemmas.SafeGammastdGrp
import Hdc.Lemmas.GenNumGammastdYxt
/-
SafeGammastdYxt  Facts for "under the contract the flag of the instrumented `gammastd_yxt` is false"
(Hdc/Props/SafeGammastdYxt.lean): the output cube `y = np.full_like(x, …)` keeps the shape of `x` (number of planes, of
columns per plane, of steps per series) through every store `y[r, c, :] = row` of a row of the right length, so the 3-d
subscripts of `y` are in range whenever those of `x` are.  Kernel independent (carrier: ragged `Array (Array (Array β))`).
-/
namespace Hdc.SafeSpi
open Hdc Hdc.Gen.NumKernels Hdc.GenNum

variable {β γ : Type}

/-- `y` has the shape of `x`: planes, columns of every plane, steps of every series -/
def SameShape (y : Array (Array (Array γ))) (x : Array (Array (Array β))) : Prop :=
  y.size = x.size ∧ (∀ i : ℕ, (y.getD i #[]).size = (x.getD i #[]).size) ∧
    ∀ i j : ℕ, (rd3 y (i : ℤ) (j : ℤ)).size = (rd3 x (i : ℤ) (j : ℤ)).size

theorem getD_map_empty {δ ε : Type} (a : Array (Array δ)) (f : Array δ → Array ε) (hf : f #[] = #[]) (i : ℕ) :
    (a.map f).getD i #[] = f (a.getD i #[]) := by
  simp only [Array.getD_eq_getD_getElem?, Array.getElem?_map]
  cases a[i]? <;> simp [hf]

/-- `np.full_like(x, v)` has the shape of `x` -/
theorem SameShape.init (x : Array (Array (Array β))) (v : γ) : SameShape (npFullLike3 x v) x := by
  refine ⟨by simp [npFullLike3], fun i => ?_, fun i j => ?_⟩
  · unfold npFullLike3
    rw [getD_map_empty _ _ (by simp)]
    simp
  · simp only [rd3_nat, rowOf]
    unfold npFullLike3
    rw [getD_map_empty _ _ (by simp), getD_map_empty _ _ (by simp)]
    simp

/-- a store `y[r, c, :] = row` with `len row = len x[r, c, :]` keeps the shape -/
theorem SameShape.wr3 {y : Array (Array (Array γ))} {x : Array (Array (Array β))} (h : SameShape y x) (r c : ℕ)
    (row : Array γ) (hr : r < x.size) (hc : c < (x.getD r #[]).size)
    (hrow : row.size = (rd3 x (r : ℤ) (c : ℤ)).size) : SameShape (wr3 y (r : ℤ) (c : ℤ) row) x := by
  obtain ⟨h1, h2, h3⟩ := h
  refine ⟨by simp [h1], fun i => by rw [plane_size_wr3, h2], fun i j => ?_⟩
  have := h3 i j
  simp only [rd3_nat] at *
  rw [rowOf_wr3 _ _ _ _ _ _ (by omega) (by rw [h2]; exact hc)]
  split
  · rename_i hij
    rw [hrow, hij.1, hij.2]
  · exact this

/-- a 3-d subscript of `y` is in range when it is one of `x` -/
theorem SameShape.oob2 {y : Array (Array (Array γ))} {x : Array (Array (Array β))} (h : SameShape y x) (r c : ℕ)
    (hr : r < x.size) (hc : c < (x.getD r #[]).size) : oob2 y (r : ℤ) (c : ℤ) = false := by
  refine oob2_false _ _ _ (by omega) (by rw [h.1]; exact_mod_cast hr) (by omega) ?_
  rw [Int.toNat_natCast, h.2.1]
  exact_mod_cast hc

theorem oob2_nat (x : Array (Array β)) (r c : ℕ) (hr : r < x.size) (hc : c < (x.getD r #[]).size) :
    oob2 x (r : ℤ) (c : ℤ) = false := by
  refine oob2_false _ _ _ (by omega) (by exact_mod_cast hr) (by omega) ?_
  rw [Int.toNat_natCast]
  exact_mod_cast hc

end Hdc.SafeSpi
