import Hdc.PySafeT
import Hdc.PyNpT
import Hdc.Lemmas.SafeBasic
import Hdc.Lemmas.SafeSimN
import Hdc.Lemmas.GenNum
import Mathlib.Algebra.Order.Ring.Rat
import Mathlib.Tactic.Linarith
/-
SafeMk  Kernel-independent counting facts for the proofs that the flags of the instrumented Mann-Kendall kernels
(Hdc/Props/SafeMkSens.lean, SafeMkVariance.lean) stay false: the number of pairs `tri m = m (m - 1) / 2`, the length
`int(n * (n - 1) / 2)` of the slope buffer, and the counting invariant `CInv` of the double loop
`for i in range(n - 1): for j in range(i + 1, n): d[ix] = ..; ix += 1`.  Nothing here mentions a generated program.
-/
namespace Hdc.SafeMk
open Hdc Hdc.PyNpT

/-- the number of pairs `i < j` among `m` cells -/
def tri : ℕ → ℕ
  | 0 => 0
  | m + 1 => tri m + m

theorem two_tri (m : ℕ) : (2 : ℤ) * (tri m : ℤ) = (m : ℤ) * ((m : ℤ) - 1) := by
  induction m with
  | zero => simp [tri]
  | succ k ih =>
    simp only [tri]
    push_cast
    linarith [ih]

/-- `nd = int(n * (n - 1) / 2)` is the number of pairs -/
theorem tdiv_eq_tri (n : ℕ) : Int.tdiv ((n : ℤ) * ((n : ℤ) - 1)) 2 = (tri n : ℤ) := by
  rw [← two_tri n]
  exact Int.mul_tdiv_cancel_left _ (by decide)

/-- the pairs among the last `n - p` cells: those that start at cell `p`, and the pairs among the last `n - (p + 1)` -/
theorem tri_sub (n p : ℕ) (h : p < n) : tri (n - p) = tri (n - (p + 1)) + (n - (p + 1)) := by
  have : n - p = (n - (p + 1)) + 1 := by omega
  rw [this, tri]

theorem size_npFull {γ : Type} (n : ℤ) (v : γ) : (npFull n v).size = n.toNat := by
  simp [npFull]

/-- the allocation `d = np.ones(int(n * (n - 1) / 2))`: the length is not negative, one cell per pair -/
theorem negLen_nd (n : ℕ) : negLen (Int.tdiv ((n : ℤ) * ((n : ℤ) - 1)) 2) = false := by
  rw [tdiv_eq_tri]; exact negLen_eq_false (by omega)

/-- the counting invariant of the double loop: the buffer of `sz` cells has one cell per pair of the `n` cells;
    `ix` pairs are written, `k` pairs of the current row and all pairs among the last `m` cells are still to come -/
structure CInv (n m : ℕ) (k : ℤ) (sz : ℕ) (ix : ℤ) : Prop where
  size : sz = tri n
  nonneg : 0 ≤ ix
  knn : 0 ≤ k
  count : ix + k + (tri m : ℤ) = (tri n : ℤ)

/-- `ix = 0; d = np.ones(nd)` -/
theorem CInv.init {γ : Type} (n : ℕ) (v : γ) :
    CInv n (n - 0) 0 (npFull (Int.tdiv ((n : ℤ) * ((n : ℤ) - 1)) 2) v).size 0 := by
  refine ⟨?_, le_refl _, le_refl _, by simp⟩
  rw [size_npFull, tdiv_eq_tri]; simp

theorem CInv.cast {n m m' sz sz' : ℕ} {k k' ix : ℤ} (h : CInv n m k sz ix) (hm : m' = m) (hk : k' = k)
    (hs : sz' = sz) : CInv n m' k' sz' ix := by
  subst hm hk hs; exact h

theorem CInv.enter {n p sz : ℕ} {ix : ℤ} (h : CInv n (n - p) 0 sz ix) (hp : p < n) :
    CInv n (n - (p + 1)) ((n : ℤ) - ((p : ℤ) + 1)) sz ix := by
  refine ⟨h.size, h.nonneg, by omega, ?_⟩
  have := h.count
  rw [tri_sub n p hp] at this
  push_cast at this ⊢
  omega

/-- `d[ix] = ..` is inside the buffer as long as a pair of the current row is to come -/
theorem CInv.lt {n m sz : ℕ} {k ix : ℤ} (h : CInv n m k sz ix) (hk : 1 ≤ k) : 0 ≤ ix ∧ ix < (sz : ℤ) := by
  have := h.count
  have := h.size
  have := h.nonneg
  omega

/-- `d[ix] = ..; ix += 1` -/
theorem CInv.step {n m sz sz' : ℕ} {k k' ix : ℤ} (h : CInv n m k sz ix) (hk : 1 ≤ k) (hk' : k' = k - 1)
    (hs : sz' = sz) : CInv n m k' sz' (ix + 1) := by
  subst hk' hs
  refine ⟨h.size, by have := h.nonneg; omega, by omega, ?_⟩
  have := h.count
  omega

/-- the toy instance of `MKFns ℚ` used by the examples (the one of Hdc/Props/GenNumMkVar.lean) -/
def Fq : MKFns ℚ := ⟨id, id, 1 / 2, 2, fun i => (i : ℚ)⟩

end Hdc.SafeMk
