import Hdc.Lemmas.SafeBase
import Hdc.Lemmas.PyNpT
import Mathlib.Tactic.Linarith
/-
Sizes of the arrays the NumPy combinators of Hdc/PyNpT.lean produce, and the bounds of the row-major positions `flat2` /
`flat3`, as the `safe_<kernel>_ok` proofs of the grouped / zonal means need them.  Kernel independent.
-/
namespace Hdc.SafeLemmas
open Hdc.PyNpT

@[simp] theorem size_npEqMask (a : Array Int) (k : Int) : (npEqMask a k).size = a.size := by
  simp [npEqMask]

@[simp] theorem size_npFull {γ : Type} (n : Int) (v : γ) : (npFull n v).size = n.toNat := by
  simp [npFull]

theorem ax_of_nonneg (n i : Int) (h : 0 ≤ i) : ax n i = i := by
  have : ¬ i < 0 := by omega
  simp [ax, this]

/-- `a[i, j]` with both indices inside their axes lies inside the `d0 * d1` cells -/
theorem flat2_bound (d0 d1 i j : Int) (hi : 0 ≤ i) (hi' : i < d0) (hj : 0 ≤ j) (hj' : j < d1) :
    0 ≤ flat2 d0 d1 i j ∧ flat2 d0 d1 i j < d0 * d1 := by
  simp only [flat2, ax_of_nonneg _ _ hi, ax_of_nonneg _ _ hj]
  constructor
  · nlinarith
  · nlinarith

/-- `a[i, j, k]` with the three indices inside their axes lies inside the `d0 * d1 * d2` cells -/
theorem flat3_bound (d0 d1 d2 i j k : Int) (hi : 0 ≤ i) (hi' : i < d0) (hj : 0 ≤ j) (hj' : j < d1)
    (hk : 0 ≤ k) (hk' : k < d2) :
    0 ≤ flat3 d0 d1 d2 i j k ∧ flat3 d0 d1 d2 i j k < d0 * d1 * d2 := by
  obtain ⟨h1, h2⟩ := flat2_bound d0 d1 i j hi hi' hj hj'
  simp only [flat2, ax_of_nonneg _ _ hi, ax_of_nonneg _ _ hj] at h1 h2
  simp only [flat3, ax_of_nonneg _ _ hi, ax_of_nonneg _ _ hj, ax_of_nonneg _ _ hk]
  constructor
  · nlinarith
  · nlinarith

open Hdc.Gen.Safe in
/-- the checks of `a[i, j]`: both indices inside their axes, the flat buffer holds the `d0 * d1` cells -/
theorem or_oob2 {b : Bool} {d0 d1 i j : Int} {n : Nat} (hb : b = false) (hi : 0 ≤ i ∧ i < d0)
    (hj : 0 ≤ j ∧ j < d1) (hn : d0 * d1 ≤ n) :
    (b || oob d0 i || oob d1 j || oobFlat n (flat2 d0 d1 i j)) = false := by
  obtain ⟨h0, h1⟩ := flat2_bound d0 d1 i j hi.1 hi.2 hj.1 hj.2
  exact or_eq_false (or_oob (or_oob hb hi) hj) ((oobFlat_eq_false_iff n _).mpr ⟨h0, lt_of_lt_of_le h1 hn⟩)

open Hdc.Gen.Safe in
/-- the checks of `a[i, j, k]` -/
theorem or_oob3 {b : Bool} {d0 d1 d2 i j k : Int} {n : Nat} (hb : b = false) (hi : 0 ≤ i ∧ i < d0)
    (hj : 0 ≤ j ∧ j < d1) (hk : 0 ≤ k ∧ k < d2) (hn : d0 * d1 * d2 ≤ n) :
    (b || oob d0 i || oob d1 j || oob d2 k || oobFlat n (flat3 d0 d1 d2 i j k)) = false := by
  obtain ⟨h0, h1⟩ := flat3_bound d0 d1 d2 i j k hi.1 hi.2 hj.1 hj.2 hk.1 hk.2
  exact or_eq_false (or_oob (or_oob (or_oob hb hi) hj) hk)
    ((oobFlat_eq_false_iff n _).mpr ⟨h0, lt_of_lt_of_le h1 hn⟩)

end Hdc.SafeLemmas
