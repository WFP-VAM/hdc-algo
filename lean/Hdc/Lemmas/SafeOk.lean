import Hdc.Lemmas.GenNumWcvTac
import Hdc.Lemmas.SmoothGcvShift
import Hdc.Lemmas.SafeWcv
import Hdc.Props.SafeWs2d
/-
SafeOk  Facts for "under the contract the flag of the instrumented `ws2dwcv(robust=True)` is false"
(Hdc/Props/SafeWs2dwcvOk.lean): the model's chain `grun` (Hdc/Lemmas/SmoothGcv.lean) and the invariant `OuterInv` of the
refinement proof (Hdc/Lemmas/GenNumWcv.lean) are reused; here: what they give for the FLAG (sizes, positive divisors, the
contract of every `ws2d` call with the re-weighted `w * r_weights`).
-/
namespace Hdc.SafeOk
open Hdc Hdc.C01 Hdc.Gen.NumKernels Hdc.PyNpW Hdc.GenNum Hdc.Smooth Hdc.SafeL

set_option linter.unusedSectionVars false
set_option linter.unusedVariables false

variable {α : Type} [Field α] [LinearOrder α] [IsStrictOrderedRing α]

/-- a non-negative list with a positive cell has a positive sum -/
theorem sumF_pos_of_twoPos (l : List α) (h0 : ∀ x ∈ l, 0 ≤ x) (h2 : TwoPos l) : 0 < sumF l := by
  obtain ⟨i, j, hij, hj, hi0, _⟩ := h2
  rw [Smooth.sumF_eq]
  have hi : i < l.length := by omega
  rw [fn_of_lt l i hi] at hi0
  exact lt_of_lt_of_le hi0 (List.single_le_sum h0 _ (List.getElem_mem hi))

/-- once the model's chain has failed it stays failed -/
theorem grun_none_le (G : GFns α) (y w de lp : List α) (robust : Bool) (n : α) (k j : ℕ) (st : GState α)
    (hkj : k ≤ j) (h : grun G y w de lp robust n k 0 st = none) : grun G y w de lp robust n j 0 st = none := by
  obtain ⟨d, rfl⟩ := Nat.exists_eq_add_of_le hkj
  induction d with
  | zero => exact h
  | succ d ih => rw [← Nat.add_assoc, grun_succ_last, ih (Nat.le_add_right _ _)]; rfl

/-- with the flag `unbound` up, the invariant of the robust loop says that the model's chain has failed -/
theorem outerInv_unbound {G : GFns α} {y w de lp : List α} {robust : Bool} {n : α} {p : ℕ}
    {yt : Array α} {set : Bool} {rwts : Array α} {rwset : Bool} {z rw : Array α}
    {rg : Array (Array α)} {gt : Array α}
    (h : OuterInv G y w de lp robust n p true yt set rwts rwset z rw rg gt) :
    grun G y w de lp robust n p 0 (gs0 G y) = none := by
  unfold OuterInv at h
  cases hg : grun G y w de lp robust n p 0 (gs0 G y) with
  | none => rfl
  | some st => rw [hg] at h; exact absurd h.1 (by simp)

/-- the invariants of the model's robust loop after `p` iterations (`robust = True`) -/
theorem grun_facts (G : GFns α) (Y w de lp : List α) (n : α) (p : ℕ) (st : GState α)
    (hwl : w.length = Y.length) (h2 : TwoPos w)
    (h : grun G Y w de lp true n p 0 (gs0 G Y) = some st) :
    RInv lp Y.length st ∧ TwoPos (mul2 w st.2.1) := by
  refine ⟨grun_rinv G de lp n hwl p 0 _ st (rinv_gstate0 G lp Y) h, ?_⟩
  apply grun_twoPos G de lp n p 0 _ st _ h
  show TwoPos (mul2 w (Y.map fun _ => (nat 1 : α)))
  rw [mul2_ones' w Y hwl]; exact h2

/-- the validity weights of a series with two valid cells have two positive cells -/
theorem twoPos_weights (miss : α → Bool) (y : List α) (hv : 2 ≤ countValid miss y) : TwoPos (weightsOf miss y) := by
  obtain ⟨i, k, hik, hk, h1, h2⟩ := exists_two_valid miss y hv
  refine ⟨i, k, hik, by simpa using hk, ?_, ?_⟩
  · rw [fn_weightsOf miss y i (by omega), h1]; simp
  · rw [fn_weightsOf miss y k hk, h2]; simp

/-- `robust_gcv` has one entry per finished iteration -/
theorem rg_size {Y w : List α} {p : ℕ} {st : GState α} {yt : Array α} {set : Bool} {rwts : Array α} {rwset : Bool}
    {z rw : Array α} {rg : Array (Array α)} {gt : Array α}
    (hok : OuterOk Y w p st yt set rwts rwset z rw rg gt) : rg.size = p := by
  have := congrArg List.length hok.hist
  simp only [List.length_map, Array.length_toList] at this
  rw [this, hok.hlen]

/-- the row `robust_gcv[1]` -/
theorem rdA_mem_one {β : Type} (rg : Array (Array β)) (hk : 1 < rg.size) : rdA rg 1 ∈ rg.toList := by
  rw [show (1 : ℤ) = ((1 : ℕ) : ℤ) from rfl, rdA_eq]
  simp only [List.getD_eq_getElem?_getD, List.getElem?_eq_getElem (show 1 < rg.toList.length by simpa using hk),
    Option.getD_some]
  exact List.getElem_mem _

/-- `robust_gcv.append(best_gcv)` keeps every row a pair -/
theorem rows_push {β : Type} {rg : Array (Array β)} {gt : Array β} (hg : ∀ g ∈ rg.toList, g.size = 2) (hgt : gt.size = 2) :
    ∀ g ∈ (rg.push gt).toList, g.size = 2 := by
  intro g h
  rw [Array.toList_push, List.mem_append, List.mem_singleton] at h
  rcases h with h | rfl
  · exact hg g h
  · exact hgt

/-! ### the robust loop of `ws2dwcv` / `ws2dwcvp` (`robust = True`), on the arrays of the program -/

/-- what the statements in front of the robust loop and the contract establish, once per kernel: the cleaned `y`, `w`, `d_eigs`,
    `n` of the program are the model's, more than four cells are valid, every grid value is positive, the model's chain of four
    iterations is defined and `gamma.sum() ≠ w_temp.sum()` for every λ it sweeps -/
structure RobustCtx (G : GFns α) (miss : α → Bool) (y lp : List α) (ya wa dea : Array α) (na : α) (ma : ℤ) : Prop where
  bound : Bound (cleanOf miss y) (weightsOf miss y) (deigs G y.length) (sumF (weightsOf miss y)) ya wa dea na ma
  valid : 4 < countValid miss y
  pow : ∀ s ∈ lp, 0 < s
  run : (grun G (cleanOf miss y) (weightsOf miss y) (deigs G y.length) lp true (sumF (weightsOf miss y)) 4 0
    (gs0 G (cleanOf miss y))).isSome = true
  den : ∀ k < 4, ∀ st, grun G (cleanOf miss y) (weightsOf miss y) (deigs G y.length) lp true (sumF (weightsOf miss y)) k 0
      (gs0 G (cleanOf miss y)) = some st →
    ∀ s ∈ iterLams lp k st.2.2, sumF (gammaOf (mul2 (weightsOf miss y) st.2.1) (deigs G y.length) s)
      ≠ sumF (mul2 (weightsOf miss y) st.2.1)

/-- invariant of the robust loop after `p` iterations, state `(bad, unbound, y_temp, y_temp_set, robust_weights,
    robust_weights_set, z, r_weights, robust_gcv, gcv_temp)`: both flags are down, the state is the model's, `gcv_temp` and every
    row of `robust_gcv` are pairs -/
structure OuterS (G : GFns α) (miss : α → Bool) (y lp : List α) (p : ℕ) (b ub : Bool) (yt : Array α) (set : Bool)
    (rwts : Array α) (rwset : Bool) (z rw : Array α) (rg : Array (Array α)) (gt : Array α) : Prop where
  flag : b = false
  down : ub = false
  inv : OuterInv G (cleanOf miss y) (weightsOf miss y) (deigs G y.length) lp true (sumF (weightsOf miss y)) p ub yt set
    rwts rwset z rw rg gt
  pair : gt.size = 2
  rows : ∀ g ∈ rg.toList, g.size = 2

/-- invariant of a sweep after the λ values `pre`, state `(bad, y_temp, y_temp_set, z, gcv_temp, …)`; `ub`, `rw`, `gt0`, `yt0`,
    `set0` are `unbound`, `r_weights`, `gcv_temp`, `y_temp`, `y_temp_set` of the enclosing iteration -/
structure SweepSt (G : GFns α) (miss : α → Bool) (y : List α) (ub : Bool) (rw gt0 yt0 : Array α) (set0 : Bool)
    (pre : List α) (b : Bool) (yt : Array α) (set : Bool) (z gt : Array α) : Prop where
  flag : b = false
  ok : ub = false → SweepOk G (cleanOf miss y) (mul2 (weightsOf miss y) rw.toList) (deigs G y.length) (bestOf gt0 yt0 set0)
    pre gt yt set z
  pair : gt.size = 2

section
variable {G : GFns α} {miss : α → Bool} {y lp : List α} {ya wa dea : Array α} {na : α} {ma : ℤ}
  {p : ℕ} {b ub : Bool} {yt : Array α} {set : Bool} {rwts : Array α} {rwset : Bool} {z rw : Array α}
  {rg : Array (Array α)} {gt : Array α}

theorem RobustCtx.len (C : RobustCtx G miss y lp ya wa dea na ma) : 5 ≤ y.length :=
  le_trans C.valid (countValid_le_length _ y)

theorem RobustCtx.ysz (C : RobustCtx G miss y lp ya wa dea na ma) : ya.size = y.length := by
  rw [← Array.length_toList, C.bound.ya, cleanOf_length]

theorem RobustCtx.wsz (C : RobustCtx G miss y lp ya wa dea na ma) : wa.size = y.length := by
  rw [← Array.length_toList, C.bound.wa, weightsOf_length]

theorem RobustCtx.dsz (C : RobustCtx G miss y lp ya wa dea na ma) : dea.size = ya.size := by
  rw [C.ysz, ← Array.length_toList, C.bound.de]; simp [deigs]

/-- `gamma.sum() / n`: `n` is the number of valid cells -/
theorem RobustCtx.n_ne (C : RobustCtx G miss y lp ya wa dea na ma) : eqv na (nat 0) = false := by
  rw [C.bound.n, sumF_weightsOf]; exact eqv_zero_false _ (Nat.cast_ne_zero.2 (by have := C.valid; omega))

/-- `np.max(y_valid)`, `np.min(y_valid)`: `y[w != 0]` is not empty when a cell is valid -/
theorem RobustCtx.sel (C : RobustCtx G miss y lp ya wa dea na ma) :
    emptyArr (npSelect ya (npMap (fun e => !eqv e (nat 0)) wa)).size = false := by
  obtain ⟨i, j, hij, hj, hpos, _⟩ := twoPos_weights miss y (by have := C.valid; omega)
  have hi : i < (weightsOf miss y).length := by omega
  refine emptyArr_eq_false_iff.2 fun h0 => ?_
  rw [← Array.length_toList, toList_npSelect, toList_npMap, C.bound.ya, C.bound.wa, List.length_map,
    List.length_eq_zero_iff, List.filter_eq_nil_iff] at h0
  have hmem : ((cleanOf miss y)[i]'(by simpa using hi),
      (List.map (fun e => !eqv e (nat 0)) (weightsOf miss y))[i]'(by simpa using hi)) ∈
      (cleanOf miss y).zip (List.map (fun e => !eqv e (nat 0)) (weightsOf miss y)) := by
    rw [List.mem_iff_getElem]
    exact ⟨i, by simpa using hi, by simp⟩
  have := h0 _ hmem
  rw [fn_of_lt _ i hi] at hpos
  simp only [List.getElem_map, Bool.not_eq_true', Bool.not_eq_false, eqv_zero_iff] at this
  exact hpos.ne' this

/-- the invariant of the robust loop fixes the sizes of `robust_gcv`, `r_weights`, `z`, `y_temp` -/
theorem OuterS.sizes (h : OuterS G miss y lp p b ub yt set rwts rwset z rw rg gt) :
    rg.size = p ∧ rw.size = y.length ∧ z.size = y.length ∧ (set = true → yt.size = y.length) := by
  obtain ⟨st, -, hok⟩ := h.inv.ok h.down
  exact ⟨rg_size hok, by simpa using hok.rwlen, by simpa using hok.zlen, by simpa using hok.ylen⟩

/-- entry of a sweep, once the checks in front of it are passed -/
theorem OuterS.sweep_init (h : OuterS G miss y lp p b ub yt set rwts rwset z rw rg gt) {b' : Bool} (hb : b' = false) :
    SweepSt G miss y ub rw gt yt set [] b' yt set z gt := by
  obtain ⟨st, -, hok⟩ := h.inv.ok h.down
  exact ⟨hb, fun _ => SweepOk.init _ _ _ _ _ _ _ _ hok.ylen hok.zlen, h.pair⟩

/-- one λ of a sweep: the re-weighted `w_temp = w * r_weights` has the length of the data and a non-zero sum, the call
    `ws2d(y, s, w_temp)` is inside the contract of the smoother and returns the model's curve, `gamma.sum() ≠ w_temp.sum()` is the
    contract's hypothesis for this iteration, and `gcv_score` is the model's score -/
theorem sweep_call (C : RobustCtx G miss y lp ya wa dea na ma) {pref : List ℤ} (hp : pref.length < 4)
    (h : OuterS G miss y lp pref.length b ub yt set rwts rwset z rw rg gt) {lams pre suf : List α} {cu : α}
    (hs : lams = pre ++ cu :: suf) (hlams : lams = if 1 < pref.length then [rd (rdA rg 1) 1] else lp) {wt : Array α}
    (hwte : wt = mulA wa rw) :
    wt.size = ya.size ∧ (mul2 (weightsOf miss y) rw.toList).length = (cleanOf miss y).length ∧
    (Gen.Safe.ws2d ya cu wt).2 = false ∧ npSum wt ≠ 0 ∧ SafeWcv.trOf wt dea cu ≠ npSum wt ∧
    (Gen.Safe.ws2d ya cu wt).1 = (ws2d (cleanOf miss y) cu (mul2 (weightsOf miss y) rw.toList)).toArray ∧
    SafeWcv.gcvOf G ya wt dea (Gen.Safe.ws2d ya cu wt).1 cu
      = gsc G (cleanOf miss y) (mul2 (weightsOf miss y) rw.toList) (deigs G y.length) cu := by
  subst hwte
  obtain ⟨st, hst, hok⟩ := h.inv.ok h.down
  obtain ⟨hsc, hz, hwl⟩ := sweep_arr C.bound h.inv h.down cu
  have h4 := C.valid
  have hlen : (cleanOf miss y).length = y.length := cleanOf_length _ _
  obtain ⟨hRI, hTP⟩ := grun_facts G _ _ _ _ _ _ st (by simp) (twoPos_weights _ _ (by omega)) hst
  have hcm : cu ∈ iterLams lp pref.length st.2.2 := by
    rw [← iterLams_eq lp _ _ rg hok.hist hok.hlen, ← hlams]; exact SafeWcv.mem_of_split hs
  have hrw : rw.toList = st.2.1 := hok.rweq
  have hwt := toList_mulA C.bound.wa rw
  rw [← SafeWs2d.safe_ws2d_fst] at hz
  refine ⟨by rw [← Array.length_toList, hwt, hwl, C.ysz, hlen], hwl, ?_, ?_, ?_, hz, by rw [SafeWcv.scoreOf_eq]; exact hsc⟩
  · have := SafeWs2d.safe_ws2d_ok_c01 (cleanOf miss y) (mul2 (weightsOf miss y) rw.toList) cu (inContract_mul2 _ _ _ cu (by have := C.len; omega) (by simp)
      (weightsOf_nonneg miss y) (by simpa using hok.rwlen) (by rw [hrw]; exact hRI.2.1)
      (C.pow cu (iterLams_subset _ _ _ hRI.2.2.2 cu hcm)) (by rw [hrw]; exact hTP))
    rw [← C.bound.ya, ← hwt] at this
    simpa using this
  · rw [show npSum (mulA wa rw) = sumF (mulA wa rw).toList from rfl, hwt, hrw]
    exact (sumF_pos_of_twoPos _ (mul2_nonneg _ _ (weightsOf_nonneg miss y) hRI.2.1) hTP).ne'
  · rw [trOf_eq, show npSum (mulA wa rw) = sumF (mulA wa rw).toList from rfl, hwt, C.bound.de, hrw]
    exact C.den _ hp st hst cu hcm

/-- after the robust loop (four iterations done): `robust_gcv[1][1]` exists and is a positive λ of the grid; `robust_weights =
    w * r_weights` has the length of the data and, with the cleaned data, is inside the contract of `ws2d` for every positive λ -/
theorem robust_exit (C : RobustCtx G miss y lp ya wa dea na ma)
    (h : OuterS G miss y lp 4 b ub yt set rwts rwset z rw rg gt) :
    rg.size = 4 ∧ (rdA rg 1).size = 2 ∧ 0 < rd (rdA rg 1) 1 ∧ rwts.size = ya.size ∧
      ∀ lam : α, 0 < lam → SafeWs2d.Contract ya.toList rwts.toList lam := by
  obtain ⟨st, hst, hok⟩ := h.inv.ok h.down
  have h4 := C.valid
  have h5 := C.len
  have hlen : (cleanOf miss y).length = y.length := cleanOf_length _ _
  obtain ⟨hRI, hTP⟩ := grun_facts G _ _ _ _ _ _ st (by simp) (twoPos_weights _ _ (by omega)) hst
  have hrg := rg_size hok
  obtain ⟨-, hrwt⟩ := hok.rwts (by omega)
  have hrl : st.2.1.length = y.length := by rw [hRI.1, hlen]
  have hl : 1 < st.2.2.length := by rw [hok.hlen]; omega
  have hlm : rd (rdA rg 1) 1 ∈ lp := by
    have := hist_lam st.2.2 rg ⟨nat 0, nat 0, none⟩ hok.hist 1 hl
    rw [show ((1 : ℕ) : ℤ) = 1 from rfl] at this
    rw [this]
    apply hRI.2.2.2
    simp only [List.getD_eq_getElem?_getD, List.getElem?_eq_getElem hl, Option.getD_some]
    exact List.getElem_mem _
  refine ⟨hrg, h.rows _ (rdA_mem_one _ (by rw [hrg]; omega)), C.pow _ hlm, ?_, fun lam hlam => ?_⟩
  · rw [← Array.length_toList, hrwt, mul2_length, weightsOf_length, hrl, Nat.min_self, C.ysz]
  · rw [C.bound.ya, hrwt]
    exact SafeWs2d.Contract.of_c01 (inContract_mul2 _ _ _ lam (by rw [hlen]; omega) (by simp)
      (weightsOf_nonneg miss y) (by rw [hlen]; exact hrl) hRI.2.1 hlam hTP)

/-- `y_temp` unbound after a sweep of an iteration before the fourth: the model's chain of four iterations is not defined -/
theorem unset_absurd (C : RobustCtx G miss y lp ya wa dea na ma) {pref : List ℤ}
    (h : OuterS G miss y lp pref.length b ub yt set rwts rwset z rw rg gt) {lams : List α} {b' : Bool}
    {gt' yt' z' : Array α} {set' : Bool} (hsw : SweepSt G miss y ub rw gt yt set lams b' yt' set' z' gt')
    (hlams : lams = if 1 < pref.length then [rd (rdA rg 1) 1] else lp) (hset : (!set') = true)
    (hp : pref.length < 4) : False := by
  have hnone := outerInv_unbound (OuterInv.unset_arr (cur := 0) h.inv hlams hsw.ok rfl hset #[] false #[] #[])
  have hrun := C.run
  rw [grun_none_le _ _ _ _ _ _ _ _ 4 _ (by rw [List.length_append, List.length_singleton]; omega) hnone] at hrun
  exact absurd hrun (by simp)

end

end Hdc.SafeOk
