import Hdc.Lemmas.GenNumWcv
import Hdc.Lemmas.SafeWcv
import Hdc.Lemmas.SafeFixed
/-
SafeOkP  Facts for "under the contract the flag of the instrumented `ws2dwcvp` is false" (Hdc/Props/SafeWs2dwcvpOk.lean):
the asymmetric re-weighting `ww = robust_weights * wa` of the loop `for _ in range(10)` on ARRAYS (as the generated program
writes it: two mask stores into `wa`, then the product) stays inside the contract of `ws2d` for `0 < p < 1`; the sizes of the
slice operations `znew[0:m] = …`, `z[0:m] = znew[0:m]`; the flags `badSlice` / `sliceLenNe` on full slices.
Nothing here mentions the generated kernel.
-/
namespace Hdc.SafeOkP
open Hdc Hdc.C01 Hdc.Gen.NumKernels Hdc.PyNpW Hdc.GenNum Hdc.Smooth Hdc.SafeL Hdc.SafeWcv

set_option linter.unusedSectionVars false
set_option linter.unusedVariables false

theorem size_npSetSliceW {β : Type} (a b : Array β) (lo hi : ℤ) : (npSetSlice a lo hi b).size = a.size := by
  simp [npSetSlice]

theorem size_npSlice_nat {β : Type} (b : Array β) (k : ℕ) : (npSlice b 0 (k : ℤ)).size = min b.size k := by
  have hk : ¬ ((k : ℤ) < 0) := by omega
  simp only [npSlice, sliceIx, hk, if_false, Array.size_extract, Int.toNat_natCast, Int.toNat_zero,
    show ¬ ((0 : ℤ) < 0) by omega]
  omega

theorem badSlice_full (n : ℕ) : badSlice n 0 (n : ℤ) = false := by
  rw [badSlice_eq_false_iff]; omega

theorem sliceLenNe_full (n : ℕ) : sliceLenNe 0 (n : ℤ) n = false := by
  rw [sliceLenNe_eq_false_iff]; omega

variable {α : Type} [Field α] [LinearOrder α] [IsStrictOrderedRing α]

/-- `envelope = y > z; wa[envelope] = p; wa[~envelope] = 1 - p; ww = robust_weights * wa` stays inside the contract of
    `ws2d` when `0 < p < 1` -/
theorem pass_contract {ya w : Array α} {lam : α} (h : SafeWs2d.Contract ya.toList w.toList lam) (p : α)
    (hp0 : 0 < p) (hp1 : p < 1) (z wa : Array α) (hz : z.size = ya.size) (ha : wa.size = ya.size) :
    SafeWs2d.Contract ya.toList
      (npMap2 (fun a b => a * b) w (npMaskSet (npMaskSet wa (npMap2 (fun a b => decide (b < a)) ya z) p)
        (npMap (fun b => !b) (npMap2 (fun a b => decide (b < a)) ya z)) (nat 1 - p))).toList lam := by
  change SafeWs2d.Contract _ (mulA w (asymA p ya z wa)).toList _
  rw [ww_toList p w ya z wa hz ha]
  exact SafeFixed.contract_asym h p hp0 hp1 _ (by simpa using hz)

/-- its size -/
theorem size_ww (p : α) (w ya z wa : Array α) (hw : w.size = ya.size) (hz : z.size = ya.size) (ha : wa.size = ya.size) :
    (npMap2 (fun a b => a * b) w (npMaskSet (npMaskSet wa (npMap2 (fun a b => decide (b < a)) ya z) p)
      (npMap (fun b => !b) (npMap2 (fun a b => decide (b < a)) ya z)) (nat 1 - p))).size = ya.size := by
  simp only [size_npMap2, size_npMaskSet, size_npMap, hw, hz, ha, Nat.min_self]

end Hdc.SafeOkP
