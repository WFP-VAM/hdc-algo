import Hdc.Lemmas.GenNumOptv
import Hdc.Lemmas.SafeBasic
import Hdc.Props.SafeWs2d
/-
SafeOptv  Facts for "under the contract the flag of the instrumented `ws2doptv` is false" (Hdc/Props/SafeWs2doptv.lean; the
asymmetric kernels of Hdc/Props/SafeWs2doptvp*.lean use them too): the subscripts of the loops of the V-curve kernels are
in range, and the weight vector the kernel builds (`1` on valid cells, `0` on `nodata` cells) satisfies the contract of `ws2d` as soon
as two cells are valid (for `len y ≥ 3`: Hdc/Lemmas/SmoothBasic.lean states this for `len y ≥ 4`, the range of C01), so
every call `ws2d(y, λ, w)` with `λ > 0` of the kernel has its flag unset.
-/
namespace Hdc.SafeOptv
open Hdc Hdc.Gen.NumKernels Hdc.GenNum Hdc.SafeL
open Hdc.Ws2d (fnl)

set_option linter.unusedSectionVars false

/-! ### subscripts at a position of a `for` loop

The verification conditions record the position of `for cur in range(lo, hi)` as `pyRange lo hi = pref ++ cur :: suff`.
The bounds of the V-curve kernels are `n`, `n - 1`, `n - 2` for the length `n` of an array; the arithmetic is done here,
once, so that the proofs about the kernels do none in their (large) contexts. -/
section range
variable {pref suff : List ℤ} {cur : ℤ}

/-- `for cur in range(0, n)`: `a[cur]` for an array of `n` cells, or of `N ≥ n` cells -/
theorem oob_range (n : ℕ) (h : pyRange 0 n = pref ++ cur :: suff) {N : ℕ} (hN : n ≤ N := by exact le_rfl) :
    oob N cur = false := by
  have := pyRange_split _ _ _ _ _ h
  exact oob_false _ _ (by omega)

/-- `for cur in range(0, n - 1)`: `a[cur]`, `a[cur + 1]` for an array of `n` cells, `d[cur]` for one of `n - 1` cells -/
theorem oob_range_pred (n : ℕ) (h : pyRange 0 (n - 1) = pref ++ cur :: suff) :
    oob n cur = false ∧ oob n (cur + 1) = false ∧ oob (n - 1) cur = false := by
  have := pyRange_split _ _ _ _ _ h
  simp only [oob_eq_false_iff]
  omega

/-- `for cur in range(0, n - 2)`: `d[cur]`, `d[cur + 1]` for an array of `n - 1` cells -/
theorem oob_range_pred2 (n : ℕ) (h : pyRange 0 (n - 2) = pref ++ cur :: suff) :
    oob (n - 1) cur = false ∧ oob (n - 1) (cur + 1) = false := by
  have := pyRange_split _ _ _ _ _ h
  simp only [oob_eq_false_iff]
  omega

/-- `for cur in range(1, n - 1)`: `cur` is a position of an array of `n - 1` cells -/
theorem oob_range_one (n : ℕ) (h : pyRange 1 (n - 1) = pref ++ cur :: suff) :
    oob (n - 1) cur = false ∧ 0 ≤ cur ∧ cur < (n : ℤ) - 1 := by
  have := pyRange_split _ _ _ _ _ h
  simp only [oob_eq_false_iff]
  omega

/-- a position of an array of `n - 1` cells, as the search for the minimum of the V-curve keeps it -/
theorem oob_pred {n : ℕ} {k : ℤ} (h : 0 ≤ k ∧ k < (n : ℤ) - 1) : oob (n - 1) k = false :=
  oob_false _ _ (by omega)

theorem oob_zero {n : ℕ} (h : 1 ≤ n) : oob n 0 = false :=
  oob_false _ _ (by omega)

/-- a grid of two entries or more: `llas[0]`, `llas[1]`, `v[0]`, and the start `k = 0` of that search -/
theorem oob_grid {n : ℕ} (h : 2 ≤ n) :
    oob n 0 = false ∧ oob n 1 = false ∧ oob (n - 1) 0 = false ∧ (0 : ℤ) ≤ 0 ∧ (0 : ℤ) < (n : ℤ) - 1 := by
  simp only [oob_eq_false_iff]
  omega

end range

variable {α : Type} [Field α] [LinearOrder α] [IsStrictOrderedRing α]

/-- the divisor `log(10) * (llas[1] - llas[0])` of the V-curve is not zero -/
theorem divisor_ok {c : α} {llas : List α} (hc : c ≠ 0) (hstep : fnl llas 1 ≠ fnl llas 0) :
    eqv (c * (rd llas.toArray 1 - rd llas.toArray 0)) (nat 0) = false := by
  rw [rd_of_eq _ 1 1 rfl, rd_of_eq _ 0 0 rfl, av_list, av_list]
  exact eqv_zero_false _ (mul_ne_zero hc (sub_ne_zero.2 hstep))

/-- two valid cells have the weight `1` -/
theorem weightsOf_two_pos (miss : α → Bool) (y : List α) (hv : 2 ≤ countValid miss y) :
    ∃ i j, i < j ∧ j < y.length ∧ 0 < C01.fn (weightsOf miss y) i ∧ 0 < C01.fn (weightsOf miss y) j := by
  obtain ⟨i, j, hij, hj, h1, h2⟩ := Smooth.exists_two_valid miss y hv
  refine ⟨i, j, hij, hj, ?_, ?_⟩
  · rw [Smooth.fn_weightsOf miss y i (by omega), h1]; simp
  · rw [Smooth.fn_weightsOf miss y j hj, h2]; simp

/-- the contract of `ws2d` for the raw data with the validity weights -/
theorem contract_raw (miss : α → Bool) (y : List α) (lam : α) (hn : 3 ≤ y.length) (hlam : 0 < lam)
    (hv : 2 ≤ countValid miss y) : SafeWs2d.Contract y (weightsOf miss y) lam where
  len := hn
  wlen := by simp
  lam_pos := hlam
  w_nonneg := Smooth.weightsOf_nonneg miss y
  two_pos := by simpa using weightsOf_two_pos miss y hv

theorem ws2d_call_size (y w : Array α) (lam : α) : (Gen.Safe.ws2d y lam w).1.size = y.size := by
  rw [SafeWs2d.safe_ws2d_fst, C01gen.gen_ws2d_size_array]

end Hdc.SafeOptv
