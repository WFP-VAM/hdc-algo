import Hdc.Lemmas.SafeOptv
import Hdc.PySafeV
import Hdc.PyNpV
/-
SafeOptvp  Facts for "under the contract the flag of the instrumented `_ws2doptvp` / `ws2doptvp` / `ws2doptvplc` is false"
(Hdc/Props/SafeWs2doptvp*.lean):

  * the re-weighting loop `wa[j] = p if y[j] > z[j] else 1 - p; ww[j] = w[j] * wa[j]` multiplies every weight by a POSITIVE
    factor when `0 < p < 1` (`Rew`), so `ww` satisfies the contract of `ws2d` whenever `w` does (`Rew.call_ok`: the
    analogue of `SafeOptv.contract_raw` for the asymmetric weights);
  * the checks of Hdc/PySafe.lean / Hdc/PySafeV.lean on the slices `a[0:len a]` and on stores into them (never flagged), and
    the sizes of the arrays the slice combinators of Hdc/PyNpV.lean return.

Nothing here mentions a generated V-curve kernel.
-/
namespace Hdc.SafeOptvp
open Hdc Hdc.Gen.NumKernels Hdc.GenNum Hdc.SafeL
open Hdc.Ws2dGen (av)
open Hdc.Ws2d (fnl)

set_option linter.unusedSectionVars false

theorem badSlice_full (n : ℕ) : badSlice n 0 n = false :=
  badSlice_eq_false_iff.2 ⟨le_refl _, Int.natCast_nonneg n, le_refl _⟩

theorem badStoreLen_full (n : ℕ) : PySafeV.badStoreLen 0 n n = false :=
  PySafeV.badStoreLen_eq_false_iff.2 (Int.sub_zero _)

theorem size_npRoundInto {β : Type} (rnd : β → β) (z out : Array β) :
    (PyNpV.npRoundInto rnd z out).size = out.size := by
  unfold PyNpV.npRoundInto
  exact PyNpV.size_npSetSlice_full _ _ _ rfl

section order
variable {α : Type} [Field α] [LinearOrder α] [IsStrictOrderedRing α]

/-- what `ws2d` needs of the first `n` cells of a weight vector (`n` observations): they exist, none is negative, two are
    positive -/
structure WOK (w : List α) (n : ℕ) : Prop where
  wlen : n ≤ w.length
  nonneg : ∀ i < n, 0 ≤ fnl w i
  two_pos : ∃ i j, i < j ∧ j < n ∧ 0 < fnl w i ∧ 0 < fnl w j

/-- the validity weights (`1` on valid cells, `0` on `nodata` cells) of a series with two valid cells -/
theorem WOK.raw {miss : α → Bool} {y : List α} (hv : 2 ≤ countValid miss y) : WOK (weightsOf miss y) y.length := by
  refine ⟨by simp, fun i hi => ?_, SafeOptv.weightsOf_two_pos miss y hv⟩
  rw [Hdc.Ws2d.fnl_of_lt _ _ (by simpa using hi)]
  exact Smooth.weightsOf_nonneg miss y _ (List.getElem_mem _)

/-- the first `q` cells of `ww` are the cells of `w` times a positive factor -/
def Rew (w : List α) (q : ℕ) (ww : Array α) : Prop := ∀ j < q, ∃ c, 0 < c ∧ av ww j = fnl w j * c

theorem Rew.init (w : List α) (ww : Array α) : Rew w 0 ww := fun j hj => by omega

/-- `wa[j] = c; ww[j] = w[j] * wa[j]` with a positive `c`, at a position of `for j in range(0, n)` -/
theorem Rew.step {w : List α} {n : ℕ} {wa ww : Array α} {pref suff : List ℤ} {cur : ℤ} {c : α}
    (h : Rew w pref.length ww) (hr : pyRange 0 n = pref ++ cur :: suff) (hw : ww.size = n) (ha : wa.size = n)
    (hc : 0 < c) : Rew w (pref ++ [cur]).length (wr ww cur (rd w.toArray cur * rd (wr wa cur c) cur)) := by
  obtain ⟨hcur, hlt⟩ := pyRange_split _ _ _ _ _ hr
  have hci : cur = (pref.length : ℤ) := by omega
  intro j hj
  rw [List.length_append, List.length_singleton] at hj
  by_cases hjq : j = pref.length
  · subst hjq
    refine ⟨c, hc, ?_⟩
    rw [av_wr_self _ cur _ _ hci (by omega), rd_of_eq _ cur _ hci, rd_of_eq _ cur _ hci,
      av_wr_self _ cur _ _ hci (by omega), av_list]
  · obtain ⟨c', hc', he⟩ := h j (by omega)
    exact ⟨c', hc', by rw [av_wr_ne _ cur _ j (by omega) (by omega), he]⟩

/-- the invariant when `for j in range(0, n)` is left -/
theorem Rew.exit {w : List α} {n : ℕ} {ww : Array α} (h : Rew w (pyRange 0 n).length ww) : Rew w n ww :=
  pyRange_done n ▸ h

theorem p1_pos {p : α} (h : p < 1) : 0 < (nat 1 : α) - p := by
  simpa [nat] using h

/-- the contract of `ws2d` for re-weighted weights -/
theorem Rew.contract {y w : List α} {ww : Array α} {lam : α} (h : Rew w y.length ww) (hn : 3 ≤ y.length)
    (hlam : 0 < lam) (hW : WOK w y.length) (hs : ww.size = y.length) : SafeWs2d.Contract y ww.toList lam where
  len := hn
  wlen := by simpa using hs
  lam_pos := hlam
  w_nonneg := by
    intro x hx
    obtain ⟨i, hi, rfl⟩ := List.getElem_of_mem hx
    have hi' : i < y.length := by simpa [hs] using hi
    obtain ⟨c, hc, he⟩ := h i hi'
    have hx : ww.toList[i] = av ww i := by
      rw [av_eq_fnl_toList, Hdc.Ws2d.fnl_of_lt _ _ hi]
    rw [hx, he]
    exact mul_nonneg (hW.nonneg i hi') hc.le
  two_pos := by
    have pos : ∀ k < y.length, 0 < fnl w k → 0 < fnl ww.toList k := fun k hk hp => by
      obtain ⟨c, hc, he⟩ := h k hk
      rw [← av_eq_fnl_toList, he]
      exact mul_pos hp hc
    obtain ⟨i, j, hij, hj, h1, h2⟩ := hW.two_pos
    exact ⟨i, j, hij, by simpa [hs] using hj, pos i (by omega) h1, pos j hj h2⟩

/-- every call `ws2d(y, λ, ww)` of the asymmetric V-curve kernels with a positive `λ` and re-weighted weights is safe -/
theorem Rew.call_ok {y w : List α} {ww : Array α} {lam : α} (hn : 3 ≤ y.length) (hW : WOK w y.length)
    (hlam : 0 < lam) (hs : ww.size = y.length) (h : Rew w y.length ww) :
    (Gen.Safe.ws2d y.toArray lam ww).2 = false := by
  simpa using SafeWs2d.safe_ws2d_ok y ww.toList lam (h.contract hn hlam hW hs)

end order

end Hdc.SafeOptvp
