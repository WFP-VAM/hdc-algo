/-
SafeSim  "The instrumented program IS the translated program plus a flag": a small relational logic for two `Id.run do`
programs that differ only by one extra mutable variable `bad : Bool` (always the FIRST component of the state tuples of
the `do` elaboration, because the translator declares it first).  Kernel independent; nothing here mentions a generated file.

`Rel Q x y`       the results of the two computations are related by `Q`
`DropBad s t`     the state `s = (bad, t)` of the instrumented loop and the state `t` of the original one
`safe_sim`        the tactic that walks through both programs in lock step (bind / for / if / pure); it never looks at the
                  conditions recorded in `bad`, so it does not depend on what is checked.
-/
namespace Hdc.SafeSim

def Rel {α β : Type} (Q : α → β → Prop) (x : Id α) (y : Id β) : Prop := Q x.run y.run

/-- the instrumented state is the original state with the flag in front -/
abbrev DropBad {τ : Type} (s : Bool × τ) (t : τ) : Prop := s.2 = t

/-- both loop bodies continue, or both stop, with related states -/
def StepRel {σ τ : Type} (R : σ → τ → Prop) : ForInStep σ → ForInStep τ → Prop
  | .yield a, .yield b => R a b
  | .done a, .done b => R a b
  | _, _ => False

theorem Rel.pure {α β : Type} {Q : α → β → Prop} {a : α} {b : β} (h : Q a b) :
    Rel Q (Pure.pure a) (Pure.pure b) := h

theorem Rel.pure_yield {τ : Type} {b : Bool} {t t' : τ} (h : t = t') :
    Rel (StepRel DropBad) (Pure.pure (ForInStep.yield (b, t))) (Pure.pure (ForInStep.yield t')) := h

theorem Rel.pure_done {τ : Type} {b : Bool} {t t' : τ} (h : t = t') :
    Rel (StepRel DropBad) (Pure.pure (ForInStep.done (b, t))) (Pure.pure (ForInStep.done t')) := h

theorem Rel.refl {α : Type} (x : Id α) : Rel Eq x x := rfl

theorem Rel.ite {α β : Type} {Q : α → β → Prop} (c : Prop) [Decidable c] {a b : Id α} {a' b' : Id β}
    (h1 : c → Rel Q a a') (h2 : ¬ c → Rel Q b b') :
    Rel Q (if c then a else b) (if c then a' else b') := by
  by_cases h : c
  · simpa [h] using h1 h
  · simpa [h] using h2 h

/-- sequencing after a statement that carries the flag (a loop) -/
theorem Rel.bind_drop {τ α β : Type} {Q : α → β → Prop} {x : Id (Bool × τ)} {y : Id τ}
    {k : Bool × τ → Id α} {k' : τ → Id β}
    (hx : Rel DropBad x y) (hk : ∀ (b : Bool) (t : τ), Rel Q (k (b, t)) (k' t)) :
    Rel Q (x >>= k) (y >>= k') := by
  have h : x.run.2 = y.run := hx
  show Q (k x.run).run (k' y.run).run
  rw [← h]
  exact hk x.run.1 x.run.2

/-- sequencing after a statement without the flag (the same on both sides) -/
theorem Rel.bind_eq {σ α β : Type} {Q : α → β → Prop} {x : Id σ} {k : σ → Id α} {k' : σ → Id β}
    (hk : ∀ s : σ, Rel Q (k s) (k' s)) : Rel Q (x >>= k) (x >>= k') := hk x.run

/-- a `for` loop whose body carries the flag -/
theorem Rel.forIn_drop {ι τ : Type} (l : List ι) {b0 : Bool} {t0 : τ}
    {f : ι → Bool × τ → Id (ForInStep (Bool × τ))} {g : ι → τ → Id (ForInStep τ)}
    (hstep : ∀ (i : ι) (b : Bool) (t : τ), Rel (StepRel DropBad) (f i (b, t)) (g i t)) :
    Rel DropBad (forIn l (b0, t0) f) (forIn l t0 g) := by
  induction l generalizing b0 t0 with
  | nil => exact rfl
  | cons i l ih =>
    have h := hstep i b0 t0
    simp only [Rel, StepRel] at h
    simp only [Rel, List.forIn_cons, Id.run_bind]
    generalize (f i (b0, t0)).run = u at h
    generalize (g i t0).run = v at h
    cases u with
    | done a =>
      cases v with
      | done a' => exact h
      | yield a' => exact h.elim
    | yield a =>
      cases v with
      | done a' => exact h.elim
      | yield a' =>
        obtain ⟨b, t⟩ := a
        have h' : t = a' := h
        subst h'
        exact ih

/-- the statement of every `safe_<kernel>_fst` theorem, as a relation -/
theorem fst_of_rel {α : Type} {x : Id (α × Bool)} {y : Id α} (h : Rel (fun a b => a.1 = b) x y) :
    x.run.1 = y.run := h

/-- lock-step walk through the instrumented and the original program -/
macro "safe_sim" : tactic => `(tactic|
  (apply fst_of_rel
   try dsimp only
   repeat' first
     | with_reducible exact Rel.pure rfl
     | with_reducible exact Rel.pure_yield rfl
     | with_reducible exact Rel.pure_done rfl
     | (with_reducible refine Rel.ite _ (fun _ => ?_) (fun _ => ?_))
     | ((with_reducible refine Rel.bind_drop ?_ (fun _ _ => ?_)) <;> try dsimp only)
     | ((with_reducible refine Rel.forIn_drop _ (fun _ _ _ => ?_)) <;> try dsimp only)
     | ((with_reducible refine Rel.bind_eq (fun _ => ?_)) <;> try dsimp only)))

end Hdc.SafeSim
