import Lean
/-
SafeSimN  A generic simulation argument for "the instrumented program is the translated program plus a flag".

The instrumented translations (`Hdc/Gen/Safe*.lean`) are `Id.run do` blocks that contain the statements of the ordinary
translation plus one mutable variable `bad : Bool`, declared first.  `do`-notation threads the mutable variables of a
loop as a tuple in declaration order, so the state of an instrumented loop is `(bad, s)` where `s` is the state of the
original loop (or `(ret?, bad, s)` against `(ret?, s)` when the loop body contains a `return`).  `Sim π x' x` says that
the instrumented computation `x'` projects (by `π`) to the original computation `x`; the rules below follow the
constructs `do`-notation produces (`pure`, `>>=`, `forIn`, `if`), and the tactic `safe_sim` applies them in lockstep
to both programs.  Nothing here mentions a generated kernel; no Mathlib.
-/
namespace Hdc.SafeSimN

/-- the instrumented computation `x'` projects to `x` -/
def Sim {σ' σ : Type} (π : σ' → σ) (x' : Id σ') (x : Id σ) : Prop := π x'.run = x.run

theorem pureS {σ' σ : Type} {π : σ' → σ} {a' : σ'} {a : σ} (h : π a' = a) :
    Sim π (pure a') (pure a) := h

theorem bindS {σ' σ τ' τ : Type} {π₁ : σ' → σ} {π : τ' → τ} {x' : Id σ'} {x : Id σ}
    {k' : σ' → Id τ'} {k : σ → Id τ}
    (hx : Sim π₁ x' x) (hk : ∀ a', Sim π (k' a') (k (π₁ a'))) : Sim π (x' >>= k') (x >>= k) := by
  unfold Sim at *
  show π (k' x'.run).run = (k x.run).run
  rw [← hx]; exact hk _

theorem iteS {σ' σ : Type} {π : σ' → σ} {c : Prop} [Decidable c] {t' e' : Id σ'} {t e : Id σ}
    (ht : Sim π t' t) (he : Sim π e' e) : Sim π (if c then t' else e') (if c then t else e) := by
  split <;> assumption

def stepMap {σ' σ : Type} (π : σ' → σ) : ForInStep σ' → ForInStep σ
  | .yield a => .yield (π a)
  | .done a => .done (π a)

theorem forInS {β σ' σ : Type} {π : σ' → σ} {l : List β} {init' : σ'} {init : σ}
    {f' : β → σ' → Id (ForInStep σ')} {f : β → σ → Id (ForInStep σ)}
    (hi : π init' = init) (hf : ∀ a s', Sim (stepMap π) (f' a s') (f a (π s'))) :
    Sim π (forIn l init' f') (forIn l init f) := by
  subst hi
  induction l generalizing init' with
  | nil => exact rfl
  | cons a l ih =>
    simp only [List.forIn_cons]
    have h := hf a init'
    unfold Sim at h
    show π (match (f' a init').run with
        | .done b => pure b
        | .yield b => forIn l b f').run
      = (match (f a (π init')).run with
        | .done b => pure b
        | .yield b => forIn l b f).run
    rw [← h]
    cases (f' a init').run with
    | done b => rfl
    | yield b => exact ih

/-- the state projection of a loop whose body contains a `return`: `(ret?, bad, s) ↦ (ret?.map fst, s)` -/
@[reducible] def retProj {ρ σ : Type} (s : Option (ρ × Bool) × Bool × σ) : Option ρ × σ := (s.1.map Prod.fst, s.2.2)

/-- the state projection when the loop with a `return` threads no other variable of the original -/
@[reducible] def retProj1 {ρ : Type} (s : Option (ρ × Bool) × Bool) : Option ρ × PUnit := (s.1.map Prod.fst, ⟨⟩)

/-- `>>=` after a loop with a `return`: the continuation is checked separately for "returned" / "ran to the end" -/
theorem bindRetS {ρ σ τ' τ : Type} {π : τ' → τ} {x' : Id (Option (ρ × Bool) × Bool × σ)}
    {x : Id (Option ρ × σ)} {k' : Option (ρ × Bool) × Bool × σ → Id τ'} {k : Option ρ × σ → Id τ}
    (hx : Sim retProj x' x)
    (hsome : ∀ r b bad s, Sim π (k' (some (r, b), bad, s)) (k (some r, s)))
    (hnone : ∀ bad s, Sim π (k' (none, bad, s)) (k (none, s))) : Sim π (x' >>= k') (x >>= k) := by
  refine bindS hx ?_
  rintro ⟨_ | ⟨r, b⟩, bad, s⟩
  · exact hnone bad s
  · exact hsome r b bad s

open Lean Elab Tactic Meta

/-- values that are substituted instead of being kept as a variable: tuple destructuring (`__s.snd.fst`, a
    projection of anything) and join points (`fun …`, introduced by `do`-notation for the code after an `if`) -/
def cheapValue (v : Expr) : Bool :=
  match v.consumeMData with
  | .fvar _ | .bvar _ => true
  | .proj .. => true
  | .lam .. => true
  | .app (.app (.app (.const c _) _) _) _ => c == ``Prod.fst || c == ``Prod.snd
  | _ => false

/-- normal form of a tuple destructuring: projections are written `Prod.fst x` / `Prod.snd x`, and a projection of an
    explicit pair (possibly after unfolding a reducible state projection such as `retProj`) is reduced -/
partial def normProj (e : Expr) : MetaM Expr := do
  let e := e.consumeMData
  let step (isFst : Bool) (x : Expr) : MetaM Expr := do
    let x' ← normProj x
    let x'' ← if x'.isAppOfArity ``Prod.mk 4 then pure x' else
      match x'.getAppFn with
      | .const c _ => if c == ``Prod.fst || c == ``Prod.snd then pure x' else whnfR x'
      | _ => pure x'
    if x''.isAppOfArity ``Prod.mk 4 then
      normProj (if isFst then x''.getAppArgs[2]! else x''.getAppArgs[3]!)
    else
      mkAppM (if isFst then ``Prod.fst else ``Prod.snd) #[x']
  match e with
  | .app (.app (.app (.const c _) _) _) x =>
    if c == ``Prod.fst then step true x
    else if c == ``Prod.snd then step false x
    else pure e
  | .proj ``Prod 0 x => step true x
  | .proj ``Prod 1 x => step false x
  | _ => pure e

/-- `sim_lets`: on a goal `Sim π lhs rhs`, process the leading `have x := v; …` of both programs:
    tuple destructuring / join points are substituted; a `have` with the same value on both sides (a statement of the
    source) becomes ONE opaque variable for both programs; a `have` of the instrumented program alone (`bad := …`)
    becomes an opaque variable.  Values are never copied, so the terms stay linear in the size of the programs. -/
partial def simLetsGo (g : MVarId) (n : Nat) : MetaM (MVarId × Nat) := g.withContext do
    let go := simLetsGo
    let t := (← instantiateMVars (← g.getType)).consumeMData
    let fn := t.getAppFn
    let args := t.getAppArgs
    unless fn.isConstOf ``Sim && args.size == 5 do return (g, n)
    let lhs0 := args[3]!
    let rhs0 := args[4]!
    let lhs := lhs0.consumeMData.headBeta
    let rhs := rhs0.consumeMData.headBeta
    let mk (l r : Expr) : Expr := mkAppN fn #[args[0]!, args[1]!, args[2]!, l, r]
    -- substitute cheap values
    if let .letE _ _ v b _ := lhs then
      if cheapValue v then
        let v ← if v.consumeMData.isLambda then pure v else normProj v
        return ← go (← g.replaceTargetDefEq (mk (b.instantiate1 v) rhs)) (n + 1)
    if let .letE _ _ v b _ := rhs then
      if cheapValue v then
        let v ← if v.consumeMData.isLambda then pure v else normProj v
        return ← go (← g.replaceTargetDefEq (mk lhs (b.instantiate1 v))) (n + 1)
    match lhs, rhs with
    | .letE x ty v b _, .letE _ ty2 v2 b2 _ =>
      if v == v2 && ty == ty2 then
        -- the same statement in both programs: one variable
        let newT := Expr.forallE x ty (mk b b2) .default
        let m ← mkFreshExprSyntheticOpaqueMVar newT
        g.assign (mkApp m v)
        let (_, g') ← m.mvarId!.intro x
        go g' (n + 1)
      else
        let newT := Expr.forallE x ty (mk b rhs) .default
        let m ← mkFreshExprSyntheticOpaqueMVar newT
        g.assign (mkApp m v)
        let (_, g') ← m.mvarId!.intro x
        go g' (n + 1)
    | .letE x ty v b _, _ =>
      let newT := Expr.forallE x ty (mk b rhs) .default
      let m ← mkFreshExprSyntheticOpaqueMVar newT
      g.assign (mkApp m v)
      let (_, g') ← m.mvarId!.intro x
      go g' (n + 1)
    | _, .letE x ty v b _ =>
      let newT := Expr.forallE x ty (mk lhs b) .default
      let m ← mkFreshExprSyntheticOpaqueMVar newT
      g.assign (mkApp m v)
      let (_, g') ← m.mvarId!.intro x
      go g' (n + 1)
    | _, _ =>
      if lhs != lhs0 || rhs != rhs0 then
        return ← go (← g.replaceTargetDefEq (mk lhs rhs)) (n + 1)
      return (g, n)

@[inherit_doc simLetsGo]
elab "sim_lets" : tactic => do
  let g ← getMainGoal
  let (g', n) ← simLetsGo g 0
  if n == 0 then throwError "sim_lets: no progress"
  replaceMainGoal [g']

/-- one step of the lockstep simulation, directed by the head symbol of the instrumented program (so that no rule
    is ever tried against a term it cannot match: the unifier would start evaluating the program) -/
elab "safe_sim_step" : tactic => withMainContext do
  let g ← getMainGoal
  let t := (← instantiateMVars (← g.getType)).consumeMData
  if t.isForall then
    evalTactic (← `(tactic| intro _))
    return
  let fn := t.getAppFn
  let args := t.getAppArgs
  unless fn.isConstOf ``Sim && args.size == 5 do throwError "safe_sim_step: not a simulation goal"
  let lhs := args[3]!.consumeMData
  if lhs.isLet || lhs.isHeadBetaTarget || args[4]!.consumeMData.isLet || args[4]!.consumeMData.isHeadBetaTarget then
    evalTactic (← `(tactic| sim_lets))
    return
  match lhs.getAppFn.constName? with
  | some ``Pure.pure => evalTactic (← `(tactic| exact pureS rfl))
  | some ``ite => evalTactic (← `(tactic| apply iteS))
  | some ``Bind.bind => evalTactic (← `(tactic| first | apply bindRetS | apply bindS))
  | some ``ForIn.forIn => evalTactic (← `(tactic| first
      | (apply forInS (π := Prod.snd) rfl)
      | (apply forInS (π := retProj) rfl)
      | (apply forInS (π := id) rfl)
      | (apply forInS (π := fun _ => PUnit.unit) rfl)))
  | _ => evalTactic (← `(tactic| dsimp -zeta only [retProj, Option.map]))

/-- `(Safe program).1 = original program`: after unfolding both definitions (and rewriting the calls of instrumented
    callees with their `_fst` theorems) view the goal as `Sim Prod.fst _ _` and run both programs in lockstep. -/
macro "safe_sim" : tactic => `(tactic| (
  show Sim Prod.fst _ _
  repeat' safe_sim_step))

end Hdc.SafeSimN
