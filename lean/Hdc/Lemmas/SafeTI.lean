import Hdc.Lemmas.GenNumTI
import Hdc.Lemmas.SafeBasic
/-
SafeTI  Facts for "under the contract the flag of the instrumented `tinterpolate` is false" (Hdc/Props/SafeTinterpolate.lean),
on top of the loop invariants `Scat` / `Runs` of the refinement proof (Hdc/Lemmas/GenNumTI.lean):

  * at a mark of the template the scatter loop reads `x[jj]` with `jj < nmarks template ≤ len x`;
  * the run-length loop writes `out[kk]` with `kk <` the number of maximal runs of equal labels;
  * a template with non-negative entries and two marks has two positive weights;
  * the smoothed vector has one cell per day, hence at least one per label.

The only generated program mentioned is the smoother `Gen.Ws2d.ws2d` (the size of its result); the translation of
`tinterpolate` itself does not occur.
-/
namespace Hdc.SafeTI
open Hdc Hdc.Gen.NumKernels Hdc.GenNum
open Hdc.Ws2dGen (av)
open Hdc.Ws2d (fnl fnl_of_lt fnl_of_le)
open Hdc.GenKernels (gv lv gv_toArray)
open Hdc.Stats (marksBefore marksBefore_lt_of_mark)

set_option linter.unusedSectionVars false

variable {α : Type} [Field α] [LinearOrder α] [IsStrictOrderedRing α]

/-- the vector `tinterpolate` hands to the smoother -/
def tiTemp (x template : List α) : List α :=
  setLast (scatterMarks template x) (x.getLastD (nat 0))

theorem tiTemp_length (x t : List α) : (tiTemp x t).length = t.length := by
  rw [tiTemp, Stats.setLast_length, Stats.scatterMarks_length]

/-- the smoothed vector has one cell per day … -/
theorem ws2d_tiTemp_size (x t : List α) (lam : α) :
    (Gen.Ws2d.ws2d (tiTemp x t).toArray lam t.toArray).size = t.length := by
  rw [C01gen.gen_ws2d_size_array, List.size_toArray, tiTemp_length]

/-- … hence one per label -/
theorem le_ws2d_tiTemp_length {labels : List Int} {t : List α} (h : labels.length ≤ t.length) (x : List α)
    (lam : α) : labels.length ≤ (Gen.Ws2d.ws2d (tiTemp x t).toArray lam t.toArray).toList.length :=
  le_of_le_of_eq h (Array.length_toList.trans (ws2d_tiTemp_size x t lam)).symm

/-- at a mark, the index `jj` of the observation that is read is in range -/
theorem Scat.mark_bounds {t x : List α} {p : ℕ} {temp : Array α} {ii jj cur : ℤ}
    (h : Scat t x p temp ii jj) (hp : p < t.length) (hm : nmarks t ≤ x.length)
    (hne : (!eqv (rd temp cur) (nat 0)) = true) (hcur : cur = (p : ℤ)) :
    0 ≤ jj ∧ jj < (x.length : ℤ) := by
  have hne' : fnl t p ≠ 0 := by
    rw [rd_of_eq temp cur p hcur, h.rest p (le_refl _)] at hne
    intro h0
    rw [h0] at hne
    simp [(Stats.eqv_iff (0 : α) 0).2 rfl, nat] at hne
  have hne'' : t[p] ≠ 0 := by rwa [fnl_of_lt t p hp] at hne'
  have hlt := marksBefore_lt_of_mark t p hp hne''
  rw [h.hjj]
  unfold nmarks at hm
  omega

theorem runMeans_some_ne_nil (l : List (Int × α)) (s : Int × α × ℕ) : runMeans l (some s) ≠ [] := by
  induction l generalizing s with
  | nil => obtain ⟨a, b, c⟩ := s; simp [runMeans]
  | cons p rest ih =>
    obtain ⟨a, b, c⟩ := s
    obtain ⟨l, z⟩ := p
    rw [runMeans]
    split
    · exact ih _
    · simp

/-- the number of values the run-length loop writes: the number of maximal runs of equal labels -/
theorem runMeans_length (labels : List Int) (zl : List α) (hz : labels.length ≤ zl.length) :
    (runMeans (labels.zip zl) none).length = (labels.splitBy (· == ·)).length := by
  rw [Stats.runMeans_spanSums _ _ hz, Stats.spanSums_length, List.length_map]

/-- the cell the run-length loop writes next exists when the buffer has one cell per run -/
theorem Runs.kk_bounds {labels : List Int} {zl : List α} {g : α × ℕ → α} {out0 out : Array α}
    {p : ℕ} {ii jj kk : ℤ} {v : α} (h : Runs labels zl g out0 p out ii jj kk v)
    (hz : labels.length ≤ zl.length) (hl : (labels.splitBy (· == ·)).length ≤ out0.size) :
    0 ≤ kk ∧ kk < (out.size : ℤ) := by
  obtain ⟨done, k, hii, hjj, hkk, hs, hd, hm⟩ := h
  have h1 := congrArg List.length hm
  rw [List.length_append, runMeans_length labels zl hz] at h1
  have h2 : 0 < (runMeans ((labels.zip zl).drop (p + 1)) (some (lv labels p, v, k))).length :=
    List.length_pos_iff.2 (runMeans_some_ne_nil _ _)
  rw [hkk, hs]
  omega

theorem Runs.out_size {labels : List Int} {zl : List α} {g : α × ℕ → α} {out0 out : Array α}
    {p : ℕ} {ii jj kk : ℤ} {v : α} (h : Runs labels zl g out0 p out ii jj kk v) :
    out.size = out0.size := by
  obtain ⟨done, k, hii, hjj, hkk, hs, hd, hm⟩ := h
  exact hs

/-- two marks on a non-negative template are two positive weights -/
theorem two_pos_of_nmarks (t : List α) (hnn : ∀ v ∈ t, 0 ≤ v) (h2 : 2 ≤ nmarks t) :
    ∃ i j, i < j ∧ j < t.length ∧ 0 < C01.fn t i ∧ 0 < C01.fn t j := by
  induction t with
  | nil => simp [nmarks] at h2
  | cons a ts ih =>
    have hnn' : ∀ v ∈ ts, 0 ≤ v := fun v hv => hnn v (List.mem_cons_of_mem _ hv)
    by_cases ha : a = 0
    · have h2' : 2 ≤ nmarks ts := by
        unfold nmarks at h2 ⊢
        rw [List.countP_cons_of_neg (by simp [ha])] at h2
        exact h2
      obtain ⟨i, j, hij, hj, hi0, hj0⟩ := ih hnn' h2'
      refine ⟨i + 1, j + 1, by omega, by simpa using hj, ?_, ?_⟩
      · simpa [C01.fn] using hi0
      · simpa [C01.fn] using hj0
    · have h1 : 0 < ts.countP (fun v => decide (v ≠ 0)) := by
        unfold nmarks at h2
        rw [List.countP_cons_of_pos (by simp [ha])] at h2
        omega
      obtain ⟨b, hb, hb0⟩ := List.countP_pos_iff.1 h1
      obtain ⟨j, hj, rfl⟩ := List.getElem_of_mem hb
      have hb0' : ts[j] ≠ 0 := by simpa using hb0
      have hapos : 0 < a := lt_of_le_of_ne (hnn a (List.mem_cons_self)) (Ne.symm ha)
      have hbpos : 0 < ts[j] := lt_of_le_of_ne (hnn' _ hb) (Ne.symm hb0')
      refine ⟨0, j + 1, by omega, by simpa using hj, by simpa [C01.fn] using hapos, ?_⟩
      simp only [C01.fn, List.getD_eq_getElem?_getD, List.getElem?_cons_succ,
        List.getElem?_eq_getElem hj, Option.getD_some]
      exact hbpos

end Hdc.SafeTI
