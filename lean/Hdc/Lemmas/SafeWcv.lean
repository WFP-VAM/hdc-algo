import Hdc.Lemmas.GenNumWcvTac
import Hdc.Lemmas.SafeOptv
import Hdc.PySafeW
/-
SafeWcv  Facts for "under the contract the flag of the instrumented `ws2dwcv` is false" (Hdc/Props/SafeWs2dwcv.lean):
the quantities of the source the contract talks about (`wOf`, `yOf`, `dOf`, `trOf`, `scoreOf`: the NumPy expressions of the
kernel, written with the combinators of Hdc/PyNpW.lean; they are defined in Hdc/Lemmas/GenNumWcv.lean, whose lemmas use them too), sizes of the NumPy combinators, the bookkeeping of the λ sweep
(`SweepS`: the running best `gcv_temp` is a pair whose λ is positive as soon as one score was below `big`), and the calls of
the smoother with the validity weights.
-/
namespace Hdc.SafeWcv
open Hdc Hdc.Gen.NumKernels Hdc.PyNpW Hdc.GenNum Hdc.SafeL

set_option linter.unusedSectionVars false
set_option linter.unusedVariables false

section defs
variable {α : Type} [Add α] [Sub α] [Mul α] [Div α] [Neg α] [NatCast α] [LT α] [DecidableLT α]

/-- the same score, from a fitted curve `z` -/
def gcvOf (G : GFns α) (y w de z : Array α) (s : α) : α :=
  npSum (npMap (fun e => e * e) (npMap2 (fun a b => a * b) (npMap (fun e => G.sqrtw e) w) (npMap2 (fun a b => a - b) y z)))
    / (npSum w * ((nat 1 - trOf w de s / npSum w) * (nat 1 - trOf w de s / npSum w)))

end defs

/-! ### sizes -/
section sizes
variable {β γ δ : Type}

@[simp] theorem size_npArange (m : ℤ) : (npArange m).size = m.toNat := by simp [npArange]

end sizes

variable {α : Type} [Field α] [LinearOrder α] [IsStrictOrderedRing α]

/-- `w_temp = w * r_weights` with `r_weights = np.ones(m)` -/
theorem mul_ones (w : Array α) (k : ℕ) (hk : k = w.size) :
    npMap2 (fun a b => a * b) w (Array.replicate k (nat 1)) = w := by
  subst hk
  apply Array.ext
  · simp
  · intro i h1 h2
    simp [npMap2, nat]

/-! ### the NumPy expressions of the source, folded -/

theorem wOf_fold (nodata : α) (isnan isinf : α → Bool) (y : Array α) :
    npMap (fun e2 => nat 1 - e2) (npMap (fun (e1 : Bool) => if e1 then (nat 1 : α) else (nat 0 : α))
      (npMap (fun x => (eqv x nodata || isnan x || isinf x)) y)) = wOf nodata isnan isinf y := rfl

theorem dOf_fold (G : GFns α) (cos : α → α) (pi : α) (y : List α) :
    wr (npMap (fun e => (-(nat 2)) + e) (npMap (fun e => (nat 2) * e) (npMap (fun e => cos e)
      (npMap (fun e => e / (((y.toArray.size : ℤ) : ℤ) : α)) (npMap (fun e => e * pi)
        (npMap (fun (e : ℤ) => ((e : ℤ) : α)) (npArange (y.toArray.size : ℤ)))))))) 0 G.eig0
      = dOf G cos pi (y.length : ℤ) := rfl

theorem yOf_fold (w y : Array α) :
    npWhereSA (npMap (fun e => eqv e (nat 0)) w) (nat 0) y = yOf w y := rfl

theorem trOf_fold (w de : Array α) (s : α) :
    npSum (npMap2 (fun a b => a / b) w (npMap2 (fun a b => a + b) w
      (npMap (fun e => s * e) (npMap (fun e => e * e) (npMap (fun e => (-(nat 1)) * e) de))))) = trOf w de s := rfl

theorem scoreOf_fold (G : GFns α) (y w de : Array α) (s : α) :
    npSum (npMap (fun e => e * e) (npMap2 (fun a b => a * b) (npMap (fun e => G.sqrtw e) w)
        (npMap2 (fun a b => a - b) y (Gen.Ws2d.ws2d y s w))))
      / (npSum w * ((nat 1 - trOf w de s / npSum w) * (nat 1 - trOf w de s / npSum w))) = scoreOf G y w de s := rfl

theorem size_wOf' (nodata : α) (isnan isinf : α → Bool) (y : List α) :
    (wOf nodata isnan isinf y.toArray).size = y.length := by simp [wOf]

theorem size_dOf' (G : GFns α) (cos : α → α) (pi : α) (n : ℕ) : (dOf G cos pi (n : ℤ)).size = n := by
  simp [dOf]

theorem size_yOf' (nodata : α) (isnan isinf : α → Bool) (y : List α) :
    (yOf (wOf nodata isnan isinf y.toArray) y.toArray).size = y.length := by
  simp [yOf, size_wOf']

theorem neg_size_false (n : ℕ) : decide ((n : ℤ) < 0) = false := by simp

theorem oob_zero {n : ℕ} (h : 0 < n) : oob n 0 = false := oob_false n 0 (by omega)

theorem oob_one {n : ℕ} (h : 1 < n) : oob n 1 = false := oob_false n 1 (by omega)

theorem rdA_single {β : Type} (g : Array β) : rdA #[g] 0 = g := by simp [rdA, ix]

theorem push_empty {β : Type} (g : β) : (#[] : Array β).push g = #[g] := rfl

theorem mem_of_split {β : Type} {l pre suf : List β} {c : β} (h : l = pre ++ c :: suf) : c ∈ l := by
  rw [h]; simp

/-- the current element of `for s in 10 ** llas` -/
theorem mem_grid {f : α → α} {llas pre suf : List α} {cu : α}
    (h : (npMap f llas.toArray).toList = pre ++ cu :: suf) : ∃ l ∈ llas, f l = cu := by
  simpa only [toList_npMap, List.toList_toArray, List.mem_map] using mem_of_split h

theorem scoreOf_eq (G : GFns α) (y w de : Array α) (s : α) :
    gcvOf G y w de (Gen.Safe.ws2d y s w).1 s = scoreOf G y w de s := by
  rw [SafeWs2d.safe_ws2d_fst]; rfl

/-- the validity weights of `y` with data of the same length and a positive `λ` are inside the contract of `ws2d` -/
theorem base_contract (nodata : α) (isnan isinf : α → Bool) (y : List α) (yc : Array α) (lam : α)
    (hyc : yc.size = y.length) (h3 : 3 ≤ y.length) (hlam : 0 < lam) (hv : 2 ≤ countValid (missG nodata isnan isinf) y) :
    SafeWs2d.Contract yc.toList (wOf nodata isnan isinf y.toArray).toList lam := by
  have c := SafeOptv.contract_raw (missG nodata isnan isinf) y lam h3 hlam hv
  rw [toList_wOf]
  exact ⟨by simpa [hyc] using h3, by simp [hyc], hlam, c.w_nonneg, c.two_pos⟩

/-- … so every call `ws2d(y', λ, w)` is safe -/
theorem call_ok (nodata : α) (isnan isinf : α → Bool) (y : List α) (yc : Array α) (lam : α) (hyc : yc.size = y.length)
    (h3 : 3 ≤ y.length) (hlam : 0 < lam) (hv : 2 ≤ countValid (missG nodata isnan isinf) y) :
    (Gen.Safe.ws2d yc lam (wOf nodata isnan isinf y.toArray)).2 = false := by
  simpa using SafeWs2d.safe_ws2d_ok _ _ lam (base_contract nodata isnan isinf y yc lam hyc h3 hlam hv)

/-! ### the λ sweep: `gcv_temp` -/

/-- the running best of the sweep after the grid values `pre`: a pair `[score, λ]`; its `λ` is positive, or no score
    has been below `big` so far (then the pair is still the initial `[big, 0]`) -/
structure SweepS (big : α) (sc : α → α) (pre : List α) (gt : Array α) : Prop where
  size : gt.size = 2
  best : 0 < rd gt 1 ∨ (rd gt 0 = big ∧ ∀ s ∈ pre, ¬ sc s < big)

theorem SweepS.init (big : α) (sc : α → α) {gt : Array α} (h : gt = #[big, nat 0]) : SweepS big sc [] gt :=
  h ▸ ⟨rfl, Or.inr ⟨rd_pair_zero _ _, by simp⟩⟩

theorem SweepS.step_lt {big : α} {sc : α → α} {pre : List α} {gt : Array α} (h : SweepS big sc pre gt) (v s : α)
    (hs : 0 < s) : SweepS big sc (pre ++ [s]) #[v, s] :=
  ⟨rfl, Or.inl (by rw [rd_pair_one]; exact hs)⟩

theorem SweepS.step_ge {big : α} {sc : α → α} {pre : List α} {gt : Array α} (h : SweepS big sc pre gt) {v s : α}
    (hge : ¬ decide (rd #[v, s] 0 < rd gt 0) = true) (hv : v = sc s) : SweepS big sc (pre ++ [s]) gt := by
  rw [rd_pair_zero, decide_eq_true_eq, hv] at hge
  refine ⟨h.size, ?_⟩
  rcases h.best with h1 | ⟨h0, hall⟩
  · exact Or.inl h1
  · refine Or.inr ⟨h0, ?_⟩
    intro t ht
    rcases List.mem_append.1 ht with ht | ht
    · exact hall t ht
    · obtain rfl : t = s := by simpa using ht
      rwa [h0] at hge

theorem SweepS.pos {big : α} {sc : α → α} {l : List α} {gt : Array α} (h : SweepS big sc l gt)
    (hex : ∃ s ∈ l, sc s < big) : 0 < rd gt 1 := by
  rcases h.best with h1 | ⟨_, hall⟩
  · exact h1
  · obtain ⟨s, hs, hlt⟩ := hex
    exact absurd hlt (hall s hs)

/-- the divisor of the GCV score -/
theorem den_ne (S t : α) (hS : S ≠ 0) (ht : t ≠ S) : S * ((nat 1 - t / S) * (nat 1 - t / S)) ≠ 0 := by
  have h1 : (nat 1 : α) - t / S ≠ 0 := by
    rw [nat, Nat.cast_one, sub_ne_zero]
    intro h
    apply ht
    field_simp at h
    exact h.symm
  exact mul_ne_zero hS (mul_ne_zero h1 h1)

/-- the checks of one λ of a sweep (`for s in lambda_range`): the call of the smoother, the lengths in `gamma` and `wsse`, the two
    scalar divisions, `gcv[0]` and `gcv_temp[0]` -/
theorem sweep_flag (G : GFns α) {ya wt de gt : Array α} {cu : α} {b : Bool} (v : α) (hb : b = false)
    (hcall : (Gen.Safe.ws2d ya cu wt).2 = false) (hw : wt.size = ya.size) (hd : de.size = ya.size) (hgt : gt.size = 2)
    (hS : npSum wt ≠ 0) (hdn : trOf wt de cu ≠ npSum wt) :
    (b || (Gen.Safe.ws2d ya cu wt).2
      || lenNe wt.size (npMap (fun e => cu * e) (npMap (fun e => e * e) (npMap (fun e => (-(nat 1)) * e) de))).size
      || lenNe wt.size (npMap2 (fun a b => a + b) wt
          (npMap (fun e => cu * e) (npMap (fun e => e * e) (npMap (fun e => (-(nat 1)) * e) de)))).size
      || lenNe ya.size (Gen.Safe.ws2d ya cu wt).1.size
      || lenNe (npMap (fun e => G.sqrtw e) wt).size (npMap2 (fun a b => a - b) ya (Gen.Safe.ws2d ya cu wt).1).size
      || eqv (npSum wt) (nat 0)
      || eqv (npSum wt * ((nat 1 - trOf wt de cu / npSum wt) * (nat 1 - trOf wt de cu / npSum wt))) (nat 0)
      || oob #[v, cu].size 0 || oob gt.size 0) = false := by
  simp only [hb, hcall, hw, hd, hgt, SafeOptv.ws2d_call_size, size_npMap, size_npMap2, Nat.min_self, lenNe_self,
    eqv_zero_false _ hS, eqv_zero_false _ (den_ne _ _ hS hdn), Bool.or_false]
  rfl

end Hdc.SafeWcv
