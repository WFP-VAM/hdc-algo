import Hdc.Gen.SafeWs2d
import Hdc.Lemmas.Ws2dGen
import Hdc.Lemmas.SafeBasic
import Hdc.Props.C01
import Std.Tactic.Do
import Mathlib.Tactic.FieldSimp
/-
SafeWs2d  The one verification of the loops of `ws2d`, on the instrumented translation `Hdc.Gen.Safe.ws2d`
(`safe_ws2d_run`: the result is the hand model, and the flag is set exactly when a divisor check fires on a pivot of
the forward sweep; every subscript of the source is in `[-n, n)` for `n ≥ 3`, so no other check can fire), the pivots at
`n = 3`, and the documented contract of `ws2d`.  Hdc/Props/C01gen.lean and Hdc/Props/SafeWs2d.lean read their theorems
off `safe_ws2d_run`.
-/
namespace Hdc.SafeWs2d
open Hdc.Gen.Ws2d Hdc.Ws2d Hdc.Ws2dGen Hdc.SafeL

variable {α : Type} [Field α]
variable (y w : List α) (lam : α)

/-- a pivot among the rows `< k` of the forward sweep of the model vanishes -/
def ZeroPiv (k : ℕ) : Prop := ∃ j < k, (Rw y w lam j).d = 0

/-! ### one run of the instrumented program

The loops of `ws2d` are verified once, on the instrumented translation, over a field with an arbitrary decidable `<` (the
checks `eqv d (nat 0)` only use `<`): the result is the hand model and the flag records the divisor checks that fired.
The invariants are those of the hand model (`Fwd`, `Bwd` of Hdc/Lemmas/Ws2dGen.lean) plus the flag.  The generated
expressions are never copied: every verification condition presents the source assignments as local definitions
`a := wr a₀ i v`; `wr_upd` turns each into "size unchanged, cell `i` is `v`, other cells unchanged" (`Holds.write` where
the store extends an invariant by one row), and `v` is rewritten to
the field of the model row by `simp` + `ring` (`row_arith`; the model's uniform formula differs from the hand-written rows
0, 1, m-1, m of the source only by terms `0 * 0 * 0`).  For `n ≥ 4` every subscript is in `[0, n)`; at `n = 3` the forward
loop is empty, row 1 is written twice (first with the coefficient -4, then as row m-1 with -2) and the source reads
`e[-1]`, `d[-1]`, `z[-1]` (`i2 = m - 3 = -1`, wrapped to the last cell), which are still 0 at that point: `Fwd` carries
"`e` is zero from row `k` on" for exactly this read. -/

section run
open Std.Do

set_option mvcgen.warning false
-- the same simp set is used for every row on purpose (robust against harmless regeneration), and every row ends with
-- `row_arith`, also where `simp` already closed the goal
set_option linter.unusedSimpArgs false
set_option linter.unusedTactic false

variable {α : Type} [Field α] [LT α] [DecidableLT α] (y w : List α) (lam : α)

/-- the divisor check `eqv d (nat 0)` fires on a pivot among the rows `< k` of the forward sweep of the model -/
def ChkPiv (k : ℕ) : Prop := ∃ j < k, eqv (Rw y w lam j).d (nat 0) = true

theorem chkPiv_zero : ChkPiv y w lam 0 ↔ False := by simp [ChkPiv]

theorem chkPiv_succ (k : ℕ) :
    ChkPiv y w lam (k + 1) ↔ ChkPiv y w lam k ∨ eqv (Rw y w lam k).d (nat 0) = true :=
  Nat.exists_lt_succ_right

/-- a pivot that is already accounted for -/
theorem chkPiv_absorb {k j : ℕ} (hj : j < k) :
    (ChkPiv y w lam k ∨ eqv (Rw y w lam j).d (nat 0) = true) ↔ ChkPiv y w lam k :=
  ⟨fun h => h.elim id (fun h0 => ⟨j, hj, h0⟩), Or.inl⟩

theorem chkPiv_tail {k q : ℕ} (h1 : q + 1 ≤ k) (h2 : k ≤ q + 2) {b : Prop} (hb : b ↔ ChkPiv y w lam k) :
    ((b ∨ eqv (Rw y w lam (q + 1)).d (nat 0) = true) ∨ eqv (Rw y w lam (q + 2)).d (nat 0) = true)
        ∨ eqv (Rw y w lam (q + 1)).d (nat 0) = true
      ↔ ChkPiv y w lam (q + 3) := by
  have h : ChkPiv y w lam k ∨ eqv (Rw y w lam (q + 1)).d (nat 0) = true ↔ ChkPiv y w lam (q + 2) := by
    obtain rfl | rfl : k = q + 1 ∨ k = q + 2 := by omega
    · exact (chkPiv_succ y w lam (q + 1)).symm
    · exact chkPiv_absorb y w lam (by omega)
  rw [hb, h, ← chkPiv_succ]
  exact chkPiv_absorb y w lam (by omega)

theorem safe_ws2d_run (h : w.length = y.length) (hn : 3 ≤ y.length) :
    (Gen.Safe.ws2d y.toArray lam w.toArray).1.toList = Hdc.ws2d y lam w
      ∧ FlagIs (ChkPiv y w lam y.length) (Gen.Safe.ws2d y.toArray lam w.toArray).2 := by
  generalize hres : Gen.Safe.ws2d y.toArray lam w.toArray = res
  apply Id.of_wp_run_eq hres
  mvcgen -trivial invariants
  · ⇓⟨xs, s⟩ => ⌜Fwd y w lam (xs.prefix.length + 2) s.2.2.2.1 s.2.2.2.2.1 s.2.2.2.2.2.1 s.2.2.2.2.2.2
      ∧ FlagIs (ChkPiv y w lam (xs.prefix.length + 2)) s.1⌝
  · ⇓⟨xs, s⟩ => ⌜Bwd y w lam (y.length - 2 - xs.prefix.length) s.2 ∧ FlagIs (ChkPiv y w lam y.length) s.1⌝
  -- rows 0 and 1 (written by hand in the source) establish the forward invariant
  case vc2.pre =>
    have r0 : ∀ a : Array α, rd a 0 = av a 0 := fun a => rd_of_eq a _ _ (by omega)
    have r1 : ∀ a : Array α, rd a 1 = av a 1 := fun a => rd_of_eq a _ _ (by omega)
    py_name z as z1; py_name e as e1; py_name c as c1; py_name d as d1
    py_name z as z0; py_name e as e0; py_name c as c0; py_name d as d0
    py_name z as zz
    have F0 : Fwd y w lam 0 zz zz zz zz := Fwd.init y w lam _ (by
      simp (config := {zetaDelta := true}) only [List.size_toArray, Int.toNat_natCast])
    clear_value zz
    -- row 0
    have Hd := F0.hd.write (a := d0) rfl (by omega) (by omega) (by
      rw [Rw_d_zero, diagCoef_first]
      simp only [r0, av_toArray, Nat.cast_one, one_mul]
      row_arith)
    clear_value d0
    have Hc := (F0.hc.cast (k' := 0) (by omega)).write (a := c0) rfl (by omega) (by omega) (by
      rw [Rw_c_zero, supCoef_first]
      simp (disch := omega) only [r0, Hd.get, nat]
      row_arith)
    clear_value c0
    have ue := wr_upd (a := e0) rfl 0 (by omega) (by rw [F0.he.size]; omega)
    clear_value e0
    have He := F0.he.step ue (by
      rw [Rw_e]
      simp (disch := omega) only [r0, Hd.get]
      row_arith)
    have Ze := F0.ze.step ue
    have Hz := F0.hz.write (a := z0) rfl (by omega) (by omega) (by
      rw [Rw_u_zero]
      simp (disch := omega) only [r0, av_toArray]
      row_arith)
    clear_value z0
    -- row 1
    have Hd1 := Hd.write (a := d1) rfl (by omega) (by omega) (by
      rw [Rw_d_one, diagCoef_second _ hn]
      simp (disch := omega) only [r0, r1, av_toArray, Hd.get, Hc.get, nat, Nat.cast_ofNat]
      row_arith)
    clear_value d1
    have uc1 := wr_upd (a := c1) rfl 1 (by omega) (by rw [Hc.size]; omega)
    clear_value c1
    have Hc1 : Holds y.length (fun j => (Rw y w lam j).c) (min 2 (y.length - 2)) c1 := by
      by_cases h4 : 4 ≤ y.length
      · exact (Hc.step uc1 (by
          rw [Rw_c_succ, supCoef_mid _ _ (by omega) (by omega)]
          simp (disch := omega) only [r0, r1, Hd1.get, Hc.get, He.get, nat,
            Nat.cast_ofNat]
          row_arith)).cast (by omega)
      · -- n = 3: row 1 is row m - 1, the tail overwrites it with the coefficient -2
        exact (Hc.keep uc1 (le_refl _)).cast (by omega)
    have ue1 := wr_upd (a := e1) rfl 1 (by omega) (by rw [He.size]; omega)
    clear_value e1
    have He1 := He.step ue1 (by
      rw [Rw_e]
      simp (disch := omega) only [r1, Hd1.get]
      row_arith)
    have Ze1 := Ze.step ue1
    have Hz1 := Hz.write (a := z1) rfl (by omega) (by omega) (by
      rw [Rw_u_one]
      simp (disch := omega) only [r0, r1, av_toArray, Hc1.get, Hz.get]
      row_arith)
    clear_value z1
    refine ⟨⟨Hz1, Hd1, Hc1, He1, Ze1⟩, ?_⟩
    -- the subscripts of the block, each checked once (as a `simp` discharger `omega` would rerun on every occurrence)
    have o0 : oob y.length 0 = false := oob_false _ _ (by omega)
    have o1 : oob y.length 1 = false := oob_false _ _ (by omega)
    rw [show (([] : List ℤ).length + 2) = (0 + 1) + 1 by rfl, chkPiv_succ, chkPiv_succ, chkPiv_zero]
    unfold FlagIs
    simp (config := {zetaDelta := true}) only [Bool.or_eq_true, List.size_toArray, h,
      F0.hz.size, Hz.size, Hd.size, Hc.size, He.size, Hd1.size, Hc1.size, He1.size, o0, o1, r0, r1,
      Hd.get 0 Nat.one_pos, Hd1.get 0 Nat.two_pos, Hd1.get 1 Nat.one_lt_two,
      Bool.false_eq_true, or_false, false_or, or_assoc, or_self]
  -- the forward loop preserves it
  case vc1.step =>
    py_name z as z1; py_name e as e1; py_name c as c1; py_name d as d1
    py_name pref as pref; py_name cur as cur
    obtain ⟨hF, hb⟩ := ‹Fwd y w lam _ _ _ _ _ ∧ _›
    obtain ⟨hcur, hlt⟩ := pyRange_split _ _ _ _ _ ‹pyRange _ _ = _ ++ _ :: _›
    simp (config := {zetaDelta := true}) only [List.size_toArray] at hlt
    simp only [List.length_append, List.length_singleton]
    generalize pref.length = p at *
    have r0 : ∀ a : Array α, rd a cur = av a (p + 2) := fun a => rd_of_eq a _ _ (by omega)
    have r1 : ∀ a : Array α, rd a (cur - 1) = av a (p + 1) := fun a => rd_of_eq a _ _ (by omega)
    have r2 : ∀ a : Array α, rd a (cur - 2) = av a p := fun a => rd_of_eq a _ _ (by omega)
    have hFc := hF.hc.cast (k' := p + 2) (by omega)
    have Hd := hF.hd.write (a := d1) rfl (by omega) (by omega) (by
      rw [Rw_d_succ2, diagCoef_mid _ _ (by omega) (by omega)]
      simp (config := {zetaDelta := true}) (disch := omega) only [r0, r1, r2, av_toArray,
        hF.hd.get, hFc.get, hF.he.get, nat, Nat.cast_ofNat]
      row_arith)
    clear_value d1
    have Hc := hFc.write (a := c1) rfl (by omega) (by omega) (by
      rw [Rw_c_succ, supCoef_mid _ _ (by omega) (by omega)]
      simp (config := {zetaDelta := true}) (disch := omega) only [r0, r1, r2, Hd.get, hFc.get,
        hF.he.get, nat, Nat.cast_ofNat]
      row_arith)
    clear_value c1
    have ue := wr_upd (a := e1) rfl (p + 2) (by omega) (by rw [hF.he.size]; omega)
    clear_value e1
    have He := hF.he.step ue (by
      rw [Rw_e]
      simp (config := {zetaDelta := true}) (disch := omega) only [r0, Hd.get]
      row_arith)
    have Hz := hF.hz.write (a := z1) rfl (by omega) (by omega) (by
      rw [Rw_u_succ2]
      simp (config := {zetaDelta := true}) (disch := omega) only [r0, r1, r2, av_toArray, Hc.get,
        He.get, hF.hz.get]
      row_arith)
    clear_value z1
    refine ⟨⟨Hz, Hd, Hc.cast (by omega), He, hF.ze.step ue⟩, ?_⟩
    have hb : (_ = true ↔ _) := hb
    have o0 : oob y.length cur = false := oob_false _ _ (by omega)
    have o1 : oob y.length (cur - 1) = false := oob_false _ _ (by omega)
    have o2 : oob y.length (cur - 2) = false := oob_false _ _ (by omega)
    rw [show p + 1 + 2 = (p + 2) + 1 by omega, chkPiv_succ]
    unfold FlagIs
    simp (config := {zetaDelta := true}) only [Bool.or_eq_true, List.size_toArray, h,
      hF.hz.size, hF.hd.size, hF.hc.size, hF.he.size, Hd.size, Hc.size, He.size, o0, o1, o2, r0,
      Hd.get _ (Nat.lt_succ_self _), hb, Bool.false_eq_true, or_false, false_or, or_assoc, or_self]
  -- rows m - 1 and m (written by hand in the source) and the first two steps of the back
  -- substitution establish the backward invariant
  case vc4.post.success.pre =>
    obtain ⟨q, hq⟩ : ∃ q, y.length = q + 3 := ⟨y.length - 3, by omega⟩
    py_name z as z3; py_name z as z2; py_name d as d2; py_name z as z1; py_name c as c1
    py_name d as d1
    obtain ⟨hF, hb⟩ := ‹Fwd y w lam _ _ _ _ _ ∧ _›
    have hK : (q + 1 ≤ (pyRange 2 ((y.length : ℤ) - 1 - 1)).length + 2) ∧
        ((pyRange 2 ((y.length : ℤ) - 1 - 1)).length + 2 ≤ q + 2) := by
      simp only [pyRange_length]; omega
    simp (config := {zetaDelta := true}) only [List.size_toArray] at hF hb
    have HD := hF.hd.mono hK.1
    have HC := hF.hc.mono (k' := q + 1) (by omega)
    have HE := hF.he.mono hK.1
    have HU := hF.hz.mono hK.1
    have rm : ∀ a : Array α, rd a ((y.length : ℤ) - 1) = av a (q + 2) :=
      fun a => rd_of_eq a _ _ (by omega)
    have rm1 : ∀ a : Array α, rd a ((y.length : ℤ) - 1 - 1) = av a (q + 1) :=
      fun a => rd_of_eq a _ _ (by omega)
    have rm2 : ∀ a : Array α, rd a ((y.length : ℤ) - 1 - 2) = av a q :=
      fun a => rd_of_eq a _ _ (by omega)
    -- row m - 1
    have Hd := HD.write (a := d1) rfl
      (by simp (config := {zetaDelta := true}) only [List.size_toArray]; omega) (by omega) (by
      rcases q with _ | q
      · -- n = 3: `i2 = -1` wraps around to the last cell, where `e` is still zero
        have re := rd_wrap_zero hF.he.size hF.ze ((y.length : ℤ) - 1 - 3) 2 (by omega) (by omega)
          hK.2
        rw [Rw_d_one, diagCoef_penult _ _ (by omega) (by omega)]
        simp (config := {zetaDelta := true}) (disch := omega) only [List.size_toArray, rm, rm1, rm2,
          re, av_toArray, HD.get, HC.get, HE.get, nat, Nat.cast_ofNat]
        row_arith
      · have rm3 : ∀ a : Array α, rd a ((y.length : ℤ) - 1 - 3) = av a q :=
          fun a => rd_of_eq a _ _ (by omega)
        rw [Rw_d_succ2, diagCoef_penult _ _ (by omega) (by omega)]
        simp (config := {zetaDelta := true}) (disch := omega) only [List.size_toArray, rm, rm1, rm2,
          rm3, av_toArray, HD.get, HC.get, HE.get, nat, Nat.cast_ofNat]
        row_arith)
    clear_value d1
    have Hc := HC.write (a := c1) rfl
      (by simp (config := {zetaDelta := true}) only [List.size_toArray]; omega) (by omega) (by
      rw [Rw_c_succ, supCoef_penult _ _ (by omega)]
      simp (config := {zetaDelta := true}) (disch := omega) only [List.size_toArray, rm, rm1, rm2,
        Hd.get, HC.get, HE.get, nat, Nat.cast_ofNat]
      row_arith)
    clear_value c1
    have Hz := HU.write (a := z1) rfl
      (by simp (config := {zetaDelta := true}) only [List.size_toArray]; omega) (by omega) (by
      rcases q with _ | q
      · have re := rd_wrap_zero hF.he.size hF.ze ((y.length : ℤ) - 1 - 3) 2 (by omega) (by omega)
          hK.2
        rw [Rw_u_one]
        simp (config := {zetaDelta := true}) (disch := omega) only [List.size_toArray, rm, rm1, rm2,
          re, av_toArray, Hc.get, HE.get, HU.get]
        row_arith
      · have rm3 : ∀ a : Array α, rd a ((y.length : ℤ) - 1 - 3) = av a q :=
          fun a => rd_of_eq a _ _ (by omega)
        rw [Rw_u_succ2]
        simp (config := {zetaDelta := true}) (disch := omega) only [List.size_toArray, rm, rm1, rm2,
          rm3, av_toArray, Hc.get, HE.get, HU.get]
        row_arith)
    clear_value z1
    -- row m
    have Hd2 := Hd.write (a := d2) rfl
      (by simp (config := {zetaDelta := true}) only [List.size_toArray]; omega) (by omega) (by
      rw [Rw_d_succ2, diagCoef_last _ _ (by omega)]
      simp (config := {zetaDelta := true}) (disch := omega) only [List.size_toArray, rm, rm1, rm2,
        av_toArray, Hd.get, Hc.get, HE.get, nat, Nat.cast_one, one_mul]
      row_arith)
    clear_value d2
    have uz2 := wr_upd (a := z2) rfl (q + 2)
      (by simp (config := {zetaDelta := true}) only [List.size_toArray]; omega)
      (by rw [Hz.size]; omega)
    clear_value z2
    have B2 : Bwd y w lam (q + 2) z2 :=
      Bwd.step Hz.size (fun j h1 h2 => by omega) Hz.get uz2 (by
        rw [X_rel y w lam h _ (by omega), X_out y w lam h _ (by omega),
          X_out y w lam h _ (by omega), Rw_u_succ2]
        simp (config := {zetaDelta := true}) (disch := omega) only [List.size_toArray, rm, rm1, rm2,
          av_toArray, Hd2.get, Hc.get, HE.get, Hz.get]
        row_arith)
    have uz3 := wr_upd (a := z3) rfl (q + 1)
      (by simp (config := {zetaDelta := true}) only [List.size_toArray]; omega)
      (by rw [B2.sz]; omega)
    clear_value z3
    have B3 : Bwd y w lam (q + 1) z3 :=
      Bwd.step B2.sz (fun j h1 h2 => B2.hx j (by omega) h2) (fun j hj => B2.hu j (by omega)) uz3 (by
        rw [X_rel y w lam h _ (by omega), X_out y w lam h (q + 1 + 2) (by omega)]
        simp (config := {zetaDelta := true}) (disch := omega) only [List.size_toArray, rm, rm1, rm2,
          Hd2.get, Hc.get, B2.hu, B2.hx]
        row_arith)
    refine ⟨B3.cast (by simp only [List.length_nil]; omega), ?_⟩
    have o0 : oob y.length ((y.length : ℤ) - 1) = false := oob_false _ _ (by omega)
    have o1 : oob y.length ((y.length : ℤ) - 1 - 1) = false := oob_false _ _ (by omega)
    have o2 : oob y.length ((y.length : ℤ) - 1 - 2) = false := oob_false _ _ (by omega)
    have o3 : oob y.length ((y.length : ℤ) - 1 - 3) = false := oob_false _ _ (by omega)
    rw [hq]
    unfold FlagIs
    simp (config := {zetaDelta := true}) only [Bool.or_eq_true, List.size_toArray, h,
      hF.hz.size, hF.hd.size, hF.hc.size, hF.he.size, Hd.size, Hc.size, Hd2.size, Hz.size, B2.sz, o0, o1, o2, o3,
      rm, rm1, Hd.get _ (Nat.lt_succ_self _), Hd2.get (q + 2) (Nat.lt_succ_self _),
      Hd2.get (q + 1) (Nat.lt_succ_of_lt (Nat.lt_succ_self _)), Bool.false_eq_true, or_false, false_or]
    exact chkPiv_tail y w lam hK.1 hK.2 hb
  -- the backward loop preserves it
  case vc3.step =>
    obtain ⟨q, hq⟩ : ∃ q, y.length = q + 3 := ⟨y.length - 3, by omega⟩
    py_name z as z'; py_name z as zb; py_name b as b; py_name pref as pref; py_name cur as cur
    py_name z as z3; py_name z as z2; py_name d as d2; py_name z as z1; py_name c as c1
    py_name d as d1
    obtain ⟨hF, -⟩ := ‹Fwd y w lam _ _ _ _ _ ∧ _›
    have hK : q + 1 ≤ (pyRange 2 ((y.length : ℤ) - 1 - 1)).length + 2 := by
      simp only [pyRange_length]; omega
    simp (config := {zetaDelta := true}) only [List.size_toArray] at hF
    have HD := hF.hd.mono hK
    have HC := hF.hc.mono (k' := q + 1) (by omega)
    have HE := hF.he.mono hK
    obtain ⟨hB0, hb⟩ := ‹Bwd y w lam _ b.2 ∧ _›
    obtain ⟨hcur, hlt⟩ := pyRangeDown_split _ _ _ _ _ ‹pyRangeDown _ _ = _ ++ _ :: _›
    simp (config := {zetaDelta := true}) only [List.size_toArray] at hcur hlt
    simp only [List.length_append, List.length_singleton]
    generalize pref.length = p at *
    obtain ⟨t, ht⟩ : ∃ t : ℕ, cur = (t : ℤ) := ⟨cur.toNat, by omega⟩
    have hB := hB0.cast (t' := t + 1) (by omega)
    have r0 : ∀ a : Array α, rd a cur = av a t := fun a => rd_of_eq a _ _ (by omega)
    have r1 : ∀ a : Array α, rd a (cur + 1) = av a (t + 1) := fun a => rd_of_eq a _ _ (by omega)
    have r2 : ∀ a : Array α, rd a (cur + 2) = av a (t + 2) := fun a => rd_of_eq a _ _ (by omega)
    -- the tail rows only touched cells `m - 1` and `m`
    have ud := wr_upd (a := d1) rfl (q + 1)
      (by simp (config := {zetaDelta := true}) only [List.size_toArray]; omega)
      (by rw [HD.size]; omega)
    clear_value d1
    have uc := wr_upd (a := c1) rfl (q + 1)
      (by simp (config := {zetaDelta := true}) only [List.size_toArray]; omega)
      (by rw [HC.size]; omega)
    clear_value c1
    have ud2 := wr_upd (a := d2) rfl (q + 2)
      (by simp (config := {zetaDelta := true}) only [List.size_toArray]; omega)
      (by rw [ud.size, HD.size]; omega)
    clear_value d2
    have Hd := (HD.keep ud (le_refl _)).keep ud2 (by omega)
    have Hc := HC.keep uc (le_refl _)
    clear_value z3
    have uz := wr_upd (a := z') rfl t (by omega) (by rw [show zb.size = y.length from hB.sz]; omega)
    clear_value z'
    refine ⟨(Bwd.step hB.sz (fun j h1 h2 => hB.hx j (by omega) h2) (fun j hj => hB.hu j (by omega)) uz
      (by
        rw [X_rel y w lam h _ (by omega)]
        simp (config := {zetaDelta := true}) (disch := omega) only [r0, r1, r2, Hd.get, Hc.get,
          HE.get, hB.hu, hB.hx]
        row_arith)).cast (by omega), ?_⟩
    have hb : (_ = true ↔ _) := hb
    have habs := chkPiv_absorb y w lam (k := y.length) (j := t) (by omega)
    have o0 : oob y.length cur = false := oob_false _ _ (by omega)
    have o1 : oob y.length (cur + 1) = false := oob_false _ _ (by omega)
    have o2 : oob y.length (cur + 2) = false := oob_false _ _ (by omega)
    unfold FlagIs
    simp (config := {zetaDelta := true}) only [Bool.or_eq_true, List.size_toArray, h,
      hB.sz, hF.he.size, Hd.size, Hc.size, o0, o1, o2, r0, Hd.get t (by omega), hb, Bool.false_eq_true,
      or_false, false_or, habs]
  -- at the end of the backward loop every cell holds the output of the model
  case vc5.post.success.post.success =>
    obtain ⟨hB, hb⟩ := ‹Bwd y w lam _ _ ∧ _›
    exact ⟨(hB.cast (by
      simp (config := {zetaDelta := true}) only [pyRangeDown_length, List.size_toArray]
      omega)).toList_eq h, hb⟩

end run

/-! ### the pivots at `n = 3`

`C01.pivots_pos` needs `n ≥ 4` (its proof goes through the second-difference matrix `DᵀD`).  At `n = 3` the source (and
the model) use the diagonal `1, 5, 1` (the hand-written row `m - 1` overwrites row 1), i.e. the matrix
`W + λ (DᵀD + diag(0,1,0))`, which is still positive definite; the three pivots are computed directly. -/

section three
variable {α : Type} [Field α] [LinearOrder α] [IsStrictOrderedRing α]

theorem three_alg (a b c L D0 C0 E0 D1 C1 D2 : α) (h0 : D0 = a + L) (hC0 : C0 = -2 * L / D0)
    (hE0 : E0 = L / D0) (hD1 : D1 = b + 5 * L - C0 * C0 * D0)
    (hC1 : C1 = (-2 * L - D0 * C0 * E0) / D1) (hD2 : D2 = c + L - C1 * C1 * D1 - E0 * E0 * D0)
    (ha : 0 ≤ a) (hb : 0 ≤ b) (hc : 0 ≤ c) (hL : 0 < L) (hpos : 0 < a ∨ 0 < c) :
    0 < D0 ∧ 0 < D1 ∧ 0 < D2 := by
  have p0 : 0 < D0 := h0 ▸ add_pos_of_nonneg_of_pos ha hL
  -- `u = λ - e₀² d₀ = λ a / (a + λ)` is what eliminating row 0 leaves of `λ`; then `d₁ = b + λ + 4 u` and
  -- `d₂ d₁ = c d₁ + u (b + λ)`
  obtain ⟨u, hu⟩ : ∃ u, u = L * a / D0 := ⟨_, rfl⟩
  have hu0 : 0 ≤ u := hu ▸ div_nonneg (mul_nonneg hL.le ha) p0.le
  have hbL : 0 < b + L := add_pos_of_nonneg_of_pos hb hL
  have e1 : D1 = b + L + 4 * u := by
    rw [hD1, hC0, hu]; field_simp; rw [h0]; ring
  have p1 : 0 < D1 := e1 ▸ add_pos_of_pos_of_nonneg hbL (mul_nonneg (by norm_num) hu0)
  have eC : C1 * D1 = -2 * u := by
    rw [hC1, div_mul_cancel₀ _ p1.ne', hC0, hE0, hu]; field_simp; rw [h0]; ring
  have eE : L - E0 * E0 * D0 = u := by
    rw [hE0, hu]; field_simp; rw [h0]; ring
  have e2 : D2 * D1 = c * D1 + u * (b + L) := by
    rw [show D2 * D1 = (c + (L - E0 * E0 * D0)) * D1 - C1 * D1 * (C1 * D1) by rw [hD2]; ring, eE, eC, e1]; ring
  refine ⟨p0, p1, (mul_pos_iff_of_pos_right p1).1 ?_⟩
  rw [e2]
  rcases hpos with h | h
  · exact add_pos_of_nonneg_of_pos (mul_nonneg hc p1.le) (mul_pos (hu ▸ div_pos (mul_pos hL h) p0) hbL)
  · exact add_pos_of_pos_of_nonneg (mul_pos h p1) (mul_nonneg hu0 hbL.le)

/-- the three pivots at `n = 3`: positive when `λ > 0`, `w ≥ 0` and `w₀ > 0` or `w₂ > 0` (which holds as soon as two
    weights are positive) -/
theorem pivots_pos_three (y w : List α) (lam : α) (hy : y.length = 3) (hlam : 0 < lam)
    (h0 : 0 ≤ fnl w 0) (h1 : 0 ≤ fnl w 1) (h2 : 0 ≤ fnl w 2) (hpos : 0 < fnl w 0 ∨ 0 < fnl w 2) :
    ∀ k < 3, 0 < (Rw y w lam k).d := by
  have d0 := Rw_d_zero y w lam
  have c0 := Rw_c_zero y w lam
  have e0 := Rw_e y w lam 0
  have d1 := Rw_d_one y w lam
  have c1 := Rw_c_succ y w lam 0
  have d2 := Rw_d_succ2 y w lam 0
  rw [hy] at d0 c0 d1 c1 d2
  have k0 : diagCoef 3 0 = 1 := by decide
  have k1 : diagCoef 3 1 = 5 := by decide
  have k2 : diagCoef 3 2 = 1 := by decide
  have s0 : supCoef 3 0 = 2 := by decide
  have s1 : supCoef 3 1 = 2 := by decide
  simp only [k0, k1, k2, s0, s1, Nat.cast_one, Nat.cast_ofNat, one_mul, Nat.zero_add] at d0 c0 d1 c1 d2
  have key := three_alg (fnl w 0) (fnl w 1) (fnl w 2) lam (Rw y w lam 0).d (Rw y w lam 0).c
    (Rw y w lam 0).e (Rw y w lam 1).d (Rw y w lam 1).c (Rw y w lam 2).d d0 c0 e0
    (by rw [d1]) c1 (by rw [d2]) h0 h1 h2 hlam hpos
  intro k hk
  rcases k with _ | _ | _ | k
  · exact key.1
  · exact key.2.1
  · exact key.2.2
  · omega

end three

/-! ### the contract -/

section contract
variable {α : Type} [Field α] [LinearOrder α] [IsStrictOrderedRing α]

/-- the documented contract of `ws2d`, at its true minimum length: `n ≥ 3`, one weight per observation, `λ > 0`,
    non-negative weights, at least two of them positive -/
structure Contract (y w : List α) (lam : α) : Prop where
  len : 3 ≤ y.length
  wlen : w.length = y.length
  lam_pos : 0 < lam
  w_nonneg : ∀ x ∈ w, 0 ≤ x
  two_pos : ∃ i j, i < j ∧ j < w.length ∧ 0 < C01.fn w i ∧ 0 < C01.fn w j

theorem Contract.of_c01 {y w : List α} {lam : α} (h : C01.InContract y w lam) : Contract y w lam :=
  ⟨by have := h.len; omega, h.wlen, h.lam_pos, h.w_nonneg, h.two_pos⟩

theorem Contract.fn_nonneg {y w : List α} {lam : α} (h : Contract y w lam) (i : ℕ) : 0 ≤ fnl w i := by
  by_cases hi : i < w.length
  · rw [fnl_of_lt w i hi]; exact h.w_nonneg _ (List.getElem_mem hi)
  · rw [fnl_of_le w i (by omega)]

/-- under the contract every pivot is positive (`n ≥ 4`: C01; `n = 3`: direct computation) -/
theorem Contract.pivots_pos {y w : List α} {lam : α} (h : Contract y w lam) :
    ∀ k < y.length, 0 < (Rw y w lam k).d := by
  by_cases h4 : 4 ≤ y.length
  · exact C01.pivots_pos_fn ⟨h4, h.wlen, h.lam_pos, h.w_nonneg, h.two_pos⟩
  · have h3 : y.length = 3 := by have := h.len; omega
    obtain ⟨i, j, hij, hj, hi0, hj0⟩ := h.two_pos
    rw [h.wlen, h3] at hj
    rw [h3]
    refine pivots_pos_three y w lam h3 h.lam_pos (h.fn_nonneg 0) (h.fn_nonneg 1) (h.fn_nonneg 2) ?_
    have hi' : i = 0 ∨ i = 1 := by omega
    have hj' : j = 1 ∨ j = 2 := by omega
    rcases hi' with rfl | rfl
    · exact Or.inl hi0
    · rcases hj' with rfl | rfl
      · omega
      · exact Or.inr hj0

end contract

end Hdc.SafeWs2d
