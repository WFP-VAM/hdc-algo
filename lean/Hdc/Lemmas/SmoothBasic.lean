import Hdc.Model.Smooth
import Hdc.Props.C06core
import Hdc.Lemmas.StatsBasic
import Mathlib.Algebra.Order.Field.Basic
import Mathlib.Algebra.Order.Ring.Abs
import Mathlib.Algebra.BigOperators.Group.List.Basic
import Mathlib.Algebra.Order.BigOperators.Group.List
/-
Bridge lemmas: over a linearly ordered field the carrier-level primitives of the models are
the usual mathematical notions, and the list programs `asymW`, `mul2`, `sub2`, `fitTerms`
are `zipWith`s.
-/
namespace Hdc.Smooth
open Hdc Hdc.C01

set_option linter.unusedSectionVars false

variable {α : Type} [Field α] [LinearOrder α] [IsStrictOrderedRing α]

theorem nat_eq (k : ℕ) : (nat k : α) = (k : α) := rfl
@[simp] theorem nat_zero : (nat 0 : α) = 0 := by simp [nat]
@[simp] theorem nat_one : (nat 1 : α) = 1 := by simp [nat]
@[simp] theorem nat_two : (nat 2 : α) = 2 := by simp [nat]

theorem eqv_iff (a b : α) : eqv a b = true ↔ a = b := Stats.eqv_iff a b

theorem eqv_eq_false_iff (a b : α) : eqv a b = false ↔ a ≠ b := Stats.eqv_false_iff a b

theorem eqv_eq_decide (a b : α) : eqv a b = decide (a = b) := Stats.eqv_eq_decide a b

theorem absv_eq (a : α) : absv a = |a| := Stats.absv_eq a

theorem foldl_add_eq (l : List α) (a : α) : l.foldl (· + ·) a = a + l.sum :=
  Stats.foldl_add_eq l a

theorem sumF_eq (l : List α) : sumF l = l.sum := Stats.sumF_eq l

theorem sumL_eq (l : List α) : sumL l = l.sum := Stats.sumL_eq l

/-! ### the elementwise list programs are `zipWith`s -/

theorem mul2_eq (a b : List α) : mul2 a b = List.zipWith (· * ·) a b := by
  induction a generalizing b <;> cases b <;> simp [mul2, *]

theorem sub2_eq (a b : List α) : sub2 a b = List.zipWith (· - ·) a b := by
  induction a generalizing b <;> cases b <;> simp [sub2, *]

/-- one asymmetric weight -/
def aw (p w y z : α) : α := w * (if z < y then p else 1 - p)

theorem aw_coeff_pos {p : α} (hp0 : 0 < p) (hp1 : p < 1) (y z : α) :
    0 < (if z < y then p else 1 - p) := by
  split_ifs
  exacts [hp0, sub_pos.2 hp1]

theorem asymW_eq (p : α) (w y z : List α) :
    asymW p w y z = List.zipWith (fun w yz => aw p w yz.1 yz.2) w (y.zip z) := by
  induction w generalizing y z <;> cases y <;> cases z <;> simp [asymW, aw, *]

/-- one fit term -/
def ft (w y z : α) : α := (w * (y - z)) * (w * (y - z))

theorem fitTerms_eq (w y z : List α) :
    fitTerms w y z = List.zipWith (fun w yz => ft w yz.1 yz.2) w (y.zip z) := by
  induction w generalizing y z <;> cases y <;> cases z <;> simp [fitTerms, ft, *]

@[simp] theorem mul2_length (a b : List α) : (mul2 a b).length = min a.length b.length := by
  rw [mul2_eq]; simp

@[simp] theorem sub2_length (a b : List α) : (sub2 a b).length = min a.length b.length := by
  rw [sub2_eq]; simp

@[simp] theorem asymW_length (p : α) (w y z : List α) :
    (asymW p w y z).length = min w.length (min y.length z.length) := by
  rw [asymW_eq]; simp

@[simp] theorem fitTerms_length (w y z : List α) :
    (fitTerms w y z).length = min w.length (min y.length z.length) := by
  rw [fitTerms_eq]; simp

theorem fn_of_le (l : List α) (i : ℕ) (h : l.length ≤ i) : fn l i = 0 := Ws2d.fnl_of_le l i h

theorem fn_forall {P : α → Prop} (l : List α) (h0 : P 0) (h : ∀ x ∈ l, P x) (i : ℕ) :
    P (fn l i) := by
  by_cases hi : i < l.length
  · rw [fn_of_lt _ i hi]; exact h _ (List.getElem_mem hi)
  · rw [fn_of_le _ i (by omega)]; exact h0

theorem fn_ne_zero_lt (l : List α) (i : ℕ) (h : fn l i ≠ 0) : i < l.length := by
  by_contra hc
  exact h (fn_of_le l i (not_lt.1 hc))

theorem fn_mul2 (a b : List α) (i : ℕ) : fn (mul2 a b) i = fn a i * fn b i := by
  simp only [mul2_eq, fn, List.getD_eq_getElem?_getD, List.getElem?_zipWith]
  cases a[i]? <;> cases b[i]? <;> simp

theorem fn_sub2 (a b : List α) (i : ℕ) (h1 : i < a.length) (h2 : i < b.length) :
    fn (sub2 a b) i = fn a i - fn b i := by
  simp [sub2_eq, fn, h1, h2]

theorem fn_asymW (p : α) (w y z : List α) (i : ℕ) (h1 : i < w.length) (h2 : i < y.length)
    (h3 : i < z.length) : fn (asymW p w y z) i = aw p (fn w i) (fn y i) (fn z i) := by
  simp [asymW_eq, fn, h1, h2, h3]

theorem fn_fitTerms (w y z : List α) (i : ℕ) (h1 : i < w.length) (h2 : i < y.length)
    (h3 : i < z.length) :
    fn (fitTerms w y z) i = (fn w i * (fn y i - fn z i)) ^ 2 := by
  simp [fitTerms_eq, fn, h1, h2, h3, ft, sq]

/-- the support of the asymmetric weights is inside the support of `w` -/
theorem fn_asymW_ne_zero (p : α) (w y z : List α) (i : ℕ) (h : fn (asymW p w y z) i ≠ 0) :
    fn w i ≠ 0 := by
  have hi := fn_ne_zero_lt _ i h
  simp only [asymW_length, lt_min_iff] at hi
  rw [fn_asymW p w y z i hi.1 hi.2.1 hi.2.2, aw] at h
  exact left_ne_zero_of_mul h

theorem zerosLike_eq_replicate (y : List α) : zerosLike y = List.replicate y.length 0 := by
  unfold zerosLike
  rw [nat_zero]
  exact List.map_const'

@[simp] theorem zerosLike_length (y : List α) : (zerosLike y).length = y.length := by
  simp [zerosLike]

theorem zerosLike_congr (y y' : List α) (h : y.length = y'.length) :
    zerosLike y = zerosLike y' := by
  rw [zerosLike_eq_replicate, zerosLike_eq_replicate, h]

theorem fn_zerosLike (y : List α) (i : ℕ) : fn (zerosLike y) i = 0 := by
  simp only [fn, zerosLike_eq_replicate, List.getD_eq_getElem?_getD, List.getElem?_replicate]
  split_ifs <;> rfl

@[simp] theorem weightsOf_length (miss : α → Bool) (y : List α) :
    (weightsOf miss y).length = y.length := by simp [weightsOf]

@[simp] theorem cleanOf_length (miss : α → Bool) (y : List α) :
    (cleanOf miss y).length = y.length := by simp [cleanOf]

theorem fn_weightsOf (miss : α → Bool) (y : List α) (i : ℕ) (h : i < y.length) :
    fn (weightsOf miss y) i = if miss y[i] then 0 else 1 := by
  simp [weightsOf, fn, h]

theorem fn_cleanOf (miss : α → Bool) (y : List α) (i : ℕ) (h : i < y.length) :
    fn (cleanOf miss y) i = if miss y[i] then 0 else y[i] := by
  simp [cleanOf, fn, h]

theorem weightsOf_mem {miss : α → Bool} {y : List α} {x : α} (hx : x ∈ weightsOf miss y) :
    x = 0 ∨ x = 1 := by
  simp only [weightsOf, List.mem_map] at hx
  obtain ⟨a, _, rfl⟩ := hx
  split_ifs <;> simp

theorem weightsOf_nonneg (miss : α → Bool) (y : List α) : ∀ x ∈ weightsOf miss y, (0 : α) ≤ x := by
  intro x hx
  rcases weightsOf_mem hx with rfl | rfl
  · exact le_rfl
  · exact zero_le_one

theorem weightsOf_le_one (miss : α → Bool) (y : List α) : ∀ x ∈ weightsOf miss y, x ≤ (1 : α) := by
  intro x hx
  rcases weightsOf_mem hx with rfl | rfl
  · exact zero_le_one
  · exact le_rfl

/-- a non-zero validity weight means the cell is valid -/
theorem weightsOf_ne_zero (miss : α → Bool) (y : List α) (i : ℕ) (h : fn (weightsOf miss y) i ≠ 0) :
    ∃ hi : i < y.length, miss y[i] = false := by
  have hi : i < y.length := by simpa using fn_ne_zero_lt _ i h
  refine ⟨hi, ?_⟩
  rw [fn_weightsOf miss y i hi] at h
  by_contra hc
  simp [hc] at h

/-- cleaning does not change what the weights let through -/
theorem cleanOf_masked (miss : α → Bool) (y : List α) (i : ℕ) (h : fn (weightsOf miss y) i ≠ 0) :
    fn y i = fn (cleanOf miss y) i := by
  obtain ⟨hi, hm⟩ := weightsOf_ne_zero miss y i h
  rw [fn_cleanOf miss y i hi, fn_of_lt _ i hi, hm]; simp

/-- two valid cells, located -/
theorem exists_two_valid (miss : α → Bool) (y : List α) (h : 2 ≤ countValid miss y) :
    ∃ i j, ∃ (_ : i < j) (hj : j < y.length), miss (y[i]'(by omega)) = false ∧ miss y[j] = false := by
  induction y with
  | nil => simp [countValid] at h
  | cons a as ih =>
    by_cases ha : miss a = true
    · have h' : 2 ≤ countValid miss as := by
        simpa [countValid, List.filter_cons, ha] using h
      obtain ⟨i, j, hij, hj, h1, h2⟩ := ih h'
      exact ⟨i + 1, j + 1, by omega, by simpa using hj, by simpa using h1, by simpa using h2⟩
    · have ha' : miss a = false := by simpa using ha
      have h' : 1 ≤ (as.filter fun x => !miss x).length := by
        simpa [countValid, List.filter_cons, ha'] using h
      obtain ⟨b, hb⟩ := List.exists_mem_of_length_pos h'
      rw [List.mem_filter] at hb
      obtain ⟨j, hj, rfl⟩ := List.getElem_of_mem hb.1
      exact ⟨0, j + 1, by omega, by simpa using hj, ha', by simpa using hb.2⟩

/-- the guard of the fixed-λ kernels `gu` and `pgu` -/
theorem guard_eq {β : Type} (lam : α) (n : ℕ) (x : β) :
    (if eqv lam (nat 0) then none else if 1 < n then some x else none) =
      if lam = 0 ∨ n ≤ 1 then none else some x := by
  rw [eqv_eq_decide, nat_zero]
  by_cases h0 : lam = 0 <;> by_cases h1 : 1 < n <;> simp [h0, h1]

/-- `n = np.sum(w)` -/
theorem cast_countValid (miss : α → Bool) (y : List α) :
    (countValid miss y : α) = (weightsOf miss y).sum := by
  induction y with
  | nil => simp [countValid, weightsOf]
  | cons a as ih =>
    simp only [countValid, weightsOf, nat_zero, nat_one, List.filter_cons, List.map_cons,
      List.sum_cons] at ih ⊢
    cases miss a <;> simp [ih, add_comm]

theorem countValid_le_length (miss : α → Bool) (y : List α) : countValid miss y ≤ y.length :=
  List.length_filter_le _ _

/-- the contract of C01 holds for the cleaned data with the validity weights -/
theorem inContract_clean (miss : α → Bool) (y : List α) (lam : α) (hn : 4 ≤ y.length)
    (hlam : 0 < lam) (hv : 2 ≤ countValid miss y) :
    InContract (cleanOf miss y) (weightsOf miss y) lam where
  len := by simpa using hn
  wlen := by simp
  lam_pos := hlam
  w_nonneg := weightsOf_nonneg miss y
  two_pos := by
    obtain ⟨i, j, hij, hj, h1, h2⟩ := exists_two_valid miss y hv
    refine ⟨i, j, hij, by simpa using hj, ?_, ?_⟩
    · rw [fn_weightsOf miss y i (by omega), h1]; simp
    · rw [fn_weightsOf miss y j hj, h2]; simp

/-- the same with the raw (uncleaned) data, as the V-curve kernels use it -/
theorem inContract_raw (miss : α → Bool) (y : List α) (lam : α) (hn : 4 ≤ y.length)
    (hlam : 0 < lam) (hv : 2 ≤ countValid miss y) :
    InContract y (weightsOf miss y) lam where
  len := hn
  wlen := by simp
  lam_pos := hlam
  w_nonneg := weightsOf_nonneg miss y
  two_pos := (inContract_clean miss y lam hn hlam hv).two_pos

/-- for `0 < p < 1` the re-weighted problem is again inside the contract of C01 -/
theorem inContract_asymW {y w : List α} {lam : α} (h : InContract y w lam) (p : α) (hp0 : 0 < p)
    (hp1 : p < 1) (z : List α) (hz : z.length = y.length) : InContract y (asymW p w y z) lam where
  len := h.len
  wlen := by simp [h.wlen, hz]
  lam_pos := h.lam_pos
  w_nonneg := by
    intro x hx
    obtain ⟨i, hi, rfl⟩ := List.getElem_of_mem hx
    have hi' : i < y.length := by simpa [h.wlen, hz] using hi
    rw [← fn_of_lt _ i hi, fn_asymW p w y z i (h.wlen ▸ hi') hi' (hz ▸ hi')]
    exact mul_nonneg (h.w_nonneg_fn i hi') (aw_coeff_pos hp0 hp1 _ _).le
  two_pos := by
    obtain ⟨i, j, hij, hj, hi0, hj0⟩ := h.two_pos
    have hj' : j < y.length := h.wlen ▸ hj
    refine ⟨i, j, hij, by simpa [h.wlen, hz] using hj', ?_, ?_⟩
    · rw [fn_asymW p w y z i (by omega) (by omega) (by omega)]
      exact mul_pos hi0 (aw_coeff_pos hp0 hp1 _ _)
    · rw [fn_asymW p w y z j hj hj' (by omega)]
      exact mul_pos hj0 (aw_coeff_pos hp0 hp1 _ _)

end Hdc.Smooth
