import Hdc.Lemmas.SmoothIrls
/-
The expectile (asymmetric least-squares) equations have at most one solution inside the
contract of C01: they are the stationarity conditions of a strictly convex functional.
-/
namespace Hdc.Smooth
open Hdc Hdc.C01 Finset

variable {α : Type} [Field α] [LinearOrder α] [IsStrictOrderedRing α]

/-- half the derivative of the asymmetric square `ρ_p(r) = p r²` (r > 0), `(1 − p) r²` (r ≤ 0) -/
def psi (p r : α) : α := (if 0 < r then p else 1 - p) * r

/-- `ψ` is strongly monotone with modulus `min p (1 − p)` -/
theorem psi_mono (p r r' : α) :
    min p (1 - p) * (r - r') ^ 2 ≤ (psi p r - psi p r') * (r - r') := by
  have ha : 0 ≤ p - min p (1 - p) := sub_nonneg.2 (min_le_left _ _)
  have hb : 0 ≤ 1 - p - min p (1 - p) := sub_nonneg.2 (min_le_right _ _)
  generalize min p (1 - p) = m at *
  unfold psi
  split_ifs with h1 h2 h2
  · linarith only [mul_nonneg ha (sq_nonneg (r - r'))]
  · have h2' := not_lt.1 h2
    linarith only [mul_nonneg (add_nonneg (mul_nonneg ha h1.le) (mul_nonneg hb (neg_nonneg.2 h2')))
      (sub_nonneg.2 (h2'.trans h1.le))]
  · have h1' := not_lt.1 h1
    linarith only [mul_nonneg (add_nonneg (mul_nonneg hb (neg_nonneg.2 h1')) (mul_nonneg ha h2.le))
      (sub_nonneg.2 (h1'.trans h2.le))]
  · linarith only [mul_nonneg hb (sq_nonneg (r - r'))]

/-- the expectile equations: the normal equations with the weights computed from the
    solution itself (`w_i p` where the data lies above the curve, `w_i (1 − p)` elsewhere) -/
def ExpectileEq (n : ℕ) (y w : ℕ → α) (lam p : α) (z : ℕ → α) : Prop :=
  NormalEq n y (fun i => aw p (w i) (y i) (z i)) lam z

theorem expectileEq_iff (n : ℕ) (y w : ℕ → α) (lam p : α) (z : ℕ → α) :
    ExpectileEq n y w lam p z ↔ ∀ i < n, w i * psi p (y i - z i) = lam * DtD n z i := by
  unfold ExpectileEq NormalEq aw psi
  simp only [sub_pos]
  refine forall₂_congr fun i _ => ?_
  constructor
  · intro h; linear_combination -h
  · intro h; linear_combination -h

/-- uniqueness of the solution of the expectile equations (0 < p < 1, inside the contract) -/
theorem expectileEq_unique (n : ℕ) (y w : ℕ → α) (lam p : α) (hlam : 0 < lam) (hp0 : 0 < p)
    (hp1 : p < 1) (hw : ∀ i < n, 0 ≤ w i) (a b : ℕ) (hab : a < b) (hb : b < n) (hwa : 0 < w a)
    (hwb : 0 < w b) (z z' : ℕ → α) (hz : ExpectileEq n y w lam p z)
    (hz' : ExpectileEq n y w lam p z') : ∀ i < n, z i = z' i := by
  rw [expectileEq_iff] at hz hz'
  have hm0 : 0 < min p (1 - p) := lt_min hp0 (sub_pos.2 hp1)
  -- for `h = z − z'`: `λ Σ (Δ²h)² = Σ h (λ DᵀD h) = Σ h w (ψ(y − z) − ψ(y − z'))`, and by strong
  -- monotonicity of `ψ` each term is at most `− m w h²`
  have hq : Ws2d.qf n (fun i => min p (1 - p) * w i) lam (fun k => z k - z' k) ≤ 0 := by
    have hpen : lam * ∑ j ∈ range (n - 2), Ws2d.d2 (fun k => z k - z' k) j ^ 2 =
        ∑ i ∈ range n, (z i - z' i) * (w i * (psi p (y i - z i) - psi p (y i - z' i))) := by
      simp only [sq, ← Ws2d.sum_mul_dtd n (fun k => z k - z' k), Ws2d.dtd_sub, Finset.mul_sum]
      refine Finset.sum_congr rfl fun i hi => ?_
      rw [mul_sub (w i), hz i (mem_range.1 hi), hz' i (mem_range.1 hi)]
      simp only [DtD_eq]
      ring
    rw [Ws2d.qf, hpen, ← Finset.sum_add_distrib]
    refine Finset.sum_nonpos fun i hi => ?_
    linarith only [mul_nonneg (hw i (mem_range.1 hi))
      (sub_nonneg.2 (psi_mono p (y i - z i) (y i - z' i)))]
  intro i hi
  exact sub_eq_zero.1 (Ws2d.qf_definite n _ lam hlam (fun i hi => mul_nonneg hm0.le (hw i hi))
    a b hab hb (mul_pos hm0 hwa) (mul_pos hm0 hwb) _ hq i hi)

variable {y w : List α} {lam : α}

/-- a fixed point of "re-weight, re-fit" solves the expectile equations -/
theorem expectileEq_of_fix (h : InContract y w lam) (p : α) (hp0 : 0 < p) (hp1 : p < 1) (z : List α)
    (hzl : z.length = y.length) (hz : z = ws2d y lam (asymW p w y z)) :
    ExpectileEq y.length (fn y) (fn w) lam p (fn z) := by
  intro i hi
  have := normalEq_of_fix h p hp0 hp1 z hzl hz i hi
  rwa [fn_asymW p w y z i (h.wlen ▸ hi) hi (hzl ▸ hi)] at this

/-- two fixed points of "re-weight, re-fit" of full length coincide -/
theorem expectile_fix_unique (h : InContract y w lam) (p : α) (hp0 : 0 < p) (hp1 : p < 1)
    (z z' : List α) (hz : z = ws2d y lam (asymW p w y z)) (hz' : z' = ws2d y lam (asymW p w y z'))
    (hl : z.length = y.length) (hl' : z'.length = y.length) : z = z' := by
  obtain ⟨a, b, hab, hb, hwa, hwb⟩ := h.two_pos
  apply list_eq_of_fn _ _ (by rw [hl, hl'])
  intro i hi
  rw [hl] at hi
  exact expectileEq_unique y.length (fn y) (fn w) lam p h.lam_pos hp0 hp1 h.w_nonneg_fn a b hab
    (by rw [← h.wlen]; exact hb) hwa hwb (fn z) (fn z')
    (expectileEq_of_fix h p hp0 hp1 z hl hz) (expectileEq_of_fix h p hp0 hp1 z' hl' hz') i hi

theorem asymW_shift (p : α) (w y z : List α) (c : α) :
    asymW p w (y.map (· + c)) (z.map (· + c)) = asymW p w y z := by
  induction w generalizing y z <;> cases y <;> cases z <;> simp [asymW, *]

/-- the shifted fixed point is a fixed point of the shifted problem -/
theorem expectile_fix_shift (h : InContract y w lam) (p : α) (hp0 : 0 < p) (hp1 : p < 1) (c : α)
    (z : List α) (hl : z.length = y.length) (hz : z = ws2d y lam (asymW p w y z)) :
    z.map (· + c) = ws2d (y.map (· + c)) lam (asymW p w (y.map (· + c)) (z.map (· + c))) := by
  rw [asymW_shift, ws2d_shift (inContract_asymW h p hp0 hp1 z hl) c, ← hz]

theorem iter_masked {w y y' : List α} (h : MaskedEq w y y') (lam p : α) (z0 : List α) (j : ℕ) :
    iter y w lam p z0 j = iter y' w lam p z0 j := by
  induction j with
  | zero => rfl
  | succ j ih =>
    simp only [iter, pass]
    rw [ih, ← asymW_masked h, ← ws2d_masked h (suppIn_asymW p w y _)]

end Hdc.Smooth
