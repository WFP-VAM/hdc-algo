import Hdc.Lemmas.SmoothInv
/-
The GCV machinery: the sweep keeps the first strict minimum, the robust loop as an explicit
chain of steps, the robust re-weighting step.
-/
namespace Hdc.Smooth
open Hdc Hdc.C01

set_option linter.unusedSectionVars false

variable {α : Type} [Field α] [LinearOrder α] [IsStrictOrderedRing α]

/-- the GCV score of one λ -/
def gsc (G : GFns α) (y wt de : List α) (s : α) : α := (gcvScore G y wt de s).1

theorem gcvScore_snd (G : GFns α) (y wt de : List α) (s : α) :
    (gcvScore G y wt de s).2 = ws2d y s wt := rfl

/-- the candidate the sweep records for λ = `s` -/
def cand (G : GFns α) (y wt de : List α) (s : α) : Best α :=
  ⟨gsc G y wt de s, s, some (ws2d y s wt)⟩

def sweepStep (G : GFns α) (y wt de : List α) (b : Best α) (s : α) : Best α :=
  if gsc G y wt de s < b.score then cand G y wt de s else b

theorem gcvSweep_eq (G : GFns α) (y wt de lams : List α) (b : Best α) :
    gcvSweep G y wt de lams b = lams.foldl (sweepStep G y wt de) b := rfl

/-- state of the sweep after the prefix `pre`, started from `b0` -/
def SweepInv (G : GFns α) (y wt de : List α) (b0 : Best α) (pre : List α) (r : Best α) : Prop :=
  r.score ≤ b0.score ∧ (∀ s ∈ pre, ¬ gsc G y wt de s < r.score) ∧
    ((r = b0 ∧ ∀ s ∈ pre, ¬ gsc G y wt de s < b0.score) ∨
      ∃ k, ∃ hk : k < pre.length, r = cand G y wt de pre[k] ∧ gsc G y wt de pre[k] < b0.score ∧
        ∀ j (hj : j < k), gsc G y wt de pre[k] < gsc G y wt de (pre[j]'(by omega)))

theorem sweepInv_gcvSweep (G : GFns α) (y wt de lams : List α) (b0 : Best α) :
    SweepInv G y wt de b0 lams (gcvSweep G y wt de lams b0) :=
  foldMin_foldl Best.score (cand G y wt de) b0 lams

/-- the λ the sweep reports is the initial one or a swept one (with its curve) -/
theorem gcvSweep_lam (G : GFns α) (y wt de lams : List α) (b0 : Best α) :
    (gcvSweep G y wt de lams b0 = b0) ∨
      ((gcvSweep G y wt de lams b0).lam ∈ lams ∧
        (gcvSweep G y wt de lams b0).ytemp =
          some (ws2d y (gcvSweep G y wt de lams b0).lam wt)) := by
  obtain ⟨_, _, h | ⟨k, hk, hr, _, _⟩⟩ := sweepInv_gcvSweep G y wt de lams b0
  · exact Or.inl h.1
  · right; rw [hr]; exact ⟨List.getElem_mem hk, rfl⟩

/-- once a curve is recorded it stays recorded -/
theorem gcvSweep_ytemp_isSome (G : GFns α) (y wt de lams : List α) (b : Best α)
    (h : b.ytemp.isSome) : (gcvSweep G y wt de lams b).ytemp.isSome := by
  rw [gcvSweep_eq]
  induction lams generalizing b with
  | nil => exact h
  | cons s ss ih =>
    apply ih
    unfold sweepStep
    split_ifs
    exacts [rfl, h]

/-- state of the loop: running best, robust weights, history -/
abbrev GState (α : Type) := Best α × List α × List (Best α)

/-- the λ values swept in iteration `it` -/
def iterLams (llasPow : List α) (it : ℕ) (hist : List (Best α)) : List α :=
  if 1 < it then (match hist with | _ :: b1 :: _ => [b1.lam] | _ => []) else llasPow

def gstep (G : GFns α) (y w de llasPow : List α) (robust : Bool) (n : α) (it : ℕ)
    (st : GState α) : Option (GState α) :=
  let b' := gcvSweep G y (mul2 w st.2.1) de (iterLams llasPow it st.2.2) st.1
  if robust then
    match b'.ytemp with
    | none => none
    | some yt => some (b', robustStep G y yt (mul2 w st.2.1) de st.2.1 w b'.lam n, st.2.2 ++ [b'])
  else some (b', st.2.1, st.2.2 ++ [b'])

theorem gcvIter_zero (G : GFns α) (y w de llasPow : List α) (robust : Bool) (n : α) (it : ℕ)
    (b : Best α) (rw : List α) (hist : List (Best α)) :
    gcvIter G y w de llasPow robust n 0 it b rw hist = some (hist, rw) := rfl

/-- the chain of the first `k` iterations, starting at iteration number `it` -/
def grun (G : GFns α) (y w de llasPow : List α) (robust : Bool) (n : α) :
    ℕ → ℕ → GState α → Option (GState α)
  | 0, _, st => some st
  | k + 1, it, st => (gstep G y w de llasPow robust n it st).bind (grun G y w de llasPow robust n k (it + 1))

theorem gcvIter_eq_grun (G : GFns α) (y w de llasPow : List α) (robust : Bool) (n : α) (k it : ℕ)
    (b : Best α) (rw : List α) (hist : List (Best α)) :
    gcvIter G y w de llasPow robust n k it b rw hist =
      (grun G y w de llasPow robust n k it (b, rw, hist)).map fun st => (st.2.2, st.2.1) := by
  induction k generalizing it b rw hist with
  | zero => rfl
  | succ k ih =>
    cases robust with
    | false => exact ih _ _ _ _
    | true =>
      -- stated by `change`: the equations of `gcvIter` would split on the history
      change (match (gcvSweep G y (mul2 w rw) de (iterLams llasPow it hist) b).ytemp with
        | none => none
        | some yt => _) =
        Option.map _ (Option.bind
          (match (gcvSweep G y (mul2 w rw) de (iterLams llasPow it hist) b).ytemp with
            | none => none
            | some yt => _) _)
      split
      · rfl
      · exact ih _ _ _ _

theorem grun_succ_last (G : GFns α) (y w de llasPow : List α) (robust : Bool) (n : α) (k it : ℕ)
    (st : GState α) :
    grun G y w de llasPow robust n (k + 1) it st =
      (grun G y w de llasPow robust n k it st).bind (gstep G y w de llasPow robust n (it + k)) := by
  induction k generalizing it st with
  | zero => simp [grun]
  | succ k ih =>
    rw [grun]
    conv_rhs => rw [grun]
    cases gstep G y w de llasPow robust n it st with
    | none => rfl
    | some st' =>
      simp only [Option.bind_some]
      rw [ih, Nat.add_right_comm]
      rfl

theorem grun_invariant (G : GFns α) (y w de llasPow : List α) (robust : Bool) (n : α)
    (P : GState α → Prop)
    (hstep : ∀ it st st', P st → gstep G y w de llasPow robust n it st = some st' → P st')
    (k it : ℕ) (st r : GState α) (h0 : P st)
    (h : grun G y w de llasPow robust n k it st = some r) : P r := by
  induction k generalizing it st with
  | zero => exact Option.some.inj h ▸ h0
  | succ k ih =>
    obtain ⟨st1, h1, h2⟩ := Option.bind_eq_some_iff.1 h
    exact ih _ _ (hstep it st st1 h0 h1) h2

/-- the residuals entering the MAD: those at cells with non-zero weight -/
def rselOf (y ytemp wt : List α) : List α :=
  (((sub2 y ytemp).zip wt).filter fun (_, w) => !(eqv w (nat 0))).map (·.1)

/-- the MAD of `robustStep` -/
def madOf (y ytemp wt : List α) : α :=
  median ((rselOf y ytemp wt).map fun x => absv (x - median (rselOf y ytemp wt)))

/-- one bisquare weight, from the residual `ri` and the scale -/
def bisq (G : GFns α) (scale ri : α) : α :=
  if 0 < ri then 1
  else if 1 < |ri / scale / G.c2| then 0
  else (1 - (ri / scale / G.c2) * (ri / scale / G.c2)) * (1 - (ri / scale / G.c2) * (ri / scale / G.c2))

/-- the valid cells of `y` (those with non-zero validity weight) -/
def yvOf (y w : List α) : List α :=
  ((y.zip w).filter fun (_, wi) => !(eqv wi (nat 0))).map (·.1)

/-- the MAD threshold of `robustStep`: `madtol · (1 + max − min)` over the valid cells -/
def madMinOf (G : GFns α) (y w : List α) : α :=
  G.madtol * (1 + (maxL (yvOf y w) - minL (yvOf y w)))

def countPos (l : List α) : ℕ := (l.filter fun x => decide (0 < x)).length

def TwoPos (w : List α) : Prop := ∃ i j, i < j ∧ j < w.length ∧ 0 < fn w i ∧ 0 < fn w j

/-- the candidate new robust weights -/
def rnewOf (G : GFns α) (y ytemp wt de : List α) (s n : α) : List α :=
  (sub2 y ytemp).map (bisq G (G.c1 * madOf y ytemp wt * G.sqrt (1 - sumF (gammaOf wt de s) / n)))

theorem robustStep_eq (G : GFns α) (y ytemp wt de rw w : List α) (s n : α) :
    robustStep G y ytemp wt de rw w s n =
      if madMinOf G y w < madOf y ytemp wt then
        (if 1 < countPos (mul2 w (rnewOf G y ytemp wt de s n)) then rnewOf G y ytemp wt de s n else rw)
      else rw := by
  unfold robustStep madMinOf yvOf countPos rnewOf madOf rselOf bisq
  simp only [nat_zero, nat_one, absv_eq]

theorem twoPos_of_countPos (l : List α) (h : 1 < countPos l) : TwoPos l := by
  obtain ⟨i, j, hij, hj, h1, h2⟩ := exists_two_valid (fun x => !decide (0 < x)) l
    (by simpa [countValid, countPos] using Nat.succ_le_of_lt h)
  refine ⟨i, j, hij, hj, ?_, ?_⟩
  · rw [fn_of_lt _ i (by omega)]; simpa using h1
  · rw [fn_of_lt _ j hj]; simpa using h2

theorem bisq_range (G : GFns α) (scale ri : α) : 0 ≤ bisq G scale ri ∧ bisq G scale ri ≤ 1 := by
  unfold bisq
  split_ifs with h1 h2
  · exact ⟨zero_le_one, le_refl _⟩
  · exact ⟨le_refl _, zero_le_one⟩
  · set t := ri / scale / G.c2
    have h3 : t * t ≤ 1 := abs_le_one_iff_mul_self_le_one.1 (not_lt.1 h2)
    have h5 : 0 ≤ t * t := mul_self_nonneg t
    constructor <;> nlinarith

theorem rnewOf_range (G : GFns α) (y ytemp wt de : List α) (s n : α) :
    ∀ x ∈ rnewOf G y ytemp wt de s n, 0 ≤ x ∧ x ≤ 1 := by
  intro x hx
  obtain ⟨r, _, rfl⟩ := List.mem_map.1 hx
  exact bisq_range G _ r

theorem robustStep_range (G : GFns α) (y ytemp wt de rw w : List α) (s n : α)
    (h : ∀ x ∈ rw, 0 ≤ x ∧ x ≤ 1) :
    ∀ x ∈ robustStep G y ytemp wt de rw w s n, 0 ≤ x ∧ x ≤ 1 := by
  rw [robustStep_eq]
  split_ifs
  exacts [rnewOf_range G y ytemp wt de s n, h, h]

/-- the guard of the step: two positively weighted cells are never lost -/
theorem robustStep_two_pos (G : GFns α) (y ytemp wt de rw w : List α) (s n : α)
    (h : TwoPos (mul2 w rw)) : TwoPos (mul2 w (robustStep G y ytemp wt de rw w s n)) := by
  rw [robustStep_eq]
  split_ifs with h1 h2
  exacts [twoPos_of_countPos _ h2, h, h]

theorem robustStep_length (G : GFns α) (y ytemp wt de rw w : List α) (s n : α)
    (hy : ytemp.length = y.length) (hr : rw.length = y.length) :
    (robustStep G y ytemp wt de rw w s n).length = y.length := by
  rw [robustStep_eq]
  split_ifs
  exacts [by simp [rnewOf, hy], hr, hr]

/-- what a robust iteration does with the swept best `b'`: it fails if no curve is recorded
    yet, otherwise it re-weights against the recorded curve -/
def rstep (G : GFns α) (y w de : List α) (n : α) (rw : List α) (hist : List (Best α))
    (b' : Best α) : Option (GState α) :=
  b'.ytemp.map fun yt => (b', robustStep G y yt (mul2 w rw) de rw w b'.lam n, hist ++ [b'])

theorem gstep_robust (G : GFns α) (y w de llasPow : List α) (n : α) (it : ℕ) (st : GState α) :
    gstep G y w de llasPow true n it st =
      rstep G y w de n st.2.1 st.2.2
        (gcvSweep G y (mul2 w st.2.1) de (iterLams llasPow it st.2.2) st.1) := by
  unfold gstep rstep
  simp only [if_true]
  split <;> simp [*]

theorem gstep_robust_some (G : GFns α) (y w de llasPow : List α) (n : α) (it : ℕ)
    (st st' : GState α) (h : gstep G y w de llasPow true n it st = some st') :
    st'.1 = gcvSweep G y (mul2 w st.2.1) de (iterLams llasPow it st.2.2) st.1 ∧
    st'.2.2 = st.2.2 ++ [st'.1] ∧
    ∃ yt, st'.1.ytemp = some yt ∧
      st'.2.1 = robustStep G y yt (mul2 w st.2.1) de st.2.1 w st'.1.lam n := by
  rw [gstep_robust, rstep, Option.map_eq_some_iff] at h
  obtain ⟨yt, hy, rfl⟩ := h
  exact ⟨rfl, rfl, yt, hy, rfl⟩

theorem gcvSelect_unfold (G : GFns α) (y w llas : List α) (robust : Bool) :
    gcvSelect G y w llas robust =
      (grun G y w (deigs G y.length) (llas.map G.pow10) robust (sumF w) (if robust then 4 else 1) 0
        (⟨G.big, nat 0, none⟩, y.map (fun _ => nat 1), [])).map
        fun st => ((st.2.2.getD (if robust then 1 else 0) ⟨nat 0, nat 0, none⟩).lam, mul2 w st.2.1) := by
  unfold gcvSelect
  simp only []
  rw [gcvIter_eq_grun]
  cases grun G y w (deigs G y.length) (llas.map G.pow10) robust (sumF w) (if robust then 4 else 1) 0
        (⟨G.big, nat 0, none⟩, y.map (fun _ => nat 1), []) with
  | none => rfl
  | some st => cases robust <;> rfl

/-- result of a GCV kernel from the λ selection -/
def outOf (o : Option (α × List α)) (f : α → List α → List α) : GcvOut α :=
  match o with
  | none => .unbound
  | some (l, r) => .ok (f l r) l

@[simp] theorem outOf_none (f : α → List α → List α) : outOf none f = .unbound := rfl
@[simp] theorem outOf_some (l : α) (r : List α) (f : α → List α → List α) :
    outOf (some (l, r)) f = .ok (f l r) l := rfl

theorem wcv_unfold (G : GFns α) (miss : α → Bool) (y llas : List α) (robust : Bool) :
    wcv G miss y llas robust =
      if 4 < countValid miss y then
        outOf (gcvSelect G (cleanOf miss y) (weightsOf miss y) llas robust)
          (fun l r => ws2d (cleanOf miss y) l r)
      else .passthrough := rfl

theorem wcvp_unfold (G : GFns α) (miss : α → Bool) (y : List α) (p : α) (llas : List α) (robust : Bool) :
    wcvp G miss y p llas robust =
      if 4 < countValid miss y then
        outOf (gcvSelect G (cleanOf miss y) (weightsOf miss y) llas robust)
          (fun l r => expectile (cleanOf miss y) r l p)
      else .passthrough := rfl

/-- what `.ok` means for a GCV kernel (`wcv_unfold`, `wcvp_unfold`) -/
theorem gcvOut_eq_ok {c : Prop} [Decidable c] (o : Option (α × List α)) (f : α → List α → List α)
    (z : List α) (lopt : α) (h : (if c then outOf o f else .passthrough) = GcvOut.ok z lopt) :
    c ∧ ∃ r, o = some (lopt, r) ∧ z = f lopt r := by
  split_ifs at h with hc
  obtain _ | ⟨l, r⟩ := o
  · cases h
  · cases h
    exact ⟨hc, r, rfl, rfl⟩

end Hdc.Smooth
