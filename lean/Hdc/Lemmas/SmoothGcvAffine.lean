import Hdc.Lemmas.SmoothGcvShift
/-
The robust GCV loop on perfectly fitted data (all residuals on valid cells are zero, e.g. a
straight line): the MAD is 0, the robust weights stay 1, every score is 0.
-/
namespace Hdc.Smooth
open Hdc Hdc.C01

set_option linter.unusedSectionVars false

variable {α : Type} [Field α] [LinearOrder α] [IsStrictOrderedRing α]

theorem getD_zeros (l : List α) (h : ∀ x ∈ l, x = 0) (k : ℕ) : l.getD k (nat 0) = 0 := by
  by_cases hk : k < l.length
  · rw [List.getD_eq_getElem?_getD, List.getElem?_eq_getElem hk]
    exact h _ (List.getElem_mem hk)
  · rw [List.getD_eq_getElem?_getD, List.getElem?_eq_none (by omega)]
    exact nat_zero

theorem median_zeros (l : List α) (h : ∀ x ∈ l, x = 0) : median l = 0 := by
  have hs : ∀ x ∈ sortL l, x = 0 := fun x hx => h x (List.mem_mergeSort.1 hx)
  unfold median
  simp only []
  split_ifs
  · exact getD_zeros _ hs _
  · rw [getD_zeros _ hs, getD_zeros _ hs]; simp

/-- every selected residual is a residual at a cell with non-zero weight -/
theorem mem_rselOf (Y yt wt : List α) (x : α) (hx : x ∈ rselOf Y yt wt) :
    ∃ i, fn wt i ≠ 0 ∧ i < (sub2 Y yt).length ∧ x = fn (sub2 Y yt) i := by
  obtain ⟨⟨a, v⟩, hm, rfl⟩ := List.mem_map.1 hx
  obtain ⟨hz, hv⟩ := List.mem_filter.1 hm
  obtain ⟨i, hi, he⟩ := List.getElem_of_mem hz
  simp only [List.length_zip, lt_min_iff] at hi
  rw [List.getElem_zip, Prod.mk.injEq] at he
  refine ⟨i, ?_, hi.1, ?_⟩
  · rw [fn_of_lt _ i hi.2, he.2]
    simp only [Bool.not_eq_true', eqv_eq_false_iff, nat_zero] at hv
    exact hv
  · rw [fn_of_lt _ i hi.1, he.1]

/-- valid cells on the line `a + b·i`: the cleaned data are on the line wherever the validity
    weights are non-zero -/
theorem cleanOf_on_line (miss : α → Bool) (y : List α) (a b : α)
    (hline : ∀ i (hi : i < y.length), miss y[i] = false → y[i] = a + b * (i : α)) :
    ∀ i, fn (weightsOf miss y) i ≠ 0 → fn (cleanOf miss y) i = a + b * (i : α) := by
  intro i hi
  obtain ⟨hl, hm⟩ := weightsOf_ne_zero miss y i hi
  rw [fn_cleanOf miss y i hl, hm]
  simpa using hline i hl hm

theorem minL_le_maxL (l : List α) : minL l ≤ maxL l := by
  obtain _ | ⟨x, xs⟩ := l
  · exact le_refl _
  · have h : ∀ x, xs.foldl (fun m v => if v < m then v else m) x ≤ x ∧
        x ≤ xs.foldl (fun m v => if m < v then v else m) x := by
      induction xs with
      | nil => exact fun x => ⟨le_refl _, le_refl _⟩
      | cons a as ih =>
        intro x
        simp only [List.foldl_cons]
        constructor
        · refine (ih _).1.trans ?_
          split_ifs with h
          exacts [h.le, le_refl _]
        · refine le_trans ?_ (ih _).2
          split_ifs with h
          exacts [h.le, le_refl _]
    exact (h x).1.trans (h x).2

theorem madMinOf_nonneg (G : GFns α) (hmt : 0 ≤ G.madtol) (y w : List α) : 0 ≤ madMinOf G y w := by
  unfold madMinOf
  apply mul_nonneg hmt
  have := minL_le_maxL (yvOf y w)
  linarith

/-- a sweep that cannot improve (all scores are 0, the running score is 0) changes nothing -/
theorem gcvSweep_noimprove (G : GFns α) (Y wt de lams : List α) (b : Best α)
    (h : ∀ s ∈ lams, ¬ gsc G Y wt de s < b.score) : gcvSweep G Y wt de lams b = b := by
  obtain ⟨_, _, h3 | ⟨k, hk, _, hb, _⟩⟩ := sweepInv_gcvSweep G Y wt de lams b
  · exact h3.1
  · exact absurd hb (h _ (List.getElem_mem hk))

/-- the first sweep on perfectly fitted data records the first grid value -/
theorem gcvSweep_perfect_first (G : GFns α) (Y wt de : List α) (s : α) (ss : List α) (big : α) (hbig : 0 < big)
    (h0 : ∀ s' ∈ s :: ss, gsc G Y wt de s' = 0) :
    gcvSweep G Y wt de (s :: ss) ⟨big, nat 0, none⟩ = cand G Y wt de s := by
  obtain ⟨_, _, h3 | ⟨k, hk, hr, _, hfirst⟩⟩ :=
    sweepInv_gcvSweep G Y wt de (s :: ss) ⟨big, nat 0, none⟩
  · exact absurd (by rw [h0 s (by simp)]; exact hbig) (h3.2 s (by simp))
  · -- all scores are 0, so the first strict minimum is at the head
    obtain _ | k := k
    · exact hr
    · have := hfirst 0 (by omega)
      rw [h0 _ (List.getElem_mem _), h0 _ (List.getElem_mem _)] at this
      exact absurd this (lt_irrefl _)

/-- invariant: the robust weights are still all 1 and every recorded curve is `L` -/
def PerfInv (Y L : List α) (st : GState α) : Prop :=
  st.2.1 = Y.map (fun _ => (nat 1 : α)) ∧ ∀ yt, st.1.ytemp = some yt → yt = L

theorem perfInv_gstate0 (G : GFns α) (Y L : List α) : PerfInv Y L (gstate0 G Y) :=
  ⟨rfl, fun yt hyt => by simp [gstate0] at hyt⟩

/-! ### perfectly fitted data

Standing assumptions: the tolerance `madtol` is non-negative (`hmt`) and the data `Y` agree with
the curve `L` wherever `w` is non-zero (`hres`). -/
section
variable (G : GFns α) {w Y L : List α} (hmt : 0 ≤ G.madtol)
  (hres : ∀ i, fn w i ≠ 0 → fn Y i = fn L i)
include hres

/-- on perfectly fitted data the MAD is zero -/
theorem madOf_perfect (wt : List α) (hs : SuppIn wt w) :
    madOf Y L wt = 0 := by
  have hz : ∀ x ∈ rselOf Y L wt, x = 0 := by
    intro x hx
    obtain ⟨i, hi, hlt, rfl⟩ := mem_rselOf Y L wt x hx
    simp only [sub2_length, lt_min_iff] at hlt
    rw [fn_sub2 _ _ i hlt.1 hlt.2, hres i (hs i hi), sub_self]
  unfold madOf
  apply median_zeros
  intro x hx
  obtain ⟨r, hr, rfl⟩ := List.mem_map.1 hx
  rw [hz r hr, median_zeros _ hz, absv_eq]; simp

/-- … and the GCV score is zero -/
theorem gsc_perfect (hsq : G.sqrtw 0 = 0)
    (wt de : List α) (s : α) (hs : SuppIn wt w) (hfit : ws2d Y s wt = L) : gsc G Y wt de s = 0 := by
  have hz : ∀ x ∈ (mul2 (wt.map G.sqrtw) (sub2 Y L)).map (fun t => t * t), x = 0 := by
    intro x hx
    obtain ⟨t, ht, rfl⟩ := List.mem_map.1 hx
    obtain ⟨i, hi, rfl⟩ := List.getElem_of_mem ht
    have hi' := hi
    simp only [mul2_length, List.length_map, sub2_length, lt_min_iff] at hi'
    rw [← fn_of_lt _ i hi, fn_mul2, fn_map_of_lt _ _ _ hi'.1]
    by_cases h0 : fn wt i = 0
    · rw [h0, hsq]; simp
    · rw [fn_sub2 _ _ i hi'.2.1 hi'.2.2, hres i (hs i h0)]; simp
  unfold gsc gcvScore
  simp only [hfit, sumF_eq, List.sum_eq_zero hz, zero_div]

include hmt

/-- … hence the robust weights are kept -/
theorem robustStep_perfect (wt de rw w' : List α) (s n : α)
    (hs : SuppIn wt w) : robustStep G Y L wt de rw w' s n = rw := by
  rw [robustStep_eq, madOf_perfect hres wt hs, if_neg (not_lt.2 (madMinOf_nonneg G hmt Y w'))]

theorem gstep_perfInv (hwl : w.length = Y.length)
    (de llasPow : List α) (hfit : ∀ s ∈ llasPow, ws2d Y s w = L) (n : α) (it : ℕ) (st st' : GState α)
    (hI : RInv llasPow Y.length st) (hP : PerfInv Y L st)
    (h : gstep G Y w de llasPow true n it st = some st') : PerfInv Y L st' := by
  obtain ⟨hrw, hyt⟩ := hP
  obtain ⟨a, _, yt, c1, c2⟩ := gstep_robust_some _ _ _ _ _ _ _ _ _ h
  have hwt : mul2 w st.2.1 = w := by rw [hrw, mul2_ones' w Y hwl]
  have hsub := iterLams_subset llasPow it st.2.2 hI.2.2.2
  have hyt' : ∀ yt, st'.1.ytemp = some yt → yt = L := by
    intro yt' hy'
    rw [a, hwt] at hy'
    rcases gcvSweep_lam G Y w de (iterLams llasPow it st.2.2) st.1 with e | ⟨e1, e2⟩
    · rw [e] at hy'; exact hyt yt' hy'
    · rw [e2, Option.some.injEq] at hy'
      rw [← hy']; exact hfit _ (hsub _ e1)
  refine ⟨?_, hyt'⟩
  rw [c2, hyt' yt c1, robustStep_perfect G hmt hres _ de _ _ _ n (suppIn_mul2 _ _)]
  exact hrw

theorem grun_perfInv (hwl : w.length = Y.length)
    (de llasPow : List α) (hfit : ∀ s ∈ llasPow, ws2d Y s w = L) (n : α) (k it : ℕ) (st r : GState α)
    (hI : RInv llasPow Y.length st) (hP : PerfInv Y L st)
    (h : grun G Y w de llasPow true n k it st = some r) : PerfInv Y L r :=
  (grun_invariant G Y w de llasPow true n (fun st => RInv llasPow Y.length st ∧ PerfInv Y L st)
    (fun it st st' hP h => ⟨gstep_rinv G de llasPow n it st st' hwl hP.1 h,
      gstep_perfInv G hmt hres hwl de llasPow hfit n it st st' hP.1 hP.2 h⟩) k it st r ⟨hI, hP⟩ h).2

/-! ### existence: on perfectly fitted data the first grid value is selected -/

/-- a robust step on perfectly fitted data, given what its sweep returns: the weights stay 1 -/
theorem gstep_perfect (hwl : w.length = Y.length) (de llasPow : List α) (n : α) (it : ℕ) (b b' : Best α)
    (hist : List (Best α)) (hsw : gcvSweep G Y w de (iterLams llasPow it hist) b = b')
    (hy : b'.ytemp = some L) :
    gstep G Y w de llasPow true n it (b, Y.map (fun _ => (nat 1 : α)), hist) =
      some (b', Y.map (fun _ => (nat 1 : α)), hist ++ [b']) := by
  rw [gstep_robust, rstep]
  simp only [mul2_ones' w Y hwl, hsw, hy, Option.map_some,
    robustStep_perfect G hmt hres w de _ _ _ n (SuppIn.refl _)]

/-- the robust iterations on perfectly fitted data: the first grid value is recorded in
    iteration 0 and nothing changes afterwards -/
theorem grun_perfect_iter (hsq : G.sqrtw 0 = 0) (hwl : w.length = Y.length) (de : List α) (s1 : α) (ss : List α)
    (hfit : ∀ s ∈ s1 :: ss, ws2d Y s w = L) (n : α) (hbig : 0 < G.big) (k : ℕ) :
    grun G Y w de (s1 :: ss) true n (k + 1) 0 (gstate0 G Y) =
      some (cand G Y w de s1, Y.map (fun _ => (nat 1 : α)),
        List.replicate (k + 1) (cand G Y w de s1)) := by
  have h0 : ∀ s' ∈ s1 :: ss, gsc G Y w de s' = 0 := fun s' hs' =>
    gsc_perfect G hres hsq w de s' (SuppIn.refl _) (hfit s' hs')
  have hy : (cand G Y w de s1).ytemp = some L := congrArg some (hfit s1 (by simp))
  induction k with
  | zero =>
    simp only [grun, gstate0, gstep_perfect G hmt hres hwl de (s1 :: ss) n 0 _ _ []
      (gcvSweep_perfect_first G Y w de s1 ss G.big hbig h0) hy]
    rfl
  | succ k ih =>
    have hsw : gcvSweep G Y w de (iterLams (s1 :: ss) (0 + (k + 1))
        (List.replicate (k + 1) (cand G Y w de s1))) (cand G Y w de s1) = cand G Y w de s1 := by
      apply gcvSweep_noimprove
      intro s hs
      have hs' := iterLams_subset (s1 :: ss) _ _
        (fun b hb => by rw [List.eq_of_mem_replicate hb]; simp [cand]) s hs
      show ¬ gsc G Y w de s < gsc G Y w de s1
      rw [h0 s hs', h0 s1 (by simp)]
      exact lt_irrefl _
    rw [grun_succ_last, ih, Option.bind_some,
      gstep_perfect G hmt hres hwl de (s1 :: ss) n _ _ _ _ hsw hy, ← List.replicate_succ']

/-- the four robust iterations on perfectly fitted data -/
theorem grun_perfect (hsq : G.sqrtw 0 = 0)
    (hwl : w.length = Y.length) (de : List α) (s1 : α) (ss : List α)
    (hfit : ∀ s ∈ s1 :: ss, ws2d Y s w = L) (n : α) (hbig : 0 < G.big) :
    grun G Y w de (s1 :: ss) true n 4 0 (gstate0 G Y) =
      some (cand G Y w de s1, Y.map (fun _ => (nat 1 : α)),
        [cand G Y w de s1, cand G Y w de s1, cand G Y w de s1, cand G Y w de s1]) :=
  grun_perfect_iter G hmt hres hsq hwl de s1 ss hfit n hbig 3

end

end Hdc.Smooth
