import Hdc.Lemmas.SmoothGcv
/-
The GCV machinery on data shifted by a constant: every score, every MAD and every robust
weight (on the support of the validity weights) is unchanged, every recorded curve is shifted.
The shifted data agree with the shift of the cleaned data only where the validity weights are
non-zero (`MaskedEq`); all quantities involved look at the data only there.
`optv_congr` is the corresponding fact for the V-curve kernel and an arbitrary transformation.
-/
namespace Hdc.Smooth
open Hdc Hdc.C01

set_option linter.unusedSectionVars false

variable {α : Type} [Field α] [LinearOrder α] [IsStrictOrderedRing α]

/-- the running best with its curve shifted -/
def shiftB (c : α) (b : Best α) : Best α := ⟨b.score, b.lam, b.ytemp.map (·.map (· + c))⟩

theorem shiftB_none (c s l : α) : shiftB c ⟨s, l, none⟩ = ⟨s, l, none⟩ := rfl

theorem Best.ext' (a b : Best α) (h1 : a.score = b.score) (h2 : a.lam = b.lam)
    (h3 : a.ytemp = b.ytemp) : a = b := by
  cases a; cases b; simp_all

/-- `optv` commutes with a transformation `f` of the series under which the valid count, the
    fit and the roughness are invariant and which carries the Whittaker curve along -/
theorem optv_congr (F : VFns α) {miss miss' : α → Bool} {y y' : List α} (llas : List α)
    (f : List α → List α) (hcnt : countValid miss' y' = countValid miss y)
    (hpow : ∀ x, 0 < F.pow10 x)
    (hcurve : 1 < countValid miss y → ∀ lam, 0 < lam →
      ws2d y' lam (weightsOf miss' y') = f (ws2d y lam (weightsOf miss y)))
    (hfit : ∀ z, z.length = y.length →
      fitSS (weightsOf miss' y') y' (f z) = fitSS (weightsOf miss y) y z)
    (hpen : ∀ z, penSS (f z) = penSS z) :
    optv F miss' y' llas = (optv F miss y llas).map fun r => (f r.1, r.2) := by
  rw [optv_unfold, optv_unfold, hcnt]
  split_ifs with hc
  · have hsel : vselect F (weightsOf miss' y') y' llas
          (fun (_ : Unit) lam => ((), ws2d y' lam (weightsOf miss' y'))) () =
        vselect F (weightsOf miss y) y llas
          (fun (_ : Unit) lam => ((), ws2d y lam (weightsOf miss y))) () := by
      apply vselect_rel F _ _ _ _ llas _ _ (fun _ _ => True) () () trivial
      intro _ _ _ l _
      simp only [hcurve hc _ (hpow l), hpen]
      exact ⟨trivial, hfit _ (ws2d_length _ _ _ (by simp)), trivial⟩
    -- the selected λ is a power of ten, hence positive
    rw [hsel, vselect_eq]
    cases argminFirst (vcurve F (gridStep llas) (vpts F (weightsOf miss y) y llas
        (fun (_ : Unit) lam => ((), ws2d y lam (weightsOf miss y))) ())) with
    | none => rfl
    | some b => simp only [Option.map_some, hcurve hc _ (hpow _)]
  · rfl

theorem maxL_shift (c : α) (l : List α) (hl : l ≠ []) : maxL (l.map (· + c)) = maxL l + c := by
  obtain _ | ⟨x, xs⟩ := l
  · exact absurd rfl hl
  · show (xs.map (· + c)).foldl _ (x + c) = xs.foldl _ x + c
    rw [List.foldl_map]
    exact List.foldl_hom (· + c) (fun a b => by split_ifs <;> linarith)

theorem minL_shift (c : α) (l : List α) (hl : l ≠ []) : minL (l.map (· + c)) = minL l + c := by
  obtain _ | ⟨x, xs⟩ := l
  · exact absurd rfl hl
  · show (xs.map (· + c)).foldl _ (x + c) = xs.foldl _ x + c
    rw [List.foldl_map]
    exact List.foldl_hom (· + c) (fun a b => by split_ifs <;> linarith)

/-- the spread `max − min` is shift invariant (also for the empty list) -/
theorem spread_shift (c : α) (l : List α) :
    maxL (l.map (· + c)) - minL (l.map (· + c)) = maxL l - minL l := by
  by_cases hl : l = []
  · subst hl; rfl
  · rw [maxL_shift c l hl, minL_shift c l hl]; ring

theorem yvOf_map (f : α → α) (Y w : List α) : yvOf (Y.map f) w = (yvOf Y w).map f := by
  simp [yvOf, List.zip_map_left, List.filter_map, Function.comp_def]

/-! ### scores and the robust step on shifted data

Standing assumption `hM`: `Y'` agrees with the shifted `Y` wherever `w` is non-zero. -/
section
variable (G : GFns α) {w Y Y' : List α} (c : α) (hM : MaskedEq w Y' (Y.map (· + c)))
include hM

/-- residuals against the shifted curve agree where the weights are non-zero -/
theorem resid_masked (z : List α) : MaskedEq w (sub2 Y' (z.map (· + c))) (sub2 Y z) :=
  sub2_shift Y z c ▸ hM.sub2 _

theorem ws2d_shift_masked {wt : List α} {s : α} (hs : SuppIn wt w) (hC : InContract Y wt s) :
    ws2d Y' s wt = (ws2d Y s wt).map (· + c) := by
  rw [ws2d_masked hM hs, ws2d_shift hC c]

/-- the GCV score is invariant (`sqrtw 0 = 0`: the weighted residual vanishes off the support) -/
theorem gsc_shift (hsq : G.sqrtw 0 = 0) (wt de : List α) (s : α)
    (hs : SuppIn wt w) (hC : InContract Y wt s) :
    gsc G Y' wt de s = gsc G Y wt de s := by
  unfold gsc gcvScore
  simp only [ws2d_shift_masked c hM hs hC,
    mul2_masked (resid_masked c hM (ws2d Y s wt)) fun i h => hs i (suppIn_map _ hsq wt i h)]

theorem sweepStep_shift (hsq : G.sqrtw 0 = 0) (wt de : List α) (s : α)
    (hs : SuppIn wt w) (hC : InContract Y wt s) (b : Best α) :
    sweepStep G Y' wt de (shiftB c b) s = shiftB c (sweepStep G Y wt de b s) := by
  unfold sweepStep
  rw [apply_ite (shiftB c), gsc_shift G c hM hsq wt de s hs hC]
  simp only [cand, shiftB, gsc_shift G c hM hsq wt de s hs hC, ws2d_shift_masked c hM hs hC,
    Option.map_some]

theorem gcvSweep_shift (hsq : G.sqrtw 0 = 0) (wt de lams : List α)
    (hs : SuppIn wt w) (hC : ∀ s ∈ lams, InContract Y wt s) (b : Best α) :
    gcvSweep G Y' wt de lams (shiftB c b) = shiftB c (gcvSweep G Y wt de lams b) := by
  rw [gcvSweep_eq, gcvSweep_eq]
  induction lams generalizing b with
  | nil => rfl
  | cons s ss ih =>
    simp only [List.foldl_cons]
    rw [sweepStep_shift G c hM hsq wt de s hs (hC s (by simp))]
    exact ih (fun s' hs' => hC s' (List.mem_cons_of_mem _ hs')) _

/-- the final fit of a GCV kernel on shifted data, when every selectable pair `(λ, weights)`
    is inside the contract -/
theorem outOf_shift (o : Option (α × List α))
    (hC : ∀ l r, o = some (l, r) → SuppIn r w ∧ InContract Y r l) :
    outOf o (fun l r => ws2d Y' l r) = outOf o (fun l r => (ws2d Y l r).map (· + c)) := by
  obtain _ | ⟨l, r⟩ := o
  · rfl
  · simp only [outOf_some, ws2d_shift_masked c hM (hC l r rfl).1 (hC l r rfl).2]

theorem madOf_shift (yt wt : List α) (hs : SuppIn wt w) :
    madOf Y' (yt.map (· + c)) wt = madOf Y yt wt := by
  unfold madOf rselOf; rw [sel_masked (resid_masked c hM yt) hs]

/-- the candidate weights agree on the support of `w` -/
theorem rnewOf_shift (yt wt de : List α) (s n : α) (hs : SuppIn wt w) :
    mul2 w (rnewOf G Y' (yt.map (· + c)) wt de s n) = mul2 w (rnewOf G Y yt wt de s n) := by
  unfold rnewOf
  rw [madOf_shift c hM yt wt hs]
  exact mul2_masked ((resid_masked c hM yt).map _) (SuppIn.refl w)

theorem madMinOf_shift : madMinOf G Y' w = madMinOf G Y w := by
  have hyv : yvOf Y' w = (yvOf Y w).map (· + c) :=
    (sel_masked hM (SuppIn.refl w)).trans (yvOf_map _ Y w)
  unfold madMinOf
  rw [hyv, spread_shift]

/-- the new robust weights agree on the support of `w` -/
theorem robustStep_shift (yt wt de rw rw' : List α) (s n : α)
    (hs : SuppIn wt w) (hrw : mul2 w rw' = mul2 w rw) :
    mul2 w (robustStep G Y' (yt.map (· + c)) wt de rw' w s n) =
      mul2 w (robustStep G Y yt wt de rw w s n) := by
  rw [robustStep_eq, robustStep_eq, madOf_shift c hM yt wt hs, madMinOf_shift G c hM,
    rnewOf_shift G c hM yt wt de s n hs]
  split_ifs
  exacts [rnewOf_shift G c hM yt wt de s n hs, hrw, hrw]

end

/-- relation between the loop state on the shifted data (`st'`) and on the original data (`st`) -/
def ShiftRel (c : α) (w : List α) (st st' : GState α) : Prop :=
  st'.1 = shiftB c st.1 ∧ mul2 w st'.2.1 = mul2 w st.2.1 ∧ st'.2.2 = st.2.2.map (shiftB c)

/-- invariants of the robust loop -/
def RInv (llasPow : List α) (n : ℕ) (st : GState α) : Prop :=
  st.2.1.length = n ∧ (∀ x ∈ st.2.1, 0 ≤ x ∧ x ≤ 1) ∧
    (∀ yt, st.1.ytemp = some yt → yt.length = n ∧ st.1.lam ∈ llasPow) ∧
    (∀ b ∈ st.2.2, b.lam ∈ llasPow)

theorem iterLams_subset (llasPow : List α) (it : ℕ) (hist : List (Best α))
    (h : ∀ b ∈ hist, b.lam ∈ llasPow) : ∀ s ∈ iterLams llasPow it hist, s ∈ llasPow := by
  intro s hs
  unfold iterLams at hs
  split_ifs at hs
  · split at hs
    · exact List.mem_singleton.1 hs ▸ h _ (by simp)
    · simp at hs
  · exact hs

theorem iterLams_shift (c : α) (llasPow : List α) (it : ℕ) (hist : List (Best α)) :
    iterLams llasPow it (hist.map (shiftB c)) = iterLams llasPow it hist := by
  unfold iterLams
  split_ifs
  · rcases hist with _ | ⟨a, _ | ⟨b, t⟩⟩ <;> rfl
  · rfl

theorem mul2_nonneg (w rw : List α) (hw : ∀ x ∈ w, 0 ≤ x) (hr : ∀ x ∈ rw, 0 ≤ x ∧ x ≤ 1) :
    ∀ x ∈ mul2 w rw, 0 ≤ x := by
  intro x hx
  rw [mul2_eq, List.mem_iff_getElem] at hx
  obtain ⟨i, hi, rfl⟩ := hx
  simp only [List.length_zipWith, lt_min_iff] at hi
  rw [List.getElem_zipWith]
  exact mul_nonneg (hw _ (List.getElem_mem hi.1)) (hr _ (List.getElem_mem hi.2)).1

theorem inContract_mul2 (Y w rw : List α) (s : α) (hn : 4 ≤ Y.length) (hwl : w.length = Y.length)
    (hw : ∀ x ∈ w, 0 ≤ x) (hrl : rw.length = Y.length) (hr : ∀ x ∈ rw, 0 ≤ x ∧ x ≤ 1)
    (hs : 0 < s) (h2 : TwoPos (mul2 w rw)) : InContract Y (mul2 w rw) s where
  len := hn
  wlen := by simp [hwl, hrl]
  lam_pos := hs
  w_nonneg := mul2_nonneg w rw hw hr
  two_pos := h2

section
variable (G : GFns α) {w Y Y' : List α} (c : α)

theorem gstep_rinv (de llasPow : List α) (n : α) (it : ℕ) (st st' : GState α)
    (hwl : w.length = Y.length) (hI : RInv llasPow Y.length st)
    (h : gstep G Y w de llasPow true n it st = some st') : RInv llasPow Y.length st' := by
  obtain ⟨hl, hr, hy, hh⟩ := hI
  obtain ⟨e1, e2, yt, e3, e4⟩ := gstep_robust_some _ _ _ _ _ _ _ _ _ h
  -- the running best either did not move or records the curve of a swept λ
  have hc : ∀ yt, st'.1.ytemp = some yt → yt.length = Y.length ∧ st'.1.lam ∈ llasPow := by
    rw [e1]
    rcases gcvSweep_lam G Y (mul2 w st.2.1) de (iterLams llasPow it st.2.2) st.1 with e | ⟨m, e⟩
    · rw [e]; exact hy
    · intro yt hyt
      rw [e, Option.some.injEq] at hyt
      exact ⟨hyt ▸ ws2d_length _ _ _ (by simp [hwl, hl]), iterLams_subset llasPow it st.2.2 hh _ m⟩
  refine ⟨?_, ?_, hc, ?_⟩
  · rw [e4]; exact robustStep_length G Y yt _ de _ w _ n (hc yt e3).1 hl
  · rw [e4]; exact robustStep_range G Y yt _ de _ w _ n hr
  · rw [e2]
    intro b hb
    rcases List.mem_append.1 hb with hb | hb
    · exact hh b hb
    · exact List.mem_singleton.1 hb ▸ (hc yt e3).2

theorem grun_rinv (de llasPow : List α) (n : α) (hwl : w.length = Y.length) (k it : ℕ)
    (st r : GState α) (hI : RInv llasPow Y.length st)
    (h : grun G Y w de llasPow true n k it st = some r) : RInv llasPow Y.length r :=
  grun_invariant G Y w de llasPow true n _
    (fun it st st' hI h => gstep_rinv G de llasPow n it st st' hwl hI h) k it st r hI h

/-- a robust step never loses the two positively weighted cells -/
theorem gstep_twoPos (de llasPow : List α) (n : α) (it : ℕ) (st st' : GState α)
    (h2 : TwoPos (mul2 w st.2.1))
    (h : gstep G Y w de llasPow true n it st = some st') : TwoPos (mul2 w st'.2.1) := by
  obtain ⟨_, _, yt, _, e⟩ := gstep_robust_some _ _ _ _ _ _ _ _ _ h
  rw [e]
  exact robustStep_two_pos G Y yt _ de _ w _ n h2

theorem grun_twoPos (de llasPow : List α) (n : α) (k it : ℕ) (st r : GState α)
    (h2 : TwoPos (mul2 w st.2.1))
    (h : grun G Y w de llasPow true n k it st = some r) : TwoPos (mul2 w r.2.1) :=
  grun_invariant G Y w de llasPow true n (fun st => TwoPos (mul2 w st.2.1))
    (gstep_twoPos G de llasPow n) k it st r h2 h

/-! The run on the shifted data simulates the run on the original data. -/
section
variable (hM : MaskedEq w Y' (Y.map (· + c))) (hsq : G.sqrtw 0 = 0) (de llasPow : List α) (n : α)
  (hn : 4 ≤ Y.length) (hwl : w.length = Y.length) (hw : ∀ x ∈ w, 0 ≤ x)
  (hpow : ∀ s ∈ llasPow, 0 < s)
include hM hsq hn hwl hw hpow

theorem gstep_shiftRel (it : ℕ) (st st' : GState α)
    (hI : RInv llasPow Y.length st) (h2 : TwoPos (mul2 w st.2.1)) (hR : ShiftRel c w st st') :
    (gstep G Y w de llasPow true n it st = none → gstep G Y' w de llasPow true n it st' = none) ∧
    (∀ r, gstep G Y w de llasPow true n it st = some r →
      ∃ r', gstep G Y' w de llasPow true n it st' = some r' ∧ ShiftRel c w r r') := by
  obtain ⟨hl, hr, hy, hh⟩ := hI
  obtain ⟨r1, r2, r3⟩ := hR
  have hC : ∀ s ∈ iterLams llasPow it st.2.2, InContract Y (mul2 w st.2.1) s := fun s hs =>
    inContract_mul2 Y w st.2.1 s hn hwl hw hl hr
      (hpow s (iterLams_subset llasPow it st.2.2 hh s hs)) h2
  rw [gstep_robust, gstep_robust]
  unfold rstep
  rw [r1, r2, r3, iterLams_shift, gcvSweep_shift G c hM hsq _ de _ (suppIn_mul2 _ _) hC]
  generalize gcvSweep G Y (mul2 w st.2.1) de (iterLams llasPow it st.2.2) st.1 = b'
  obtain ⟨sc, lm, _ | yt⟩ := b'
  · exact ⟨fun _ => rfl, nofun⟩
  · refine ⟨nofun, fun r hr' => ?_⟩
    cases hr'
    exact ⟨_, rfl, rfl, robustStep_shift G c hM yt _ de _ _ _ n (suppIn_mul2 _ _) r2, by simp⟩

theorem grun_shiftRel (k it : ℕ) (st st' : GState α)
    (hI : RInv llasPow Y.length st) (hR : ShiftRel c w st st') (h2 : TwoPos (mul2 w st.2.1)) :
    (grun G Y w de llasPow true n k it st = none → grun G Y' w de llasPow true n k it st' = none) ∧
    (∀ r, grun G Y w de llasPow true n k it st = some r →
      ∃ r', grun G Y' w de llasPow true n k it st' = some r' ∧ ShiftRel c w r r') := by
  induction k generalizing it st st' with
  | zero => exact ⟨nofun, fun r hr => ⟨st', rfl, Option.some.inj hr ▸ hR⟩⟩
  | succ k ih =>
    obtain ⟨g1, g2⟩ := gstep_shiftRel G c hM hsq de llasPow n hn hwl hw hpow it st st' hI h2 hR
    simp only [grun]
    cases hs : gstep G Y w de llasPow true n it st with
    | none => rw [g1 hs]; exact ⟨fun _ => rfl, nofun⟩
    | some st1 =>
      obtain ⟨st1', e1, hR1⟩ := g2 st1 hs
      rw [e1]
      exact ih (it + 1) st1 st1' (gstep_rinv G de llasPow n it st st1 hwl hI hs) hR1
        (gstep_twoPos G de llasPow n it st st1 h2 hs)

end

end

section
variable (G : GFns α) {w Y Y' : List α} (c : α)

theorem mul2_ones' (w Y : List α) (h : w.length = Y.length) :
    mul2 w (Y.map fun _ => (nat 1 : α)) = w := by
  apply list_eq_of_fn _ _ (by simp [h])
  intro i hi
  have hi' : i < w.length := by simpa [h] using hi
  rw [fn_mul2, fn_map_of_lt _ _ _ (by omega)]; simp

def gstate0 (G : GFns α) (Y : List α) : GState α :=
  (⟨G.big, nat 0, none⟩, Y.map (fun _ => nat 1), [])

theorem rinv_gstate0 (llasPow : List α) (Y : List α) : RInv llasPow Y.length (gstate0 G Y) := by
  refine ⟨?_, ?_, ?_, ?_⟩ <;> simp [gstate0]

/-- the loop starts with all robust weights 1, i.e. with the validity weights in force -/
theorem twoPos_gstate0 (hwl : w.length = Y.length) (h2 : TwoPos w) :
    TwoPos (mul2 w (gstate0 G Y).2.1) := by
  rw [gstate0, mul2_ones' w Y hwl]; exact h2

theorem getD_map_shiftB_lam (c : α) (l : List (Best α)) (k : ℕ) (d : Best α) :
    ((l.map (shiftB c)).getD k d).lam = (l.getD k d).lam := by
  by_cases hk : k < l.length
  · simp [List.getD_eq_getElem?_getD, hk, shiftB]
  · simp [List.getD_eq_getElem?_getD, hk]

/-- on shifted data the robust selection returns the same λ and the same final weights -/
theorem gcvSelect_shift_robust (hM : MaskedEq w Y' (Y.map (· + c))) (hsq : G.sqrtw 0 = 0)
    (llas : List α) (hn : 4 ≤ Y.length) (hwl : w.length = Y.length) (hw : ∀ x ∈ w, 0 ≤ x)
    (hpow : ∀ l ∈ llas, 0 < G.pow10 l) (h2 : TwoPos w) :
    gcvSelect G Y' w llas true = gcvSelect G Y w llas true := by
  have hlen : Y'.length = Y.length := by simpa using hM.1.symm
  have hones : Y'.map (fun _ => (nat 1 : α)) = Y.map (fun _ => (nat 1 : α)) := by
    rw [List.map_const', List.map_const', hlen]
  rw [gcvSelect_unfold, gcvSelect_unfold, hlen, hones]
  simp only [if_true]
  obtain ⟨g1, g2⟩ := grun_shiftRel G c hM hsq (deigs G Y.length) (llas.map G.pow10) (sumF w) hn hwl hw
    (List.forall_mem_map.2 hpow) 4 0 (gstate0 G Y) (gstate0 G Y) (rinv_gstate0 G _ Y) ⟨rfl, rfl, rfl⟩
    (twoPos_gstate0 G hwl h2)
  change Option.map _ (grun _ _ _ _ _ _ _ _ _ (gstate0 G Y)) =
    Option.map _ (grun _ _ _ _ _ _ _ _ _ (gstate0 G Y))
  cases hs : grun G Y w (deigs G Y.length) (llas.map G.pow10) true (sumF w) 4 0 (gstate0 G Y) with
  | none => rw [g1 hs]
  | some r =>
    obtain ⟨r', e, _, r2, r3⟩ := g2 r hs
    rw [e]
    simp only [Option.map_some, Option.some.injEq, Prod.mk.injEq]
    exact ⟨by rw [r3, getD_map_shiftB_lam], r2⟩

end

end Hdc.Smooth
