import Hdc.Lemmas.SmoothV
import Mathlib.Algebra.BigOperators.Intervals
/-
List sums as finite sums, second differences, and how the building blocks of the kernels behave
under a shift of the data by a constant and under reversal of the series.
-/
namespace Hdc.Smooth
open Hdc Hdc.C01 Finset

set_option linter.unusedSectionVars false

variable {α : Type} [Field α] [LinearOrder α] [IsStrictOrderedRing α]

theorem sum_eq_finset (l : List α) : l.sum = ∑ i ∈ range l.length, fn l i := by
  induction l with
  | nil => simp
  | cons a as ih =>
    rw [List.sum_cons, List.length_cons, Finset.sum_range_succ', ih]
    have h0 : fn (a :: as) 0 = a := Ws2d.fnl_cons_zero a as
    have hs : ∀ i, fn (a :: as) (i + 1) = fn as i := fun i => Ws2d.fnl_cons_succ a as i
    simp only [hs, h0]
    ring

theorem diffs_length (z : List α) : (diffs z).length = z.length - 1 := by
  induction z with
  | nil => simp [diffs]
  | cons a rest ih =>
    cases rest with
    | nil => simp [diffs]
    | cons b rest' => exact congrArg (· + 1) ih

theorem fn_diffs (z : List α) (i : ℕ) (hi : i + 1 < z.length) :
    fn (diffs z) i = fn z (i + 1) - fn z i := by
  induction z generalizing i with
  | nil => simp at hi
  | cons a rest ih =>
    cases rest with
    | nil => simp at hi
    | cons b rest' =>
      cases i with
      | zero => simp [diffs, fn]
      | succ i =>
        simp only [diffs, fn_eq, Ws2d.fnl_cons_succ] at ih ⊢
        exact ih i (by simpa using hi)

theorem fn_diffs2 (z : List α) (i : ℕ) (hi : i + 2 < z.length) :
    fn (diffs (diffs z)) i = D2 (fn z) i := by
  rw [fn_diffs _ i (by rw [diffs_length]; omega), fn_diffs z (i + 1) (by omega),
    fn_diffs z i (by omega), D2]
  ring

theorem fitTerms_shift (w y z : List α) (c : α) :
    fitTerms w (y.map (· + c)) (z.map (· + c)) = fitTerms w y z := by
  induction w generalizing y z <;> cases y <;> cases z <;> simp [fitTerms, *]

theorem diffs_shift (z : List α) (c : α) : diffs (z.map (· + c)) = diffs z := by
  induction z with
  | nil => simp [diffs]
  | cons a rest ih =>
    cases rest with
    | nil => simp [diffs]
    | cons b rest' =>
      simp only [List.map_cons, diffs] at ih ⊢
      rw [ih]; simp

theorem sub2_shift (y z : List α) (c : α) : sub2 (y.map (· + c)) (z.map (· + c)) = sub2 y z := by
  induction y generalizing z <;> cases z <;> simp [sub2, *]

theorem weightsOf_shift (miss : α → Bool) (y : List α) (c : α) :
    weightsOf (fun x => miss (x - c)) (y.map (· + c)) = weightsOf miss y := by
  simp [weightsOf]

theorem countValid_shift (miss : α → Bool) (y : List α) (c : α) :
    countValid (fun x => miss (x - c)) (y.map (· + c)) = countValid miss y := by
  unfold countValid
  rw [List.filter_map, List.length_map]
  congr 2
  funext x
  simp

/-- cleaning after the shift and shifting after cleaning differ only on missing cells -/
theorem cleanOf_shift_masked (miss : α → Bool) (y : List α) (c : α) :
    MaskedEq (weightsOf miss y) (cleanOf (fun x => miss (x - c)) (y.map (· + c)))
      ((cleanOf miss y).map (· + c)) := by
  refine ⟨by simp, fun i hi => ?_⟩
  obtain ⟨hl, hm⟩ := weightsOf_ne_zero miss y i hi
  rw [fn_cleanOf _ _ i (by simpa using hl), fn_map_of_lt _ _ _ (by simpa using hl),
    fn_cleanOf miss y i hl]
  simp [hm]

theorem weightsOf_reverse (miss : α → Bool) (y : List α) :
    weightsOf miss y.reverse = (weightsOf miss y).reverse := by
  simp [weightsOf]

theorem cleanOf_reverse (miss : α → Bool) (y : List α) :
    cleanOf miss y.reverse = (cleanOf miss y).reverse := by
  simp [cleanOf]

theorem countValid_reverse (miss : α → Bool) (y : List α) :
    countValid miss y.reverse = countValid miss y := by
  unfold countValid
  rw [List.filter_reverse, List.length_reverse]

/-- the values `a + b·i`, `i = 0 … n−1` -/
def lineList (a b : α) (n : ℕ) : List α := (List.range n).map fun (i : ℕ) => a + b * (Nat.cast i : α)

@[simp] theorem lineList_length (a b : α) (n : ℕ) : (lineList a b n).length = n := by
  simp [lineList]

theorem fn_lineList (a b : α) (n i : ℕ) (hi : i < n) : fn (lineList a b n) i = a + b * (i : α) := by
  rw [fn_of_lt _ i (by simpa using hi)]
  simp only [lineList, List.getElem_map, List.getElem_range]

/-- list form of `ws2d_affine` -/
theorem ws2d_eq_line {y w : List α} {lam : α} (h : InContract y w lam) (a b : α)
    (hy : ∀ i, fn w i ≠ 0 → fn y i = a + b * (i : α)) :
    ws2d y lam w = lineList a b y.length := by
  apply list_eq_of_fn _ _ (by rw [ws2d_length _ _ _ h.wlen]; simp)
  intro i hi
  rw [ws2d_length _ _ _ h.wlen] at hi
  rw [ws2d_affine h a b hy i hi, fn_lineList a b _ i hi]

end Hdc.Smooth
