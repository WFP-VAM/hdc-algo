import Hdc.Lemmas.SmoothMasked
/-
The asymmetric re-weighting loop `irls`: the sequence of iterates, where the loop stops, and
what it returns.
-/
namespace Hdc.Smooth
open Hdc Hdc.C01

set_option linter.unusedSectionVars false

variable {α : Type} [Field α] [LinearOrder α] [IsStrictOrderedRing α]

theorem l1dist_eq_sum (a b : List α) :
    l1dist a b = (List.zipWith (fun x y => |x - y|) a b).sum := by
  simp only [l1dist, foldl_add_eq, nat_zero, zero_add, absv_eq]

theorem l1dist_cons (x y : α) (a b : List α) : l1dist (x :: a) (y :: b) = |x - y| + l1dist a b := by
  simp [l1dist_eq_sum]

theorem l1dist_nonneg (a b : List α) : 0 ≤ l1dist a b := by
  induction a generalizing b with
  | nil => simp [l1dist_eq_sum]
  | cons x xs ih =>
    cases b with
    | nil => simp [l1dist_eq_sum]
    | cons y ys => rw [l1dist_cons]; exact add_nonneg (abs_nonneg _) (ih ys)

theorem l1dist_eq_zero_iff (a b : List α) (h : a.length = b.length) : l1dist a b = 0 ↔ a = b := by
  induction a generalizing b with
  | nil => cases b <;> simp_all [l1dist_eq_sum]
  | cons x xs ih =>
    cases b with
    | nil => simp at h
    | cons y ys =>
      rw [l1dist_cons, add_eq_zero_iff_of_nonneg (abs_nonneg _) (l1dist_nonneg xs ys), abs_eq_zero,
        sub_eq_zero, ih ys (by simpa using h), List.cons.injEq]

theorem l1dist_self (a : List α) : l1dist a a = 0 := (l1dist_eq_zero_iff a a rfl).2 rfl

/-- the re-weighted weights for the current curve -/
def rewt (y w : List α) (p : α) (z : List α) : List α := asymW p w y z

/-- one pass: re-weight, then re-fit -/
def pass (y w : List α) (lam p : α) (z : List α) : List α := ws2d y lam (asymW p w y z)

/-- the sequence of curves of the re-weighting iteration started from `z0` -/
def iter (y w : List α) (lam p : α) (z0 : List α) : ℕ → List α
  | 0 => z0
  | j + 1 => pass y w lam p (iter y w lam p z0 j)

theorem iter_succ' (y w : List α) (lam p : α) (z0 : List α) (j : ℕ) :
    iter y w lam p z0 (j + 1) = iter y w lam p (pass y w lam p z0) j := by
  induction j with
  | zero => rfl
  | succ j ih => rw [iter, ih]; rfl

theorem pass_length (y w : List α) (lam p : α) (z : List α) (hw : w.length = y.length)
    (hz : z.length = y.length) : (pass y w lam p z).length = y.length := by
  unfold pass
  rw [ws2d_length _ _ _ (by simp [hw, hz])]

theorem iter_length (y w : List α) (lam p : α) (z0 : List α) (hw : w.length = y.length)
    (hz : z0.length = y.length) (j : ℕ) : (iter y w lam p z0 j).length = y.length := by
  induction j with
  | zero => exact hz
  | succ j ih => exact pass_length y w lam p _ hw ih

theorem irls_succ (y w : List α) (lam p : α) (k : ℕ) (z ww : List α) :
    irls y w lam p (k + 1) z ww =
      if eqv (l1dist (pass y w lam p z) z) (nat 0) then (z, asymW p w y z)
      else irls y w lam p k (pass y w lam p z) (asymW p w y z) := rfl

/-- on lists of full length the stopping test `l1dist znew z == 0` says `znew = z` -/
theorem irls_succ_full (y w : List α) (lam p : α) (k : ℕ) (z ww : List α)
    (hw : w.length = y.length) (hz : z.length = y.length) :
    irls y w lam p (k + 1) z ww =
      if pass y w lam p z = z then (z, asymW p w y z)
      else irls y w lam p k (pass y w lam p z) (asymW p w y z) := by
  rw [irls_succ]
  simp only [eqv_iff, nat_zero,
    l1dist_eq_zero_iff _ _ ((pass_length y w lam p z hw hz).trans hz.symm)]

/-- What the loop returns after at most `k ≥ 1` passes from `z0`: there is a pass index
    `j < k` (the last pass executed) such that no earlier pass reproduced its input, the
    returned weights are those computed from `iter j`, and either pass `j` reproduced
    `iter j` (early stop, `iter j` is returned) or the fuel ran out (`j + 1 = k`, the new
    curve `iter k` is returned). -/
theorem irls_spec (y w : List α) (lam p : α) (hw : w.length = y.length) (k : ℕ) (z0 ww0 : List α)
    (hz : z0.length = y.length) :
    ∃ j, j < k + 1 ∧ (∀ i < j, iter y w lam p z0 (i + 1) ≠ iter y w lam p z0 i) ∧
      (irls y w lam p (k + 1) z0 ww0).2 = asymW p w y (iter y w lam p z0 j) ∧
      ((iter y w lam p z0 (j + 1) = iter y w lam p z0 j ∧
          (irls y w lam p (k + 1) z0 ww0).1 = iter y w lam p z0 j) ∨
        (j = k ∧ iter y w lam p z0 (j + 1) ≠ iter y w lam p z0 j ∧
          (irls y w lam p (k + 1) z0 ww0).1 = iter y w lam p z0 (k + 1))) := by
  induction k generalizing z0 ww0 with
  | zero =>
    rw [irls_succ_full y w lam p 0 z0 ww0 hw hz]
    refine ⟨0, by omega, fun i hi => absurd hi (by omega), ?_⟩
    by_cases h : pass y w lam p z0 = z0
    · rw [if_pos h]
      exact ⟨rfl, Or.inl ⟨h, rfl⟩⟩
    · rw [if_neg h]
      exact ⟨rfl, Or.inr ⟨rfl, h, rfl⟩⟩
  | succ k ih =>
    rw [irls_succ_full y w lam p (k + 1) z0 ww0 hw hz]
    by_cases h : pass y w lam p z0 = z0
    · rw [if_pos h]
      exact ⟨0, by omega, fun i hi => absurd hi (by omega), rfl, Or.inl ⟨h, rfl⟩⟩
    · rw [if_neg h]
      obtain ⟨j, hj, hne, h2, h3⟩ :=
        ih (pass y w lam p z0) (asymW p w y z0) (pass_length y w lam p z0 hw hz)
      refine ⟨j + 1, by omega, ?_, ?_, ?_⟩
      · intro i hi
        cases i with
        | zero => exact h
        | succ i =>
          rw [iter_succ' y w lam p z0 (i + 1), iter_succ' y w lam p z0 i]
          exact hne i (by omega)
      · rw [iter_succ' y w lam p z0 j]
        exact h2
      · rw [iter_succ' y w lam p z0 (j + 1), iter_succ' y w lam p z0 j,
          iter_succ' y w lam p z0 (k + 1)]
        exact h3.imp id fun ⟨a, b, c⟩ => ⟨by omega, b, c⟩

/-- the pass that produced the returned weights reproduces the returned curve: the final
    `ws2d` of every asymmetric kernel recomputes the curve the loop ended with -/
theorem irls_reproduces (y w : List α) (lam p : α) (hw : w.length = y.length) (k : ℕ)
    (z0 ww0 : List α) (hz : z0.length = y.length) :
    ws2d y lam (irls y w lam p (k + 1) z0 ww0).2 = (irls y w lam p (k + 1) z0 ww0).1 := by
  obtain ⟨j, _, _, h2, h3⟩ := irls_spec y w lam p hw k z0 ww0 hz
  rw [h2]
  rcases h3 with ⟨a, b⟩ | ⟨a, _, c⟩
  · rw [b]; exact a
  · rw [c, a]; rfl

theorem irls_snd_length (y w : List α) (lam p : α) (hw : w.length = y.length) (k : ℕ)
    (z0 ww0 : List α) (hz : z0.length = y.length) :
    (irls y w lam p (k + 1) z0 ww0).2.length = y.length := by
  obtain ⟨j, _, _, h2, _⟩ := irls_spec y w lam p hw k z0 ww0 hz
  rw [h2, asymW_length, hw, iter_length y w lam p z0 hw hz]; simp

theorem irls_fst_length (y w : List α) (lam p : α) (hw : w.length = y.length) (k : ℕ)
    (z0 ww0 : List α) (hz : z0.length = y.length) :
    (irls y w lam p (k + 1) z0 ww0).1.length = y.length := by
  rw [← irls_reproduces y w lam p hw k z0 ww0 hz,
    ws2d_length _ _ _ (irls_snd_length y w lam p hw k z0 ww0 hz)]

theorem expectile_length (y w : List α) (lam p : α) (hw : w.length = y.length) :
    (expectile y w lam p).length = y.length := by
  unfold expectile
  rw [ws2d_length _ _ _ (irls_snd_length y w lam p hw 9 _ _ (by simp))]

/-- the curve of `expectile` is the Whittaker curve for the asymmetric weights computed from the
    curve `zprev` its last pass started from; those weights are inside the contract again -/
theorem expectile_eq_ws2d {y w : List α} {lam : α} (h : InContract y w lam) (p : α) (hp0 : 0 < p)
    (hp1 : p < 1) :
    ∃ zprev, zprev.length = y.length ∧ InContract y (asymW p w y zprev) lam ∧
      expectile y w lam p = ws2d y lam (asymW p w y zprev) := by
  obtain ⟨j, _, _, h2, _⟩ := irls_spec y w lam p h.wlen 9 (zerosLike y) (zerosLike y) (by simp)
  have hlen := iter_length y w lam p (zerosLike y) h.wlen (by simp) j
  exact ⟨_, hlen, inContract_asymW h p hp0 hp1 _ hlen, by rw [expectile, h2]⟩

/-- a fixed point of "re-weight, re-fit" solves the normal equations for its own weights -/
theorem normalEq_of_fix {y w : List α} {lam : α} (h : InContract y w lam) (p : α) (hp0 : 0 < p)
    (hp1 : p < 1) (z : List α) (hzl : z.length = y.length) (hz : z = ws2d y lam (asymW p w y z)) :
    NormalEq y.length (fn y) (fn (asymW p w y z)) lam (fn z) := by
  have hN := ws2d_normal_eq (inContract_asymW h p hp0 hp1 z hzl)
  rwa [← hz] at hN

end Hdc.Smooth
