import Hdc.Lemmas.SmoothBasic
/-
Data under zero weights is never looked at: congruence of every building block of the
smoother kernels under "masked equality" of the data, and a relational lemma for the
V-curve selection.
-/
namespace Hdc.Smooth
open Hdc Hdc.C01

set_option linter.unusedSectionVars false

variable {α : Type} [Field α] [LinearOrder α] [IsStrictOrderedRing α]

/-- `y` and `y'` carry the same data wherever `w` is non-zero -/
def MaskedEq (w y y' : List α) : Prop :=
  y'.length = y.length ∧ ∀ i, fn w i ≠ 0 → fn y i = fn y' i

/-- the support of `ww` lies inside the support of `w` -/
def SuppIn (ww w : List α) : Prop := ∀ i, fn ww i ≠ 0 → fn w i ≠ 0

theorem MaskedEq.refl (w y : List α) : MaskedEq w y y := ⟨rfl, fun _ _ => rfl⟩

theorem MaskedEq.symm {w y y' : List α} (h : MaskedEq w y y') : MaskedEq w y' y :=
  ⟨h.1.symm, fun i hi => (h.2 i hi).symm⟩

theorem MaskedEq.trans {w y y' y'' : List α} (h : MaskedEq w y y') (h' : MaskedEq w y' y'') :
    MaskedEq w y y'' :=
  ⟨h'.1.trans h.1, fun i hi => (h.2 i hi).trans (h'.2 i hi)⟩

theorem MaskedEq.map {w y y' : List α} (h : MaskedEq w y y') (f : α → α) :
    MaskedEq w (y.map f) (y'.map f) := by
  refine ⟨by simp [h.1], fun i hi => ?_⟩
  by_cases hl : i < y.length
  · rw [fn_map_of_lt _ _ _ hl, fn_map_of_lt _ _ _ (by rw [h.1]; exact hl), h.2 i hi]
  · rw [fn_of_le _ i (by simp; omega), fn_of_le _ i (by simp [h.1]; omega)]

theorem SuppIn.refl (w : List α) : SuppIn w w := fun _ h => h

theorem suppIn_zerosLike (y w : List α) : SuppIn (zerosLike y) w :=
  fun i h => absurd (fn_zerosLike y i) h

theorem suppIn_asymW (p : α) (w y z : List α) : SuppIn (asymW p w y z) w :=
  fun i h => fn_asymW_ne_zero p w y z i h

theorem suppIn_mul2 (w rw : List α) : SuppIn (mul2 w rw) w := by
  intro i h
  rw [fn_mul2] at h
  exact left_ne_zero_of_mul h

/-! ### what only looks at the support of the weights -/

theorem MaskedEq.sub2 {w y y' : List α} (h : MaskedEq w y y') (z : List α) :
    MaskedEq w (sub2 y z) (sub2 y' z) := by
  refine ⟨by simp [h.1], fun i hi => ?_⟩
  by_cases hl : i < y.length ∧ i < z.length
  · rw [fn_sub2 _ _ i hl.1 hl.2, fn_sub2 _ _ i (h.1 ▸ hl.1) hl.2, h.2 i hi]
  · rw [fn_of_le _ i (by simp; omega), fn_of_le _ i (by simp [h.1]; omega)]

theorem mul2_masked {w r r' a : List α} (h : MaskedEq w r r') (hs : SuppIn a w) :
    mul2 a r = mul2 a r' := by
  apply list_eq_of_fn _ _ (by simp [h.1])
  intro i _
  rw [fn_mul2, fn_mul2]
  by_cases h0 : fn a i = 0
  · rw [h0, zero_mul, zero_mul]
  · rw [h.2 i (hs i h0)]

/-- the selection of the cells with non-zero weight (`r_sel`, `yv` of `robustStep`) -/
theorem sel_masked {w r r' wt : List α} (h : MaskedEq w r r') (hs : SuppIn wt w) :
    ((r.zip wt).filter fun (_, v) => !(eqv v (nat 0))).map (·.1) =
      ((r'.zip wt).filter fun (_, v) => !(eqv v (nat 0))).map (·.1) := by
  obtain ⟨hl, h⟩ := h
  replace h : ∀ i, fn wt i ≠ 0 → fn r i = fn r' i := fun i hi => h i (hs i hi)
  clear hs
  induction r generalizing r' wt with
  | nil => rw [List.length_eq_zero_iff.1 hl]
  | cons a as ih =>
    obtain _ | ⟨a', as'⟩ := r'
    · simp at hl
    obtain _ | ⟨v, vs⟩ := wt
    · simp
    have htail := ih (r' := as') (wt := vs) (by simpa using hl) fun i hi => by
      simpa [fn] using h (i + 1) (by simpa [fn] using hi)
    by_cases hv : v = 0
    · simpa [(eqv_iff v 0).2 hv] using htail
    · have h0 : a = a' := by simpa [fn] using h 0 (by simpa [fn] using hv)
      simpa [(eqv_eq_false_iff v 0).2 hv, h0] using htail

theorem suppIn_map (f : α → α) (hf : f 0 = 0) (wt : List α) : SuppIn (wt.map f) wt := by
  intro i h h0
  rw [fn_map_of_lt _ _ _ (by simpa using fn_ne_zero_lt _ i h), h0, hf] at h
  exact h rfl

theorem maskedEq_clean (miss : α → Bool) (y : List α) :
    MaskedEq (weightsOf miss y) y (cleanOf miss y) :=
  ⟨by simp, fun i hi => cleanOf_masked miss y i hi⟩

theorem ws2d_masked {w y y' : List α} (h : MaskedEq w y y') {ww : List α} (hs : SuppIn ww w)
    (lam : α) : ws2d y lam ww = ws2d y' lam ww :=
  ws2d_congr_masked y y' ww lam h.1 (fun i hi => h.2 i (hs i hi))

theorem asymW_masked {w y y' : List α} (h : MaskedEq w y y') (p : α) (z : List α) :
    asymW p w y z = asymW p w y' z := by
  apply list_eq_of_fn _ _ (by simp [h.1])
  intro i hi
  simp only [asymW_length, lt_min_iff] at hi
  rw [fn_asymW p w y z i hi.1 hi.2.1 hi.2.2, fn_asymW p w y' z i hi.1 (h.1 ▸ hi.2.1) hi.2.2]
  by_cases h0 : fn w i = 0
  · simp [aw, h0]
  · rw [h.2 i h0]

theorem irls_masked {w y y' : List α} (h : MaskedEq w y y') (lam p : α) (k : ℕ) (z ww : List α) :
    irls y w lam p k z ww = irls y' w lam p k z ww := by
  induction k generalizing z ww with
  | zero => simp [irls]
  | succ k ih =>
    simp only [irls]
    rw [← asymW_masked h p z, ← ws2d_masked h (suppIn_asymW p w y z) lam]
    split_ifs
    · rfl
    · exact ih _ _

theorem irls_supp (y w : List α) (lam p : α) (k : ℕ) (z ww : List α) (hs : SuppIn ww w) :
    SuppIn (irls y w lam p k z ww).2 w := by
  induction k generalizing z ww with
  | zero => simpa [irls] using hs
  | succ k ih =>
    simp only [irls]
    split_ifs
    · exact suppIn_asymW p w y z
    · exact ih _ _ (suppIn_asymW p w y z)

theorem expectile_masked {w y y' : List α} (h : MaskedEq w y y') (lam p : α) :
    expectile y w lam p = expectile y' w lam p := by
  unfold expectile
  rw [← zerosLike_congr y y' h.1.symm, ← irls_masked h]
  exact ws2d_masked h (irls_supp y w lam p 10 _ _ (suppIn_zerosLike y w)) lam

theorem fitTerms_masked {w y y' : List α} (h : MaskedEq w y y') (z : List α) :
    fitTerms w y z = fitTerms w y' z := by
  apply list_eq_of_fn _ _ (by simp [h.1])
  intro i hi
  simp only [fitTerms_length, lt_min_iff] at hi
  rw [fn_fitTerms w y z i hi.1 hi.2.1 hi.2.2, fn_fitTerms w y' z i hi.1 (h.1 ▸ hi.2.1) hi.2.2]
  by_cases h0 : fn w i = 0
  · simp [h0]
  · rw [h.2 i h0]

theorem fitSS_masked {w y y' : List α} (h : MaskedEq w y y') (z : List α) :
    fitSS w y z = fitSS w y' z := by
  unfold fitSS; rw [fitTerms_masked h]

def vstep {σ : Type} (F : VFns α) (w y : List α) (fit : σ → α → σ × List α)
    (acc : σ × List (α × α × α)) (l : α) : σ × List (α × α × α) :=
  ((fit acc.1 (F.pow10 l)).1,
    acc.2 ++ [(l, F.log (fitSS w y (fit acc.1 (F.pow10 l)).2), F.log (penSS (fit acc.1 (F.pow10 l)).2))])

/-- the (λ, log fit, log penalty) points of the sweep -/
def vpts {σ : Type} (F : VFns α) (w y llas : List α) (fit : σ → α → σ × List α) (s0 : σ) :
    List (α × α × α) :=
  (llas.foldl (vstep F w y fit) (s0, [])).2

theorem vselect_eq {σ : Type} (F : VFns α) (w y llas : List α) (fit : σ → α → σ × List α) (s0 : σ) :
    vselect F w y llas fit s0 =
      (argminFirst (vcurve F (gridStep llas) (vpts F w y llas fit s0))).map fun b => F.pow10 b.2 :=
  rfl

/-- two sweeps whose fits are related step by step, with equal fit and roughness terms,
    select the same λ -/
theorem vselect_rel {σ σ' : Type} (F : VFns α) (w y w' y' llas : List α)
    (fit : σ → α → σ × List α) (fit' : σ' → α → σ' × List α) (R : σ → σ' → Prop)
    (s0 : σ) (s0' : σ') (h0 : R s0 s0')
    (h : ∀ s s', R s s' → ∀ l ∈ llas,
        R (fit s (F.pow10 l)).1 (fit' s' (F.pow10 l)).1 ∧
        fitSS w y (fit s (F.pow10 l)).2 = fitSS w' y' (fit' s' (F.pow10 l)).2 ∧
        penSS (fit s (F.pow10 l)).2 = penSS (fit' s' (F.pow10 l)).2) :
    vselect F w y llas fit s0 = vselect F w' y' llas fit' s0' := by
  suffices key : ∀ acc acc', R acc.1 acc'.1 → acc.2 = acc'.2 →
      (llas.foldl (vstep F w y fit) acc).2 = (llas.foldl (vstep F w' y' fit') acc').2 by
    rw [vselect_eq, vselect_eq, vpts, vpts, key (s0, []) (s0', []) h0 rfl]
  induction llas with
  | nil => exact fun _ _ _ h1 => h1
  | cons l ls ih =>
    intro acc acc' hR h1
    obtain ⟨hR', hf, hp⟩ := h acc.1 acc'.1 hR l (by simp)
    exact ih (fun s s' hs l hl => h s s' hs l (List.mem_cons_of_mem _ hl)) _ _ hR'
      (by simp only [vstep, h1, hf, hp])

theorem optvSelect_masked (F : VFns α) {w y y' : List α} (h : MaskedEq w y y') (llas : List α) :
    vselect F w y llas (fun (_ : Unit) lam => ((), ws2d y lam w)) () =
      vselect F w y' llas (fun (_ : Unit) lam => ((), ws2d y' lam w)) () := by
  apply vselect_rel F w y w y' llas _ _ (fun _ _ => True) () () trivial
  intro _ _ _ l _
  simp only [← ws2d_masked h (SuppIn.refl w)]
  exact ⟨trivial, fitSS_masked h _, trivial⟩

theorem optvpCore_masked (F : VFns α) {w y y' : List α} (h : MaskedEq w y y') (p : α)
    (llas : List α) : optvpCore F y w p llas = optvpCore F y' w p llas := by
  have hz := zerosLike_congr y y' h.1.symm
  have hsel := vselect_rel F w y w y' llas
    (fun z lam => let r := irls y w lam p 10 z (zerosLike y); (r.1, r.1))
    (fun z lam => let r := irls y' w lam p 10 z (zerosLike y'); (r.1, r.1)) Eq _ _ hz (by
      rintro s _ rfl l _
      simp only [← hz, ← irls_masked h]
      exact ⟨trivial, fitSS_masked h _, trivial⟩)
  simp only [optvpCore, hsel, expectile_masked h]

end Hdc.Smooth
