import Hdc.Lemmas.SmoothMasked
/-
Lemmas on the V-curve machinery: first strict minimum, shape of `vcurve`, shape of the sweep.
-/
namespace Hdc.Smooth
open Hdc Hdc.C01

set_option linter.unusedSectionVars false

variable {α : Type} [Field α] [LinearOrder α] [IsStrictOrderedRing α]

section
variable {β σ : Type} (key : σ → α) (cand : β → σ)

/-- state of a fold that replaces the running best `r` by `cand s` whenever
    `key (cand s) < key r`, after the prefix `pre`, started from `b0`: nothing swept is
    strictly below `r`, and `r` is `b0` or the FIRST swept candidate attaining the minimum -/
def FoldMin (b0 : σ) (pre : List β) (r : σ) : Prop :=
  key r ≤ key b0 ∧ (∀ s ∈ pre, ¬ key (cand s) < key r) ∧
    ((r = b0 ∧ ∀ s ∈ pre, ¬ key (cand s) < key b0) ∨
      ∃ k, ∃ hk : k < pre.length, r = cand pre[k] ∧ key (cand pre[k]) < key b0 ∧
        ∀ j (hj : j < k), key (cand pre[k]) < key (cand (pre[j]'(by omega))))

theorem foldMin_snoc (b0 : σ) (pre : List β) (r : σ) (s : β) (h : FoldMin key cand b0 pre r) :
    FoldMin key cand b0 (pre ++ [s]) (if key (cand s) < key r then cand s else r) := by
  obtain ⟨h1, h2, h3⟩ := h
  have snoc : ∀ {P : β → Prop}, (∀ s' ∈ pre, P s') → P s → ∀ s' ∈ pre ++ [s], P s' :=
    fun hp hs s' hs' => (List.mem_append.1 hs').elim (hp s') fun e => List.mem_singleton.1 e ▸ hs
  split_ifs with hs
  · -- a new strict minimum: it is below everything seen so far
    have hlt : ∀ s' ∈ pre, key (cand s) < key (cand s') := fun s' hs' =>
      hs.trans_le (not_lt.1 (h2 s' hs'))
    refine ⟨(hs.trans_le h1).le, snoc (fun s' hs' => (hlt s' hs').not_gt) (lt_irrefl _),
      Or.inr ⟨pre.length, by simp, by simp, by simpa using hs.trans_le h1, fun j hj => ?_⟩⟩
    simp only [List.getElem_append_left hj, List.getElem_concat_length]
    exact hlt _ (List.getElem_mem hj)
  · refine ⟨h1, snoc h2 hs, h3.imp (fun ⟨e, h⟩ => ⟨e, snoc h (e ▸ hs)⟩) ?_⟩
    rintro ⟨k, hk, hr, hb, hbefore⟩
    refine ⟨k, by simp; omega, ?_, ?_, fun j hj => ?_⟩
    · rwa [List.getElem_append_left hk]
    · rwa [List.getElem_append_left hk]
    · rw [List.getElem_append_left hk, List.getElem_append_left (by omega)]
      exact hbefore j hj

theorem foldMin_foldl (b0 : σ) (l : List β) :
    FoldMin key cand b0 l
      (l.foldl (fun r s => if key (cand s) < key r then cand s else r) b0) := by
  have h : ∀ l pre r, FoldMin key cand b0 pre r → FoldMin key cand b0 (pre ++ l)
      (l.foldl (fun r s => if key (cand s) < key r then cand s else r) r) := by
    intro l
    induction l with
    | nil => intro pre r h; simpa using h
    | cons s ss ih =>
      intro pre r h
      simpa using ih (pre ++ [s]) _ (foldMin_snoc key cand b0 pre r s h)
  simpa using h l [] b0 ⟨le_refl _, by simp, Or.inl ⟨rfl, by simp⟩⟩

end

/-- `b` sits at position `k` of `l`, nothing in `l` is strictly below it, everything before
    position `k` is strictly above it -/
def IsFirstMin (l : List (α × α)) (k : ℕ) (b : α × α) : Prop :=
  ∃ hk : k < l.length, l[k] = b ∧ (∀ c ∈ l, ¬ c.1 < b.1) ∧ ∀ j (hj : j < k), b.1 < (l[j]'(by omega)).1

theorem isFirstMin_of_argminFirst {l : List (α × α)} {b : α × α} (h : argminFirst l = some b) :
    ∃ k, IsFirstMin l k b := by
  cases l with
  | nil => simp [argminFirst] at h
  | cons x xs =>
    obtain rfl := Option.some.inj h
    obtain ⟨h1, h2, ⟨e, _⟩ | ⟨k, hk, e, hb, hbefore⟩⟩ := foldMin_foldl Prod.fst id x xs
    · exact ⟨0, by simp, e.symm, List.forall_mem_cons.2 ⟨not_lt.2 h1, h2⟩, fun j hj => by omega⟩
    · refine ⟨k + 1, by simpa using hk, e.symm, List.forall_mem_cons.2 ⟨not_lt.2 h1, h2⟩, ?_⟩
      rintro (_ | j) hj
      · exact e ▸ hb
      · exact e ▸ hbefore j (by omega)

/-- the V value between two consecutive points of the sweep -/
def vval (F : VFns α) (step : α) (a b : α × α × α) : α :=
  F.sqrt ((b.2.1 - a.2.1) * (b.2.1 - a.2.1) + (b.2.2 - a.2.2) * (b.2.2 - a.2.2)) / (F.ln10 * step)

theorem vcurve_length (F : VFns α) (step : α) (pts : List (α × α × α)) :
    (vcurve F step pts).length = pts.length - 1 := by
  induction pts with
  | nil => simp [vcurve]
  | cons a rest ih =>
    cases rest with
    | nil => simp [vcurve]
    | cons b rest' => exact congrArg (· + 1) ih

theorem vcurve_getElem (F : VFns α) (step : α) (pts : List (α × α × α)) (k : ℕ)
    (hk : k + 1 < pts.length) :
    (vcurve F step pts)[k]'(by rw [vcurve_length]; omega) =
      (vval F step pts[k] pts[k + 1], (pts[k].1 + pts[k + 1].1) / 2) := by
  induction pts generalizing k with
  | nil => simp at hk
  | cons a rest ih =>
    cases rest with
    | nil => simp at hk
    | cons b rest' =>
      cases k with
      | zero => rfl
      | succ k => exact ih k (by simpa using hk)

theorem vfold_fst_map {σ : Type} (F : VFns α) (w y : List α) (fit : σ → α → σ × List α)
    (llas : List α) (acc : σ × List (α × α × α)) :
    ((llas.foldl (vstep F w y fit) acc).2).map (·.1) = acc.2.map (·.1) ++ llas := by
  induction llas generalizing acc with
  | nil => simp
  | cons l ls ih =>
    simp only [List.foldl_cons]
    rw [ih]
    simp [vstep]

theorem vpts_fst {σ : Type} (F : VFns α) (w y llas : List α) (fit : σ → α → σ × List α) (s0 : σ) :
    (vpts F w y llas fit s0).map (·.1) = llas := by
  unfold vpts; rw [vfold_fst_map]; simp

theorem vpts_length {σ : Type} (F : VFns α) (w y llas : List α) (fit : σ → α → σ × List α) (s0 : σ) :
    (vpts F w y llas fit s0).length = llas.length := by
  simpa using congrArg List.length (vpts_fst F w y llas fit s0)

theorem vpts_getElem_fst {σ : Type} (F : VFns α) (w y llas : List α) (fit : σ → α → σ × List α)
    (s0 : σ) (k : ℕ) (hk : k < llas.length) :
    ((vpts F w y llas fit s0)[k]'(by rw [vpts_length]; exact hk)).1 = llas[k] := by
  have h := List.getElem_of_eq (vpts_fst F w y llas fit s0) (by simpa [vpts_length] using hk)
  rwa [List.getElem_map] at h

theorem vfold_unit (F : VFns α) (w y : List α) (g : α → List α) (llas : List α)
    (acc : List (α × α × α)) :
    (llas.foldl (vstep F w y (fun (_ : Unit) lam => ((), g lam))) ((), acc)).2 =
      acc ++ llas.map fun l => (l, F.log (fitSS w y (g (F.pow10 l))), F.log (penSS (g (F.pow10 l)))) := by
  induction llas generalizing acc with
  | nil => simp
  | cons l ls ih =>
    simp only [List.foldl_cons, vstep]
    rw [ih]
    simp

/-- for a stateless fit the sweep is a `map` over the grid -/
theorem vpts_unit (F : VFns α) (w y llas : List α) (g : α → List α) :
    vpts F w y llas (fun (_ : Unit) lam => ((), g lam)) () =
      llas.map fun l => (l, F.log (fitSS w y (g (F.pow10 l))), F.log (penSS (g (F.pow10 l)))) := by
  unfold vpts; rw [vfold_unit]; simp

/-! ### `match`-free forms of the V-curve kernels -/

theorem optv_unfold (F : VFns α) (miss : α → Bool) (y llas : List α) :
    optv F miss y llas = if 1 < countValid miss y then
      (vselect F (weightsOf miss y) y llas
        (fun (_ : Unit) lam => ((), ws2d y lam (weightsOf miss y))) ()).map
          fun lopt => (ws2d y lopt (weightsOf miss y), lopt) else none := rfl

theorem optvpCore_unfold (F : VFns α) (y w : List α) (p : α) (llas : List α) :
    optvpCore F y w p llas =
      (vselect F w y llas
        (fun (z : List α) lam => let r := irls y w lam p 10 z (zerosLike y); (r.1, r.1))
        (zerosLike y)).map fun lopt => (expectile y w lopt p, lopt) := rfl

end Hdc.Smooth
