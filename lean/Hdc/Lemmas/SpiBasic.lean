import Hdc.Model.Stats
import Hdc.Model.Discrete
import Hdc.Lemmas.StatsBasic
import Mathlib.Algebra.Order.Field.Basic
import Mathlib.Algebra.Order.Ring.Abs
import Mathlib.Algebra.BigOperators.Group.List.Basic
/-
Bridge lemmas between the carrier-polymorphic kernels (`nat`, `eqv`, `absv`, `sumF`) and the
usual notions of a linearly ordered field, and structural facts about `gammastd` that hold on
every carrier (length, shape of the result).
-/
set_option linter.unusedSectionVars false
namespace Hdc.Spi

section bridge
variable {α : Type} [Field α] [LinearOrder α] [IsStrictOrderedRing α]

theorem nat_eq (k : ℕ) : (nat k : α) = (k : α) := rfl

@[simp] theorem nat_zero : (nat 0 : α) = 0 := Stats.nat_zero
@[simp] theorem nat_one : (nat 1 : α) = 1 := Stats.nat_one

theorem eqv_iff (a b : α) : eqv a b = true ↔ a = b := Stats.eqv_iff a b

theorem eqv_false_iff (a b : α) : eqv a b = false ↔ a ≠ b := Stats.eqv_false_iff a b

theorem eqv_eq_decide (a b : α) : eqv a b = decide (a = b) := Stats.eqv_eq_decide a b

theorem absv_eq (a : α) : absv a = |a| := Stats.absv_eq a

theorem foldl_add_eq (xs : List α) (c : α) : xs.foldl (· + ·) c = c + xs.sum := Stats.foldl_add_eq xs c

theorem sumF_eq (xs : List α) : sumF xs = xs.sum := Stats.sumF_eq xs

theorem minv_eq (a b : α) : minv a b = min a b := by
  unfold minv
  split
  · next h => rw [min_eq_right (le_of_lt h)]
  · next h => rw [min_eq_left (not_lt.mp h)]

end bridge

/-! ### facts that hold on every carrier -/
section anycarrier
variable {α : Type} [Add α] [Sub α] [Mul α] [Div α] [Neg α] [NatCast α] [LT α] [DecidableLT α]

theorem gammastd_length (F : GamFns α) (x : List α) (nodata : α) (cs ce : ℕ) :
    (gammastd F x nodata cs ce).length = x.length := by
  unfold gammastd
  simp only
  split_ifs <;> simp

end anycarrier

end Hdc.Spi
