import Hdc.Lemmas.SpiBasic
/-
Gather / scatter by group label (`x[groups == g]`, `yy[groups == g] = vals`) and the fold of
`gammastd_grp` over the group ids.
-/
set_option linter.unusedSectionVars false
set_option linter.unusedSimpArgs false
namespace Hdc.Spi

/-- number of positions before `p` that carry label `g` : the place of cell `p` inside the
    sub-series of its group -/
def rankIn (groups : List ℕ) (g p : ℕ) : ℕ := (groups.take p).count g

section gather
variable {β : Type}

@[simp] theorem gatherGrp_nil_left (groups : List ℕ) (g : ℕ) :
    gatherGrp ([] : List β) groups g = [] := by simp [gatherGrp]

@[simp] theorem gatherGrp_nil_right (xx : List β) (g : ℕ) :
    gatherGrp xx [] g = [] := by simp [gatherGrp]

theorem gatherGrp_cons (x : β) (xx : List β) (k : ℕ) (ks : List ℕ) (g : ℕ) :
    gatherGrp (x :: xx) (k :: ks) g =
      if k = g then x :: gatherGrp xx ks g else gatherGrp xx ks g := by
  unfold gatherGrp
  by_cases h : k = g <;> simp [List.filter_cons, h]

@[simp] theorem rankIn_zero (groups : List ℕ) (g : ℕ) : rankIn groups g 0 = 0 := by
  simp [rankIn]

theorem rankIn_cons_succ (k : ℕ) (ks : List ℕ) (g p : ℕ) :
    rankIn (k :: ks) g (p + 1) = rankIn ks g p + (if k = g then 1 else 0) := by
  unfold rankIn
  by_cases h : k = g
  · subst h; simp
  · simp [List.count_cons, h]

/-- cell `p` of the series is cell `rankIn groups g p` of its group's sub-series -/
theorem gatherGrp_getElem? (g : ℕ) : ∀ (groups : List ℕ) (xx : List β) (p : ℕ),
    p < xx.length → groups[p]? = some g →
      (gatherGrp xx groups g)[rankIn groups g p]? = xx[p]?
  | [], _, _, _, h => by simp at h
  | _ :: _, [], _, hp, _ => by simp at hp
  | k :: ks, x :: xs, 0, _, h => by
    have hk : k = g := by simpa using h
    simp [gatherGrp_cons, hk]
  | k :: ks, x :: xs, p + 1, hp, h => by
    have hp' : p < xs.length := by simpa using hp
    have h' : ks[p]? = some g := by simpa using h
    have ih := gatherGrp_getElem? g ks xs p hp' h'
    rw [gatherGrp_cons, rankIn_cons_succ]
    by_cases hk : k = g <;> simp [hk, ih]

theorem rankIn_lt_gatherGrp_length (g : ℕ) (groups : List ℕ) (xx : List β) (p : ℕ)
    (hp : p < xx.length) (h : groups[p]? = some g) :
    rankIn groups g p < (gatherGrp xx groups g).length := by
  have := gatherGrp_getElem? g groups xx p hp h
  rw [List.getElem?_eq_getElem hp] at this
  by_contra hc
  rw [List.getElem?_eq_none (Nat.le_of_not_lt hc)] at this
  simp at this

theorem gatherGrp_length (g : ℕ) : ∀ (groups : List ℕ) (xx : List β),
    (gatherGrp xx groups g).length = (groups.take xx.length).count g
  | [], xx => by simp
  | _ :: _, [] => by simp
  | k :: ks, x :: xs => by
    by_cases hk : k = g <;> simp [gatherGrp_cons, hk, List.count_cons, gatherGrp_length g ks xs]

/-- the sub-series of a group is a subsequence of the series -/
theorem gatherGrp_sublist (g : ℕ) : ∀ (groups : List ℕ) (xx : List β),
    (gatherGrp xx groups g).Sublist xx
  | [], xx => by simp
  | _ :: _, [] => by simp
  | k :: ks, x :: xs => by
    rw [gatherGrp_cons]
    by_cases hk : k = g
    · simp [hk, gatherGrp_sublist g ks xs]
    · simp only [hk, if_false]
      exact (gatherGrp_sublist g ks xs).trans (List.sublist_cons_self x xs)

theorem gatherGrp_length_le (g : ℕ) (groups : List ℕ) (xx : List β) :
    (gatherGrp xx groups g).length ≤ xx.length :=
  (gatherGrp_sublist g groups xx).length_le

theorem scatterGrp_nil_groups (g : ℕ) (vals : List β) (out : List (Option β)) :
    scatterGrp g [] vals out = out := by
  unfold scatterGrp; rfl

theorem scatterGrp_nil_out (g : ℕ) (groups : List ℕ) (vals : List β) :
    scatterGrp g groups vals [] = [] := by
  unfold scatterGrp
  cases groups <;> rfl

theorem scatterGrp_cons_eq_cons (g : ℕ) (ks : List ℕ) (v : β) (vs : List β) (o : Option β)
    (os : List (Option β)) :
    scatterGrp g (g :: ks) (v :: vs) (o :: os) = some v :: scatterGrp g ks vs os := by
  simp [scatterGrp]

theorem scatterGrp_cons_eq_nil (g : ℕ) (ks : List ℕ) (o : Option β) (os : List (Option β)) :
    scatterGrp g (g :: ks) ([] : List β) (o :: os) = o :: scatterGrp g ks [] os := by
  simp [scatterGrp]

theorem scatterGrp_cons_ne (g k : ℕ) (hk : k ≠ g) (ks : List ℕ) (vals : List β) (o : Option β)
    (os : List (Option β)) :
    scatterGrp g (k :: ks) vals (o :: os) = o :: scatterGrp g ks vals os := by
  simp [scatterGrp, hk]

/-- one step of the scatter: a cell of group `g` takes the next value (if any is left), the values move on -/
theorem scatterGrp_cons (g k : ℕ) (ks : List ℕ) (vals : List β) (o : Option β) (os : List (Option β)) :
    scatterGrp g (k :: ks) vals (o :: os) =
      if k = g then (match vals.head? with | some v => some v | none => o) :: scatterGrp g ks vals.tail os
      else o :: scatterGrp g ks vals os := by
  cases vals <;> simp [scatterGrp]

theorem scatterGrp_length (g : ℕ) : ∀ (groups : List ℕ) (vals : List β) (out : List (Option β)),
    (scatterGrp g groups vals out).length = out.length
  | [], vals, out => by rw [scatterGrp_nil_groups]
  | _ :: _, vals, [] => by rw [scatterGrp_nil_out]
  | k :: ks, vals, o :: os => by
    rw [scatterGrp_cons]
    split_ifs <;> simp [scatterGrp_length g ks]

/-- cell `p` after `yy[groups == g] = vals`: positions of group `g` receive the values in
    order (as long as there are values), every other position keeps its content -/
theorem scatterGrp_getElem? (g : ℕ) : ∀ (groups : List ℕ) (vals : List β)
    (out : List (Option β)) (p : ℕ), p < out.length →
      (scatterGrp g groups vals out)[p]? =
        if groups[p]? = some g then
          (match vals[rankIn groups g p]? with
           | some v => some (some v)
           | none => out[p]?)
        else out[p]?
  | [], vals, out, p, _ => by rw [scatterGrp_nil_groups]; simp
  | _ :: _, vals, [], p, hp => by simp at hp
  | k :: ks, vals, o :: os, 0, _ => by
    rw [scatterGrp_cons]
    by_cases hk : k = g <;> cases vals <;> simp [hk]
  | k :: ks, vals, o :: os, p + 1, hp => by
    rw [scatterGrp_cons]
    by_cases hk : k = g <;>
      simp [hk, scatterGrp_getElem? g ks _ os p (Nat.lt_of_succ_lt_succ hp), rankIn_cons_succ]

/-- gather after scatter returns the scattered values -/
theorem gatherGrp_scatterGrp_eq (g : ℕ) : ∀ (groups : List ℕ) (vals : List β)
    (out : List (Option β)), out.length = groups.length → vals.length = groups.count g →
      gatherGrp (scatterGrp g groups vals out) groups g = vals.map some
  | [], vals, out, _, hv => by
    have : vals = [] := by simpa using hv
    simp [this]
  | _ :: _, vals, [], ho, _ => by simp at ho
  | k :: ks, vals, o :: os, ho, hv => by
    have ho' : os.length = ks.length := by simpa using ho
    rw [scatterGrp_cons]
    rw [List.count_cons] at hv
    by_cases hk : k = g
    · obtain ⟨v, vs, rfl⟩ := List.exists_cons_of_length_pos (by rw [hv]; simp [hk])
      simp [hk, gatherGrp_cons, gatherGrp_scatterGrp_eq g ks vs os ho' (by simpa [hk] using hv)]
    · simp [hk, gatherGrp_cons, gatherGrp_scatterGrp_eq g ks vals os ho' (by simpa [hk] using hv)]

/-- scattering into another group does not touch this group's cells -/
theorem gatherGrp_scatterGrp_ne (g g' : ℕ) (hg : g' ≠ g) : ∀ (groups : List ℕ) (vals : List β)
    (out : List (Option β)),
      gatherGrp (scatterGrp g' groups vals out) groups g = gatherGrp out groups g
  | [], vals, out => by rw [scatterGrp_nil_groups]
  | _ :: _, vals, [] => by rw [scatterGrp_nil_out]
  | k :: ks, vals, o :: os => by
    rw [scatterGrp_cons]
    by_cases hk : k = g'
    · simp [hk, hg, gatherGrp_cons, gatherGrp_scatterGrp_ne g g' hg ks]
    · simp [hk, gatherGrp_cons, gatherGrp_scatterGrp_ne g g' hg ks]

/-- scattering a group's own values back changes nothing -/
theorem scatterGrp_gatherGrp_eq (g : ℕ) : ∀ (groups : List ℕ) (xx : List β),
    scatterGrp g groups (gatherGrp xx groups g) (xx.map some) = xx.map some
  | [], xx => by rw [scatterGrp_nil_groups]
  | _ :: _, [] => by simp [scatterGrp_nil_out]
  | k :: ks, x :: xs => by
    rw [gatherGrp_cons, List.map_cons, scatterGrp_cons]
    by_cases hk : k = g <;> simp [hk, scatterGrp_gatherGrp_eq g ks xs]

/-- with a single label the sub-series is the whole series -/
theorem gatherGrp_all (g : ℕ) (groups : List ℕ) (xx : List β) (h : groups.length = xx.length)
    (hall : ∀ k ∈ groups, k = g) : gatherGrp xx groups g = xx := by
  unfold gatherGrp
  rw [List.filter_eq_self.2 fun p hp => decide_eq_true (hall _ (List.of_mem_zip hp).2), List.map_fst_zip (h ▸ le_refl _)]

theorem scatterGrp_all (g : ℕ) : ∀ (groups : List ℕ) (vals : List β) (out : List (Option β)),
    groups.length = out.length → vals.length = out.length → (∀ k ∈ groups, k = g) →
      scatterGrp g groups vals out = vals.map some
  | [], vals, out, h1, h2, _ => by
    have ho : out = [] := by simpa using h1.symm
    subst ho
    have hv : vals = [] := by simpa using h2
    subst hv
    rw [scatterGrp_nil_groups]; rfl
  | _ :: _, _, [], h1, _, _ => by simp at h1
  | _ :: _, [], _ :: _, _, h2, _ => by simp at h2
  | k :: ks, v :: vs, o :: os, h1, h2, hall => by
    have hk : k = g := hall k (by simp)
    subst hk
    rw [scatterGrp_cons_eq_cons,
      scatterGrp_all k ks vs os (by simpa using h1) (by simpa using h2)
        (fun k' hk' => hall k' (by simp [hk']))]
    rfl

/-- relabelling by an injective map does not change sub-series or places -/
theorem gatherGrp_map_inj (σ : ℕ → ℕ) (hσ : Function.Injective σ) (g : ℕ) (groups : List ℕ) (xx : List β) :
    gatherGrp xx (groups.map σ) (σ g) = gatherGrp xx groups g := by
  unfold gatherGrp
  rw [List.zip_map_right, List.filter_map, List.map_map]
  simp only [Function.comp_def, Prod.map_snd, Prod.map_fst, id, hσ.eq_iff]

theorem rankIn_map_inj (σ : ℕ → ℕ) (hσ : Function.Injective σ) (g : ℕ) (groups : List ℕ) (p : ℕ) :
    rankIn (groups.map σ) (σ g) p = rankIn groups g p := by
  unfold rankIn
  rw [← List.map_take, List.count_eq_countP, List.countP_map, List.count_eq_countP]
  exact List.countP_congr fun k _ => by simp [hσ.eq_iff]

end gather

/-! ### the fold of `gammastd_grp` -/
section grp
variable {α : Type} [Add α] [Sub α] [Mul α] [Div α] [Neg α] [NatCast α] [LT α] [DecidableLT α]

/-- the result of running `gammastd` on the sub-series of group `g` under that group's window -/
def grpResult (F : GamFns α) (xx : List α) (groups : List ℕ) (nodata : α)
    (cal : List (ℕ × ℕ)) (g : ℕ) : List (Option α) :=
  gammastd F (gatherGrp xx groups g) nodata (cal.getD g (0, 0)).1 (cal.getD g (0, 0)).2

theorem gammastdGrp_succ (F : GamFns α) (xx : List α) (groups : List ℕ) (n : ℕ) (nodata : α)
    (cal : List (ℕ × ℕ)) :
    gammastdGrp F xx groups (n + 1) nodata cal =
      scatterGrp n groups (grpResult F xx groups nodata cal n)
        (gammastdGrp F xx groups n nodata cal) := by
  unfold gammastdGrp grpResult
  rw [List.range_succ, List.foldl_append]
  rfl

theorem gammastdGrp_zero (F : GamFns α) (xx : List α) (groups : List ℕ) (nodata : α)
    (cal : List (ℕ × ℕ)) :
    gammastdGrp F xx groups 0 nodata cal = xx.map fun _ => none := by
  unfold gammastdGrp; simp

theorem gammastdGrp_length (F : GamFns α) (xx : List α) (groups : List ℕ) (n : ℕ) (nodata : α)
    (cal : List (ℕ × ℕ)) : (gammastdGrp F xx groups n nodata cal).length = xx.length := by
  induction n with
  | zero => rw [gammastdGrp_zero]; simp
  | succ n ih => rw [gammastdGrp_succ, scatterGrp_length, ih]

/-- every cell of the grouped result, in closed form -/
theorem gammastdGrp_getElem? (F : GamFns α) (xx : List α) (groups : List ℕ) (n : ℕ) (nodata : α)
    (cal : List (ℕ × ℕ)) (p : ℕ) (hp : p < xx.length) :
    (gammastdGrp F xx groups n nodata cal)[p]? =
      match groups[p]? with
      | some g =>
        if g < n then some ((grpResult F xx groups nodata cal g)[rankIn groups g p]?)
        else some none
      | none => some none := by
  induction n with
  | zero => rw [gammastdGrp_zero]; cases h : groups[p]? <;> simp [hp]
  | succ n ih =>
    rw [gammastdGrp_succ, scatterGrp_getElem? _ _ _ _ _ (by rw [gammastdGrp_length]; exact hp), ih]
    cases h : groups[p]? with
    | none => simp
    | some g =>
      by_cases hg : g = n
      · subst hg
        have hr : rankIn groups g p < (grpResult F xx groups nodata cal g).length := by
          unfold grpResult
          rw [gammastd_length]
          exact rankIn_lt_gatherGrp_length g groups xx p hp h
        simp [List.getElem?_eq_getElem hr]
      · simp [hg, Nat.lt_succ_iff, Nat.lt_iff_le_and_ne]

/-- the cells of group `g` in the grouped result, in order, are the ungrouped result of the
    group's sub-series -/
theorem gatherGrp_gammastdGrp (F : GamFns α) (xx : List α) (groups : List ℕ) (n : ℕ) (nodata : α)
    (cal : List (ℕ × ℕ)) (hlen : groups.length = xx.length) (g : ℕ) (hg : g < n) :
    gatherGrp (gammastdGrp F xx groups n nodata cal) groups g =
      (grpResult F xx groups nodata cal g).map some := by
  induction n with
  | zero => omega
  | succ n ih =>
    rw [gammastdGrp_succ]
    by_cases hgn : g = n
    · subst hgn
      apply gatherGrp_scatterGrp_eq
      · rw [gammastdGrp_length, hlen]
      · unfold grpResult
        rw [gammastd_length, gatherGrp_length, ← hlen, List.take_length]
    · rw [gatherGrp_scatterGrp_ne g n (fun h => hgn h.symm)]
      exact ih (by omega)

end grp

end Hdc.Spi
