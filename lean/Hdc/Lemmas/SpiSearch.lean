import Hdc.Py
import Hdc.Model.Discrete
import Mathlib.Order.Defs.LinearOrder
import Mathlib.Order.Basic
import Mathlib.Tactic.Tauto
/-
`np.searchsorted` / `np.unique` on sorted lists over a linear order: the generic facts about
`takeWhile` of a downward-closed predicate on a sorted list, then `searchLeft`, `searchRight`,
`insertUniq`, `unique`.
-/
set_option linter.unusedSectionVars false
set_option linter.unusedSimpArgs false
namespace Hdc.Spi

section generic
variable {β : Type} [LinearOrder β]

/-- a predicate that, once false, stays false further up -/
def DownClosed (p : β → Bool) : Prop := ∀ x y, x ≤ y → p y = true → p x = true

theorem takeWhile_eq_filter_of_sorted (p : β → Bool) (hp : DownClosed p) :
    ∀ (l : List β), l.Pairwise (· ≤ ·) → l.takeWhile p = l.filter p
  | [], _ => rfl
  | x :: l, h => by
    rw [List.pairwise_cons] at h
    by_cases hx : p x = true
    · simp [List.takeWhile_cons, List.filter_cons, hx, takeWhile_eq_filter_of_sorted p hp l h.2]
    · have : l.filter p = [] := by
        rw [List.filter_eq_nil_iff]; intro y hy hpy; exact hx (hp x y (h.1 y hy) hpy)
      simp [List.takeWhile_cons, List.filter_cons, hx, this]

theorem takeWhile_length_eq_countP (p : β → Bool) (hp : DownClosed p) (l : List β)
    (h : l.Pairwise (· ≤ ·)) : (l.takeWhile p).length = l.countP p := by
  rw [takeWhile_eq_filter_of_sorted p hp l h, List.countP_eq_length_filter]

theorem lt_takeWhile_length_iff (p : β → Bool) (hp : DownClosed p) :
    ∀ (l : List β), l.Pairwise (· ≤ ·) → ∀ (k : ℕ) (hk : k < l.length),
      (k < (l.takeWhile p).length ↔ p l[k] = true)
  | [], _, k, hk => by simp at hk
  | x :: l, h, k, hk => by
    rw [List.pairwise_cons] at h
    by_cases hx : p x = true
    · cases k with
      | zero => simp [List.takeWhile_cons, hx]
      | succ k =>
        have := lt_takeWhile_length_iff p hp l h.2 k (by simpa using hk)
        simp [List.takeWhile_cons, hx, this]
    · cases k with
      | zero => simp [List.takeWhile_cons, hx]
      | succ k =>
        have hk' : k < l.length := by simpa using hk
        have : ¬ p l[k] = true := fun hpk => hx (hp x _ (h.1 _ (List.getElem_mem hk')) hpk)
        simp [List.takeWhile_cons, hx, this]

/-- on a sorted list the entries satisfying a downward-closed predicate are a prefix … -/
theorem filter_eq_take_of_sorted (p : β → Bool) (hp : DownClosed p) (l : List β)
    (h : l.Pairwise (· ≤ ·)) : l.filter p = l.take (l.takeWhile p).length := by
  rw [← takeWhile_eq_filter_of_sorted p hp l h]
  exact List.prefix_iff_eq_take.1 (List.takeWhile_prefix p)

/-- … and the others the complementary suffix -/
theorem filter_not_eq_drop_of_sorted (p : β → Bool) (hp : DownClosed p) :
    ∀ (l : List β), l.Pairwise (· ≤ ·) →
      l.filter (fun x => !p x) = l.drop (l.takeWhile p).length
  | [], _ => rfl
  | x :: l, h => by
    rw [List.pairwise_cons] at h
    by_cases hx : p x = true
    · simp [List.takeWhile_cons, List.filter_cons, hx, filter_not_eq_drop_of_sorted p hp l h.2]
    · have : ∀ y ∈ l, (!p y) = true := by
        intro y hy
        have : ¬ p y = true := fun hpy => hx (hp x y (h.1 y hy) hpy)
        simpa using this
      simp [List.takeWhile_cons, List.filter_cons, hx, List.filter_eq_self.mpr this]

theorem takeWhile_length_le (p : β → Bool) (l : List β) : (l.takeWhile p).length ≤ l.length :=
  (List.takeWhile_sublist p).length_le

theorem downClosed_lt (v : β) : DownClosed (fun x : β => decide (x < v)) := by
  intro x y hxy hy
  simp only [decide_eq_true_eq] at hy ⊢
  exact lt_of_le_of_lt hxy hy

theorem downClosed_le (v : β) : DownClosed (fun x : β => !decide (v < x)) := by
  intro x y hxy hy
  simp only [Bool.not_eq_true', decide_eq_false_iff_not, not_lt] at hy ⊢
  exact le_trans hxy hy

theorem searchLeft_le_length (a : List β) (v : β) : Py.searchLeft a v ≤ a.length :=
  takeWhile_length_le _ _

theorem searchRight_le_length (a : List β) (v : β) : Py.searchRight a v ≤ a.length :=
  takeWhile_length_le _ _

theorem searchLeft_eq_countP (a : List β) (v : β) (h : a.Pairwise (· ≤ ·)) :
    Py.searchLeft a v = a.countP (fun x => decide (x < v)) :=
  takeWhile_length_eq_countP _ (downClosed_lt v) a h

theorem searchRight_eq_countP (a : List β) (v : β) (h : a.Pairwise (· ≤ ·)) :
    Py.searchRight a v = a.countP (fun x => decide (x ≤ v)) := by
  unfold Py.searchRight
  rw [takeWhile_length_eq_countP _ (downClosed_le v) a h]
  congr 1; funext x
  simp [← not_lt]

theorem lt_searchLeft_iff (a : List β) (v : β) (h : a.Pairwise (· ≤ ·)) (k : ℕ)
    (hk : k < a.length) : k < Py.searchLeft a v ↔ a[k] < v := by
  unfold Py.searchLeft
  rw [lt_takeWhile_length_iff _ (downClosed_lt v) a h k hk]; simp

theorem lt_searchRight_iff (a : List β) (v : β) (h : a.Pairwise (· ≤ ·)) (k : ℕ)
    (hk : k < a.length) : k < Py.searchRight a v ↔ a[k] ≤ v := by
  unfold Py.searchRight
  rw [lt_takeWhile_length_iff _ (downClosed_le v) a h k hk]; simp

theorem mem_insertUniq (x y : β) (l : List β) : y ∈ Py.insertUniq x l ↔ y = x ∨ y ∈ l := by
  induction l with
  | nil => simp [Py.insertUniq]
  | cons a as ih =>
    unfold Py.insertUniq
    split
    · simp
    · split
      · simp only [List.mem_cons, ih]; tauto
      · next h1 h2 =>
        have : x = a := le_antisymm (not_lt.mp h2) (not_lt.mp h1)
        subst this; simp

theorem insertUniq_sorted (x : β) (l : List β) (h : l.Pairwise (· < ·)) :
    (Py.insertUniq x l).Pairwise (· < ·) := by
  induction l with
  | nil => simp [Py.insertUniq]
  | cons a as ih =>
    rw [List.pairwise_cons] at h
    unfold Py.insertUniq
    split
    · next hxa =>
      rw [List.pairwise_cons]
      refine ⟨?_, List.pairwise_cons.mpr h⟩
      intro y hy
      rcases List.mem_cons.mp hy with rfl | hy
      · exact hxa
      · exact lt_trans hxa (h.1 y hy)
    · split
      · next hax =>
        rw [List.pairwise_cons]
        refine ⟨?_, ih h.2⟩
        intro y hy
        rcases (mem_insertUniq x y as).mp hy with rfl | hy
        · exact hax
        · exact h.1 y hy
      · exact List.pairwise_cons.mpr h

theorem mem_unique (y : β) (xs : List β) : y ∈ Py.unique xs ↔ y ∈ xs := by
  induction xs with
  | nil => simp [Py.unique]
  | cons x xs ih =>
    have : Py.unique (x :: xs) = Py.insertUniq x (Py.unique xs) := rfl
    rw [this, mem_insertUniq, ih]; simp

theorem unique_sorted (xs : List β) : (Py.unique xs).Pairwise (· < ·) := by
  induction xs with
  | nil => simp [Py.unique]
  | cons x xs ih =>
    have : Py.unique (x :: xs) = Py.insertUniq x (Py.unique xs) := rfl
    rw [this]; exact insertUniq_sorted x _ ih

theorem pairwise_le_of_lt {l : List β} (h : l.Pairwise (· < ·)) : l.Pairwise (· ≤ ·) :=
  h.imp (fun hab => le_of_lt hab)

/-- on a strictly sorted list `searchLeft` finds the position of a member -/
theorem searchLeft_getElem_of_strict (l : List β) (h : l.Pairwise (· < ·)) (m : ℕ)
    (hm : m < l.length) : Py.searchLeft l l[m] = m := by
  have hs := pairwise_le_of_lt h
  refine Nat.le_antisymm (Nat.le_of_not_lt fun hlt => lt_irrefl _ ((lt_searchLeft_iff l _ hs m hm).1 hlt))
    (Nat.le_of_not_lt fun hlt => ?_)
  have hk := Nat.lt_trans hlt hm
  exact Nat.lt_irrefl _ ((lt_searchLeft_iff l _ hs _ hk).2 (List.pairwise_iff_getElem.1 h _ _ hk hm hlt))

/-- a label of `x` is found among the keys at its `searchLeft` position -/
theorem searchLeft_unique_spec (x : List β) (v : β) (hv : v ∈ x) :
    ∃ (h : Py.searchLeft (Py.unique x) v < (Py.unique x).length), (Py.unique x)[Py.searchLeft (Py.unique x) v] = v := by
  have hmem : v ∈ Py.unique x := (mem_unique v x).mpr hv
  obtain ⟨m, hm, rfl⟩ := List.getElem_of_mem hmem
  have hs := searchLeft_getElem_of_strict _ (unique_sorted x) m hm
  refine ⟨by rw [hs]; exact hm, ?_⟩
  simp only [hs]

end generic

end Hdc.Spi
