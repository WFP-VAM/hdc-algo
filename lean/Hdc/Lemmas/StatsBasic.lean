import Hdc.Model.Stats
import Mathlib.Algebra.Order.Field.Basic
import Mathlib.Algebra.Order.AbsoluteValue.Basic
import Mathlib.Algebra.BigOperators.Group.List.Basic
/-
Bridge lemmas: on a linearly ordered field the carrier primitives of `Hdc/Num.lean` are the
usual mathematical notions (`nat k = (k:α)`, `eqv a b ↔ a = b`, `absv = |·|`, `sumF = List.sum`).
-/
namespace Hdc.Stats

set_option linter.unusedSectionVars false

section order
variable {α : Type} [LinearOrder α]

theorem eqv_iff (a b : α) : eqv a b = true ↔ a = b := by
  simp only [eqv, Bool.and_eq_true, Bool.not_eq_eq_eq_not, Bool.not_true, decide_eq_false_iff_not,
    not_lt]
  exact and_comm.trans le_antisymm_iff.symm

theorem eqv_eq_decide (a b : α) : eqv a b = decide (a = b) :=
  Bool.eq_iff_iff.2 (by rw [eqv_iff, decide_eq_true_iff])

theorem eqv_self (a : α) : eqv a a = true := (eqv_iff a a).2 rfl

theorem eqv_false_iff (a b : α) : eqv a b = false ↔ a ≠ b := by
  rw [eqv_eq_decide]; simp

end order

variable {α : Type} [Field α] [LinearOrder α] [IsStrictOrderedRing α]

theorem nat_eq (k : ℕ) : (nat k : α) = (k : α) := rfl
@[simp] theorem nat_zero : (nat 0 : α) = 0 := by simp [nat]
@[simp] theorem nat_one : (nat 1 : α) = 1 := by simp [nat]
@[simp] theorem nat_two : (nat 2 : α) = 2 := by simp [nat]

theorem absv_eq (a : α) : absv a = |a| := by
  unfold absv
  rw [nat_zero]
  split_ifs with h
  · exact (abs_of_neg h).symm
  · exact (abs_of_nonneg (not_lt.1 h)).symm

theorem foldl_add_eq (l : List α) (a : α) : l.foldl (· + ·) a = a + l.sum := by
  rw [List.foldl_eq_apply_foldr (init := 0), List.sum_eq_foldr]

theorem sumF_eq (l : List α) : sumF l = l.sum := by
  unfold sumF; rw [nat_zero, ← List.sum_eq_foldl]

theorem sumL_eq (l : List α) : sumL l = l.sum := by
  unfold sumL; rw [nat_zero, ← List.sum_eq_foldl]

end Hdc.Stats
