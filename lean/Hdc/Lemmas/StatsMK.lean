import Hdc.Lemmas.StatsBasic
import Hdc.Lemmas.SpiSearch
import Mathlib.Algebra.BigOperators.Group.Finset.Basic
import Mathlib.Algebra.BigOperators.Intervals
import Mathlib.Data.List.Count
import Mathlib.Data.List.Dedup
import Mathlib.Data.Finset.Dedup
import Mathlib.Data.Finset.Image
import Mathlib.Order.Monotone.Basic
import Mathlib.Tactic.Ring
/-
Lemmas about the Mann-Kendall model (`mkCounts`, `mkS`, `tieSizes`, `mkVar18`).
-/
namespace Hdc.Stats
open Finset

set_option linter.unusedSectionVars false

section counts
variable {α : Type} [LinearOrder α]

theorem mkCounts_cons (x : α) (xs : List α) :
    mkCounts (x :: xs)
      = ((mkCounts xs).1 + xs.countP (x < ·), (mkCounts xs).2 + xs.countP (· < x)) := by
  simp [mkCounts, List.countP_eq_length_filter]

theorem mkS_cons (x : α) (xs : List α) :
    mkS (x :: xs) = mkS xs + ((xs.countP (x < ·) : Int) - (xs.countP (· < x) : Int)) := by
  unfold mkS; rw [mkCounts_cons]; push_cast; ring

theorem mkS_nil : mkS ([] : List α) = 0 := rfl

theorem mkCounts_append_singleton (xs : List α) (a : α) :
    mkCounts (xs ++ [a])
      = ((mkCounts xs).1 + xs.countP (· < a), (mkCounts xs).2 + xs.countP (a < ·)) := by
  induction xs with
  | nil => simp [mkCounts]
  | cons x xs ih =>
    rw [List.cons_append, mkCounts_cons, ih, mkCounts_cons]
    simp only [List.countP_append, List.countP_cons, List.countP_nil]
    ext <;> simp only <;> omega

theorem mkCounts_reverse (x : List α) :
    mkCounts x.reverse = ((mkCounts x).2, (mkCounts x).1) := by
  induction x with
  | nil => rfl
  | cons a xs ih =>
    rw [List.reverse_cons, mkCounts_append_singleton, ih, mkCounts_cons, List.countP_reverse,
      List.countP_reverse]

variable {β : Type} [LinearOrder β]

theorem mkCounts_map_strictMono (g : α → β) (hg : StrictMono g) (x : List α) :
    mkCounts (x.map g) = mkCounts x := by
  induction x with
  | nil => rfl
  | cons a xs ih =>
    simp only [List.map_cons, mkCounts_cons, ih, List.countP_map, Function.comp_def, hg.lt_iff_lt]

theorem mkCounts_map_strictAnti (g : α → β) (hg : StrictAnti g) (x : List α) :
    mkCounts (x.map g) = ((mkCounts x).2, (mkCounts x).1) := by
  induction x with
  | nil => rfl
  | cons a xs ih =>
    simp only [List.map_cons, mkCounts_cons, ih, List.countP_map, Function.comp_def, hg.lt_iff_gt]

/-- sign of `b - a`, expressed with the order only -/
def sgnLt (a b : α) : Int := if a < b then 1 else if b < a then -1 else 0

theorem sum_sgnLt (x : α) (xs : List α) :
    (xs.map fun v => sgnLt x v).sum = (xs.countP (x < ·) : Int) - (xs.countP (· < x) : Int) := by
  induction xs with
  | nil => simp
  | cons a as ih =>
    rw [List.map_cons, List.sum_cons, ih]
    simp only [sgnLt, List.countP_cons, decide_eq_true_eq]
    split_ifs with h1 h2
    · exact absurd h2 (lt_asymm h1)
    · simp; ring
    · simp; ring
    · simp

theorem sum_map_eq_sum_range {γ : Type} (l : List γ) (h : γ → Int) (d : γ) :
    (l.map h).sum = ∑ i ∈ range l.length, h (l.getD i d) := by
  induction l with
  | nil => simp
  | cons a as ih =>
    rw [List.map_cons, List.sum_cons, List.length_cons, Finset.sum_range_succ', ih]
    simp only [List.getD_cons_succ, List.getD_cons_zero]
    ring

end counts

section ties
variable {α : Type} [LinearOrder α]

theorem nodup_unique (x : List α) : (Py.unique x).Nodup :=
  (Spi.unique_sorted x).imp ne_of_lt

theorem toFinset_unique (x : List α) : (Py.unique x).toFinset = x.toFinset := by
  ext u; simp [Spi.mem_unique]

theorem tieSizes_eq (x : List α) : tieSizes x = (Py.unique x).map fun u => x.count u := by
  unfold tieSizes
  refine List.map_congr_left fun u _ => ?_
  rw [List.count_eq_countP, List.countP_eq_length_filter]
  congr 2
  funext v
  rw [eqv_eq_decide, beq_eq_decide]
  exact decide_eq_decide.2 eq_comm

theorem length_tieSizes (x : List α) : (tieSizes x).length = x.toFinset.card := by
  rw [tieSizes_eq, List.length_map, ← toFinset_unique,
    List.toFinset_card_of_nodup (nodup_unique x)]

/-- the tie correction term `t (t-1) (2t+5)` -/
def tieTerm (t : ℕ) : Int := (t : Int) * ((t : Int) - 1) * (2 * (t : Int) + 5)

/-- without ties every group has size 1 and contributes nothing -/
theorem sum_tieTerm_nodup (x : List α) (h : x.Nodup) :
    ∑ u ∈ x.toFinset, tieTerm (x.count u) = 0 :=
  Finset.sum_eq_zero fun u hu => by
    rw [List.count_eq_one_of_mem h (List.mem_toFinset.1 hu)]; rfl

theorem nodup_of_length_tieSizes (x : List α) (h : (tieSizes x).length = x.length) : x.Nodup := by
  rw [length_tieSizes] at h
  exact Multiset.toFinset_card_eq_card_iff_nodup.1 h

theorem mkVar18_eq (x : List α) :
    mkVar18 x = (x.length : Int) * ((x.length : Int) - 1) * (2 * (x.length : Int) + 5)
      - ∑ u ∈ x.toFinset, tieTerm (x.count u) := by
  unfold mkVar18
  simp only
  split_ifs with h
  · rw [sum_tieTerm_nodup x (nodup_of_length_tieSizes x h), sub_zero]
  · rw [← List.sum_eq_foldl, tieSizes_eq, List.map_map, ← toFinset_unique,
      List.sum_toFinset _ (nodup_unique x)]
    rfl

variable {β : Type} [LinearOrder β]

theorem mkVar18_map_injective (g : α → β) (hg : Function.Injective g) (x : List α) :
    mkVar18 (x.map g) = mkVar18 x := by
  have himg : (x.map g).toFinset = x.toFinset.image g := by
    ext u; simp
  rw [mkVar18_eq, mkVar18_eq, List.length_map, himg,
    Finset.sum_image (fun a _ b _ h => hg h)]
  congr 1
  apply Finset.sum_congr rfl
  intro u _
  rw [List.count_map_of_injective _ _ hg]

end ties

section trend
variable {α : Type} [Field α] [LinearOrder α] [IsStrictOrderedRing α]

/-- the Z score as `mkTrend` computes it -/
def zOf (F : MKFns α) (x : List α) : α := mkZ F (mkS x) (F.ofInt (mkVar18 x) / nat 18)

/-- the trend flag from (h, z) -/
def trendOf (h : Bool) (z : α) : Int :=
  if !h then 0 else if (nat 0 : α) < z then 1 else if z < nat 0 then -1 else 0

theorem mkTrend_tau (F : MKFns α) (x : List α) : (mkTrend F x).1 = mkTau F.half x F.ofInt := rfl
theorem mkTrend_p (F : MKFns α) (x : List α) : (mkTrend F x).2.1 = (mkP F (zOf F x)).1 := rfl
theorem mkTrend_slope (F : MKFns α) (x : List α) : (mkTrend F x).2.2.1 = sensSlope x := rfl
theorem mkTrend_trend (F : MKFns α) (x : List α) :
    (mkTrend F x).2.2.2 = trendOf (mkP F (zOf F x)).2 (zOf F x) := rfl

theorem mkZ_neg (F : MKFns α) (hodd : ∀ s, F.ofInt (-s) = - F.ofInt s) (s : Int) (vs : α) :
    mkZ F (-s) vs = - mkZ F s vs := by
  unfold mkZ
  rcases lt_trichotomy s 0 with h | rfl | h
  · rw [if_pos (show 0 < -s by omega), if_neg (show ¬0 < s by omega), if_pos h, ← neg_div, ← hodd]
    congr 2; ring
  · simp
  · rw [if_neg (show ¬0 < -s by omega), if_pos (show -s < 0 by omega), if_pos h, ← neg_div, ← hodd]
    congr 2; ring

theorem mkP_eq (F : MKFns α) (z : α) :
    mkP F z = (2 * (1 - F.half * (1 + F.erf (|z| * F.sqrt F.half))), decide (F.zcrit < |z|)) := by
  simp only [mkP, nat_two, nat_one, absv_eq]

theorem mkP_neg (F : MKFns α) (z : α) : mkP F (-z) = mkP F z := by
  rw [mkP_eq, mkP_eq, abs_neg]

theorem trendOf_eq (h : Bool) (z : α) : trendOf h z = if h then sgnLt 0 z else 0 := by
  cases h <;> simp [trendOf, sgnLt]

theorem trendOf_neg (h : Bool) (z : α) : trendOf h (-z) = - trendOf h z := by
  rw [trendOf_eq, trendOf_eq]
  cases h
  · simp
  · rcases lt_trichotomy z 0 with hz | rfl | hz
    · simp [sgnLt, hz, lt_asymm hz]
    · simp [sgnLt]
    · simp [sgnLt, hz, lt_asymm hz]

end trend

end Hdc.Stats
