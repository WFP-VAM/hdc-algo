import Hdc.Lemmas.StatsBasic
import Mathlib.Order.Monotone.Basic
import Mathlib.Data.List.Basic
import Mathlib.Tactic.Ring
import Mathlib.Tactic.Linarith
/-
Lemmas about `sortL` / `median` (model in `Hdc/Model/Smooth.lean`).
-/
namespace Hdc.Stats

set_option linter.unusedSectionVars false

theorem getD_of_lt {γ : Type} (l : List γ) (i : ℕ) (d : γ) (h : i < l.length) :
    l.getD i d = l[i] := by
  simp [List.getD_eq_getElem?_getD, h]

theorem getD_reverse_of_lt {γ : Type} (l : List γ) (i : ℕ) (d : γ) (h : i < l.length) :
    l.reverse.getD i d = l.getD (l.length - 1 - i) d := by
  rw [getD_of_lt _ _ _ (by simpa using h), getD_of_lt _ _ _ (by omega), List.getElem_reverse]

section sort
variable {α : Type} [LinearOrder α]

theorem sortL_perm (l : List α) : (sortL l).Perm l := List.mergeSort_perm l _

theorem sortL_length (l : List α) : (sortL l).length = l.length := List.length_mergeSort l

theorem sortL_pairwise (l : List α) : (sortL l).Pairwise (· ≤ ·) :=
  (List.pairwise_mergeSort (le := fun a b : α => !decide (b < a))
    (fun a b c h1 h2 => by
      simp only [Bool.not_eq_eq_eq_not, Bool.not_true, decide_eq_false_iff_not, not_lt] at *
      exact le_trans h1 h2)
    (fun a b => by simpa using le_total a b) l).imp (by simp)

theorem sortL_unique (l s : List α) (hp : s.Perm l) (hs : s.Pairwise (· ≤ ·)) : s = sortL l :=
  List.Perm.eq_of_pairwise (fun _ _ _ _ h1 h2 => le_antisymm h1 h2) hs (sortL_pairwise l)
    (hp.trans (sortL_perm l).symm)

variable {β : Type} [LinearOrder β]

theorem sortL_map_monotone (g : α → β) (hg : Monotone g) (l : List α) :
    sortL (l.map g) = (sortL l).map g := by
  symm
  apply sortL_unique
  · exact (sortL_perm l).map g
  · rw [List.pairwise_map]
    exact (sortL_pairwise l).imp (fun h => hg h)

theorem sortL_map_antitone (g : α → β) (hg : Antitone g) (l : List α) :
    sortL (l.map g) = ((sortL l).map g).reverse := by
  symm
  apply sortL_unique
  · exact (List.reverse_perm _).trans ((sortL_perm l).map g)
  · rw [List.pairwise_reverse, List.pairwise_map]
    exact (sortL_pairwise l).imp (fun h => hg h)

theorem sorted_getElem_le (s : List α) (hs : s.Pairwise (· ≤ ·)) (i j : ℕ) (hj : j < s.length)
    (hij : i ≤ j) : s[i]'(lt_of_le_of_lt hij hj) ≤ s[j] := by
  rcases Nat.eq_or_lt_of_le hij with rfl | h
  · exact le_refl _
  · exact List.pairwise_iff_getElem.1 hs i j _ hj h

theorem countP_le_of_getElem_le (s : List α) (hs : s.Pairwise (· ≤ ·)) (k : ℕ) (hk : k < s.length)
    (m : α) (hm : s[k] ≤ m) : k + 1 ≤ s.countP (fun v => decide (v ≤ m)) := by
  calc k + 1 = (s.take (k + 1)).length := by rw [List.length_take]; omega
    _ = (s.take (k + 1)).countP _ := (List.countP_eq_length.2 fun a ha => by
        obtain ⟨i, hi, rfl⟩ := List.mem_take_iff_getElem.1 ha
        exact decide_eq_true ((sorted_getElem_le s hs i k hk (by omega)).trans hm)).symm
    _ ≤ _ := (List.take_sublist _ _).countP_le

theorem countP_ge_of_le_getElem (s : List α) (hs : s.Pairwise (· ≤ ·)) (k : ℕ) (hk : k < s.length)
    (m : α) (hm : m ≤ s[k]) : s.length - k ≤ s.countP (fun v => decide (m ≤ v)) := by
  calc s.length - k = (s.drop k).length := (List.length_drop ..).symm
    _ = (s.drop k).countP _ := (List.countP_eq_length.2 fun a ha => by
        obtain ⟨i, hi, rfl⟩ := List.mem_drop_iff_getElem.1 ha
        exact decide_eq_true (hm.trans (sorted_getElem_le s hs k (k + i) (by omega) (by omega)))).symm
    _ ≤ _ := (List.drop_sublist _ _).countP_le

end sort

section median
variable {α : Type} [Field α] [LinearOrder α] [IsStrictOrderedRing α]

/-- the middle entry of a list, or the mean of its two middle entries -/
def mid (s : List α) : α :=
  if s.length % 2 = 1 then s.getD (s.length / 2) 0
  else (s.getD (s.length / 2 - 1) 0 + s.getD (s.length / 2) 0) / 2

theorem median_eq_mid (l : List α) : median l = mid (sortL l) := by
  unfold median mid
  simp only [nat_zero, nat_two]

theorem median_of_sorted (l s : List α) (hp : s.Perm l) (hs : s.Pairwise (· ≤ ·)) :
    median l = if l.length % 2 = 1 then s.getD (l.length / 2) 0
      else (s.getD (l.length / 2 - 1) 0 + s.getD (l.length / 2) 0) / 2 := by
  rw [median_eq_mid, ← sortL_unique l s hp hs, mid, hp.length_eq]

theorem median_eq_of_perm (l l' : List α) (h : l.Perm l') : median l = median l' := by
  rw [median_eq_mid, median_eq_mid,
    sortL_unique l' (sortL l) ((sortL_perm l).trans h) (sortL_pairwise l)]

theorem mid_map_mul (a : α) (s : List α) : mid (s.map (a * ·)) = a * mid s := by
  have h0 : ∀ i, (s.map (a * ·)).getD i 0 = a * s.getD i 0 := fun i => by
    rw [List.getD_eq_getElem?_getD, List.getD_eq_getElem?_getD, List.getElem?_map]
    cases s[i]? <;> simp
  simp only [mid, h0, List.length_map]
  split_ifs
  · rfl
  · ring

theorem mid_reverse (s : List α) : mid s.reverse = mid s := by
  unfold mid
  rw [List.length_reverse]
  rcases Nat.eq_zero_or_pos s.length with h0 | hpos
  · rw [List.length_eq_zero_iff.1 h0]; rfl
  split_ifs with h
  · rw [getD_reverse_of_lt _ _ _ (by omega)]
    congr 1; omega
  · rw [getD_reverse_of_lt _ _ _ (by omega), getD_reverse_of_lt _ _ _ (by omega), add_comm]
    congr 3 <;> omega

/-- scaling commutes with the median: for `a ≥ 0` the order is kept, for `a ≤ 0` it is reversed
    and the middle of a list is that of its reverse -/
theorem median_map_mul (a : α) (l : List α) : median (l.map (a * ·)) = a * median l := by
  rw [median_eq_mid, median_eq_mid, ← mid_map_mul]
  rcases le_total 0 a with h | h
  · rw [sortL_map_monotone _ fun _ _ hxy => mul_le_mul_of_nonneg_left hxy h]
  · rw [sortL_map_antitone _ fun _ _ hxy => mul_le_mul_of_nonpos_left hxy h, mid_reverse]

theorem median_map_neg (l : List α) : median (l.map Neg.neg) = - median l := by
  have : (Neg.neg : α → α) = ((-1 : α) * ·) := by funext x; simp
  have h := median_map_mul (-1) l
  rwa [← this, neg_one_mul] at h

theorem mid_bounds (s : List α) (hs : s.Pairwise (· ≤ ·)) (hn : 0 < s.length) :
    s[(s.length - 1) / 2]'(by omega) ≤ mid s ∧ mid s ≤ s[s.length / 2]'(by omega) := by
  unfold mid
  split_ifs with h
  · rw [getD_of_lt _ _ _ (by omega)]
    have e : (s.length - 1) / 2 = s.length / 2 := by omega
    simp only [e, le_refl, and_self]
  · rw [getD_of_lt _ _ _ (by omega), getD_of_lt _ _ _ (by omega)]
    have e : (s.length - 1) / 2 = s.length / 2 - 1 := by omega
    have := sorted_getElem_le s hs (s.length / 2 - 1) (s.length / 2) (by omega) (by omega)
    simp only [e]
    constructor <;> linarith

end median

end Hdc.Stats
