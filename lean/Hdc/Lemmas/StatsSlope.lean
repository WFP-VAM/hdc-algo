import Hdc.Lemmas.StatsMedian
/-
Lemmas about `slopesFrom` / `sensSlope` (Theil-Sen slope of the Mann-Kendall model).
-/
namespace Hdc.Stats

set_option linter.unusedSectionVars false

variable {α : Type} [Field α] [LinearOrder α] [IsStrictOrderedRing α]

theorem slopesFrom_nil (i : ℕ) : slopesFrom i ([] : List α) = [] := rfl

theorem slopesFrom_cons (i : ℕ) (x : α) (xs : List α) :
    slopesFrom i (x :: xs)
      = (xs.zipIdx.map fun (v, k) => (v - x) / nat (k + 1)) ++ slopesFrom (i + 1) xs := rfl

/-- the start index is not used -/
theorem slopesFrom_index (i j : ℕ) (x : List α) : slopesFrom i x = slopesFrom j x := by
  induction x generalizing i j with
  | nil => rfl
  | cons a xs ih => rw [slopesFrom_cons, slopesFrom_cons, ih (i + 1) (j + 1)]

theorem slopesFrom_length_two (i : ℕ) (x : List α) :
    2 * (slopesFrom i x).length = x.length * (x.length - 1) := by
  induction x generalizing i with
  | nil => rfl
  | cons a xs ih =>
    rw [slopesFrom_cons, List.length_append, List.length_map, List.length_zipIdx, Nat.mul_add,
      ih (i + 1), List.length_cons]
    cases xs.length with
    | zero => rfl
    | succ m => simp only [Nat.add_sub_cancel]; ring

theorem slopesFrom_length (i : ℕ) (x : List α) :
    (slopesFrom i x).length = x.length * (x.length - 1) / 2 := by
  rw [← slopesFrom_length_two i x]; omega

/-- pairwise slopes under a map `g` of the data that acts as `h` on divided differences -/
theorem slopesFrom_map (g h : α → α) (hgh : ∀ v x k : α, (g v - g x) / k = h ((v - x) / k))
    (i : ℕ) (x : List α) : slopesFrom i (x.map g) = (slopesFrom i x).map h := by
  induction x generalizing i with
  | nil => rfl
  | cons a xs ih =>
    rw [List.map_cons, slopesFrom_cons, slopesFrom_cons, ih (i + 1), List.map_append,
      List.zipIdx_map, List.map_map, List.map_map]
    congr 1
    apply List.map_congr_left
    rintro ⟨v, k⟩ _
    simp only [Function.comp, Prod.map, id]
    exact hgh v a _

/-- all divided differences `(x_j - x_i)/(j - i)`, `i < j`, listed by `i` and then by `k = j - i - 1` -/
def pairSlopesL (x : List α) : List α :=
  (List.range x.length).flatMap fun i =>
    (List.range (x.length - 1 - i)).map fun k => (x.getD (i + k + 1) 0 - x.getD i 0) / ((k : α) + 1)

theorem zipIdx_map_eq_range {γ δ : Type} (l : List γ) (d : γ) (F : γ × ℕ → δ) :
    l.zipIdx.map F = (List.range l.length).map fun k => F (l.getD k d, k) := by
  apply List.ext_getElem
  · simp
  · intro i h1 h2
    have hi : i < l.length := by simpa using h1
    simp [hi]

theorem slopesFrom_eq_pairSlopesL (i : ℕ) (x : List α) : slopesFrom i x = pairSlopesL x := by
  induction x generalizing i with
  | nil => rfl
  | cons a xs ih =>
    rw [slopesFrom_cons, ih (i + 1)]
    unfold pairSlopesL
    rw [List.length_cons, List.range_succ_eq_map, List.flatMap_cons, List.flatMap_map]
    congr 1
    · rw [zipIdx_map_eq_range xs 0]
      simp only [Nat.add_sub_cancel, Nat.sub_zero, Nat.zero_add, List.getD_cons_succ,
        List.getD_cons_zero]
      apply List.map_congr_left
      intro k _
      simp [nat]
    · apply List.flatMap_congr
      intro j _
      have e : xs.length + 1 - 1 - (j + 1) = xs.length - 1 - j := by omega
      rw [e]
      apply List.map_congr_left
      intro k _
      have e2 : j + 1 + k + 1 = (j + k + 1) + 1 := by omega
      rw [e2, List.getD_cons_succ, List.getD_cons_succ]

/-- slopes towards an element appended at the end -/
def slopesTo (a : α) (xs : List α) : List α :=
  xs.reverse.zipIdx.map fun (v, k) => (a - v) / nat (k + 1)

theorem slopesFrom_append_singleton (i : ℕ) (xs : List α) (a : α) :
    (slopesFrom i (xs ++ [a])).Perm (slopesFrom i xs ++ slopesTo a xs) := by
  induction xs generalizing i with
  | nil => simp [slopesFrom, slopesTo]
  | cons y ys ih =>
    rw [List.cons_append, slopesFrom_cons, slopesFrom_cons]
    unfold slopesTo
    rw [List.reverse_cons, List.zipIdx_append, List.zipIdx_append, List.map_append, List.map_append]
    simp only [List.zipIdx_cons, List.zipIdx_nil, List.map_cons, List.map_nil, Nat.zero_add,
      List.length_reverse]
    have ih' := ih (i + 1)
    unfold slopesTo at ih'
    -- A ++ [e] ++ S'  ~  A ++ S ++ (T ++ [e])
    refine (List.Perm.append_left _ ih').trans ?_
    simp only [List.append_assoc]
    refine List.Perm.append_left _ ?_
    refine (List.perm_append_comm (l₁ := [_])).trans ?_
    simp only [List.append_assoc]
    exact List.Perm.refl _

theorem slopesTo_eq (a : α) (xs : List α) :
    slopesTo a xs.reverse = (xs.zipIdx.map fun (v, k) => (v - a) / nat (k + 1)).map Neg.neg := by
  unfold slopesTo
  rw [List.reverse_reverse, List.map_map]
  apply List.map_congr_left
  rintro ⟨v, k⟩ _
  simp only [Function.comp]
  ring

theorem slopesFrom_reverse (i : ℕ) (x : List α) :
    (slopesFrom i x.reverse).Perm ((slopesFrom i x).map Neg.neg) := by
  induction x generalizing i with
  | nil => simp [slopesFrom]
  | cons a xs ih =>
    rw [List.reverse_cons, slopesFrom_cons, List.map_append]
    refine (slopesFrom_append_singleton i xs.reverse a).trans ?_
    rw [slopesTo_eq]
    refine (List.perm_append_comm).trans ?_
    refine List.Perm.append_left _ ?_
    rw [slopesFrom_index (i + 1) i xs]
    exact ih i

end Hdc.Stats
