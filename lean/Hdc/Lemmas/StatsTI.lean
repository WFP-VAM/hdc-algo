import Hdc.Lemmas.StatsBasic
import Hdc.Props.C06core
import Mathlib.Data.List.SplitBy
import Mathlib.Tactic.FieldSimp
import Mathlib.Data.List.TakeWhile
import Mathlib.Data.List.SplitLengths
import Mathlib.Algebra.BigOperators.Intervals

/-
Lemmas for C20 (temporal interpolation): `scatterMarks`/`setLast` cell by cell, the recursion of
`List.splitBy (· == ·)` through `takeWhile`/`dropWhile`, `runMeans` as sums over consecutive
spans.  `marksBefore` and `spanSums` are verbatim copies of `C20.rank` and `C20.spanSums`.
-/
namespace Hdc.Stats
open Hdc.C01 (fn fn_of_lt ws2d_length)
set_option linter.unusedSectionVars false
variable {α : Type} [Field α] [LinearOrder α] [IsStrictOrderedRing α]

/-- number of nonzero cells strictly before position `i` -/
def marksBefore (t : List α) (i : ℕ) : ℕ := (t.take i).countP (fun v => decide (v ≠ 0))

theorem marksBefore_zero (t : List α) : marksBefore t 0 = 0 := by simp [marksBefore]

theorem marksBefore_cons_succ (a : α) (t : List α) (i : ℕ) :
    marksBefore (a :: t) (i + 1) = marksBefore t i + (if a = 0 then 0 else 1) := by
  unfold marksBefore
  rw [List.take_succ_cons, List.countP_cons]
  by_cases h : a = 0 <;> simp [h]

theorem scatterMarks_cons (a : α) (ts xs : List α) :
    scatterMarks (a :: ts) xs =
      if eqv a (nat 0) then a :: scatterMarks ts xs
      else match xs with
        | x :: xs' => x :: scatterMarks ts xs'
        | [] => a :: scatterMarks ts [] := by
  cases xs <;> simp [scatterMarks]

theorem scatterMarks_length (t x : List α) : (scatterMarks t x).length = t.length := by
  induction t generalizing x with
  | nil => simp [scatterMarks]
  | cons a ts ih =>
    rw [scatterMarks_cons]
    split
    · simp [ih]
    · cases x <;> simp [ih]

theorem scatterMarks_getElem? (t x : List α) (i : ℕ) :
    (scatterMarks t x)[i]? =
      t[i]?.map (fun v => if v = 0 then 0 else x.getD (marksBefore t i) v) := by
  induction t generalizing x i with
  | nil => simp [scatterMarks]
  | cons a ts ih =>
    rw [scatterMarks_cons]
    simp only [eqv_iff, nat_zero]
    by_cases ha : a = 0
    · rw [if_pos ha]
      cases i <;> simp [ih, marksBefore_cons_succ, ha]
    · rw [if_neg ha]
      cases x <;> cases i <;> simp [ih, marksBefore_cons_succ, marksBefore_zero, ha]

theorem setLast_eq (l : List α) (v : α) : setLast l v = l.set (l.length - 1) v := by
  induction l using List.reverseRecOn with
  | nil => simp [setLast]
  | append_singleton l a _ => simp [setLast]

theorem marksBefore_succ (t : List α) (i : ℕ) (hi : i < t.length) :
    marksBefore t (i + 1) = marksBefore t i + (if t[i] = 0 then 0 else 1) := by
  unfold marksBefore
  rw [List.take_succ_eq_append_getElem hi, List.countP_append]
  by_cases h : t[i] = 0 <;> simp [h]

theorem countP_ne_zero_of_bin (t : List α) (hbin : ∀ v ∈ t, v = 0 ∨ v = 1) :
    t.countP (fun v => decide (v ≠ 0)) = t.count 1 := by
  rw [List.count_eq_countP]
  apply List.countP_congr
  intro v hv
  rcases hbin v hv with rfl | rfl <;> simp

theorem marksBefore_lt_of_mark (t : List α) (i : ℕ) (hi : i < t.length) (hm : t[i] ≠ 0) :
    marksBefore t i < t.countP (fun v => decide (v ≠ 0)) := by
  have h1 := marksBefore_succ t i hi
  have h2 : marksBefore t (i + 1) ≤ _ := (List.take_sublist (i + 1) t).countP_le
  rw [if_neg hm] at h1
  omega

theorem marksBefore_last_of_mark (t : List α) (hne : 0 < t.length) (hm : t[t.length - 1] ≠ 0) :
    marksBefore t (t.length - 1) + 1 = t.countP (fun v => decide (v ≠ 0)) := by
  have h1 := marksBefore_succ t (t.length - 1) (by omega)
  rw [if_neg hm] at h1
  rw [← h1, Nat.sub_add_cancel hne, marksBefore, List.take_length]

theorem two_marks_of_count (t : List α) (h2 : 2 ≤ t.count 1) :
    ∃ i j, i < j ∧ j < t.length ∧ 0 < fn t i ∧ 0 < fn t j := by
  induction t with
  | nil => simp at h2
  | cons a ts ih =>
    by_cases ha : a = 1
    · subst ha
      have h1 : 0 < ts.count 1 := by rw [List.count_cons_self] at h2; omega
      obtain ⟨j, hj, hj1⟩ := List.getElem_of_mem (List.count_pos_iff.1 h1)
      refine ⟨0, j + 1, by omega, by simpa using hj, by simp [fn], ?_⟩
      rw [fn_of_lt _ _ (by simpa using hj)]
      simp [hj1]
    · have h2' : 2 ≤ ts.count 1 := by
        rw [List.count_cons_of_ne ha] at h2; exact h2
      obtain ⟨i, j, hij, hj, hi0, hj0⟩ := ih h2'
      refine ⟨i + 1, j + 1, by omega, by simpa using hj, ?_, ?_⟩
      · simpa [fn] using hi0
      · simpa [fn] using hj0

theorem setLast_length (l : List α) (v : α) : (setLast l v).length = l.length := by
  rw [setLast_eq]; simp

theorem temp_length (t x : List α) (v : α) : (setLast (scatterMarks t x) v).length = t.length := by
  rw [setLast_length, scatterMarks_length]

theorem tinterp_z_length (lam : α) (x t : List α) :
    (ws2d (setLast (scatterMarks t x) (x.getLastD (nat 0))) lam t).length = t.length := by
  rw [ws2d_length _ _ _ (temp_length t x _).symm, temp_length]

theorem splitBy_beq_cons (a : Int) (l : List Int) :
    (a :: l).splitBy (· == ·) =
      (a :: l.takeWhile (· == a)) :: (l.dropWhile (· == a)).splitBy (· == ·) := by
  have hrep : a :: l.takeWhile (· == a) = List.replicate ((l.takeWhile (· == a)).length + 1) a :=
    List.eq_replicate_iff.2 ⟨by simp, fun x hx => by
      rcases List.mem_cons.1 hx with rfl | hx
      · rfl
      · simpa using List.mem_takeWhile_imp hx⟩
  have h1 : a :: l = (a :: l.takeWhile (· == a)) ++ l.dropWhile (· == a) := by simp
  conv_lhs => rw [h1]
  rw [hrep, List.splitBy_append, List.splitBy_of_isChain (by simp)
    (List.isChain_replicate_of_rel _ (by simp))]
  · rfl
  intro x hx y hy
  obtain rfl := List.eq_of_mem_replicate (List.mem_of_mem_getLast? hx)
  have := List.head?_dropWhile_not (fun v => v == x) l
  rw [hy] at this
  dsimp only at this
  rw [beq_eq_false_iff_ne] at this ⊢
  exact fun h => this h.symm

theorem runMeans_some (labels : List Int) (z : List α) (l0 : Int) (v : α) (k : ℕ)
    (hz : labels.length ≤ z.length) :
    runMeans (labels.zip z) (some (l0, v, k)) =
      (v + (z.take (labels.takeWhile (· == l0)).length).sum,
        k + (labels.takeWhile (· == l0)).length) ::
      runMeans ((labels.dropWhile (· == l0)).zip
        (z.drop (labels.takeWhile (· == l0)).length)) none := by
  induction labels generalizing z v k with
  | nil => simp [runMeans]
  | cons l ls ih =>
    cases z with
    | nil => simp at hz
    | cons y ys =>
      have hz' : ls.length ≤ ys.length := by simpa using hz
      by_cases hl : l = l0
      · subst hl
        simp only [List.zip_cons_cons, runMeans, if_true]
        rw [ih ys (v + y) (k + 1) hz']
        simp [add_assoc, add_comm 1]
      · simp [runMeans, hl]

theorem runMeans_none (labels : List Int) (z : List α) (hz : labels.length ≤ z.length) :
    runMeans (labels.zip z) none =
      (((labels.splitBy (· == ·)).map List.length).splitLengths z).map
        (fun c => (c.sum, c.length)) := by
  induction hn : labels.length using Nat.strong_induction_on generalizing labels z with
  | _ n ih =>
    cases labels with
    | nil => simp [runMeans]
    | cons a l =>
      cases z with
      | nil => simp at hz
      | cons y ys =>
        have hz' : l.length ≤ ys.length := by simpa using hz
        have hm : (l.takeWhile (· == a)).length + (l.dropWhile (· == a)).length = l.length := by
          rw [← List.length_append, List.takeWhile_append_dropWhile]
        have e1 : runMeans ((a :: l).zip (y :: ys)) none
            = runMeans (l.zip ys) (some (a, y, 1)) := by simp [runMeans]
        rw [e1, runMeans_some l ys a y 1 hz', splitBy_beq_cons]
        rw [ih (l.dropWhile (· == a)).length (by simp at hn; omega) (l.dropWhile (· == a))
          (ys.drop (l.takeWhile (· == a)).length) (by rw [List.length_drop]; omega) rfl]
        simp only [List.map_cons, List.length_cons, List.splitLengths_cons, List.take_succ_cons,
          List.sum_cons, List.drop_succ_cons, List.length_take]
        congr 2
        omega

/-- `(Σ_{s ≤ i < s+k} f i, k)` for consecutive spans of the given lengths, starting at `s` -/
def spanSums (f : ℕ → α) : ℕ → List ℕ → List (α × ℕ)
  | _, [] => []
  | s, k :: ks => (∑ i ∈ Finset.Ico s (s + k), f i, k) :: spanSums f (s + k) ks

theorem sum_take_drop (z : List α) (s k : ℕ) (h : s + k ≤ z.length) :
    ((z.drop s).take k).sum = ∑ i ∈ Finset.Ico s (s + k), fn z i := by
  induction k with
  | zero => simp
  | succ k ih =>
    rw [List.sum_take_succ _ k (by rw [List.length_drop]; omega), ih (by omega),
      ← add_assoc, Finset.sum_Ico_succ_top (by omega), List.getElem_drop,
      fn_of_lt _ _ (by omega)]

theorem splitLengths_sums (z : List α) (ks : List ℕ) (s : ℕ) (h : s + ks.sum ≤ z.length) :
    (ks.splitLengths (z.drop s)).map (fun c => (c.sum, c.length)) = spanSums (fn z) s ks := by
  induction ks generalizing s with
  | nil => simp [spanSums]
  | cons k ks ih =>
    rw [List.sum_cons] at h
    rw [List.splitLengths_cons, List.map_cons, spanSums, sum_take_drop z s k (by omega),
      List.drop_drop, ih (s + k) (by omega), List.length_take, List.length_drop]
    congr 2
    omega

theorem spanSums_congr (f g : ℕ → α) (s : ℕ) (ks : List ℕ)
    (h : ∀ i, s ≤ i → i < s + ks.sum → f i = g i) : spanSums f s ks = spanSums g s ks := by
  induction ks generalizing s with
  | nil => rfl
  | cons k ks ih =>
    rw [List.sum_cons] at h
    rw [spanSums, spanSums, ih (s + k) (fun i h1 h2 => h i (by omega) (by omega))]
    congr 2
    apply Finset.sum_congr rfl
    intro i hi
    rw [Finset.mem_Ico] at hi
    exact h i hi.1 (by omega)

theorem spanSums_length (f : ℕ → α) (s : ℕ) (ks : List ℕ) : (spanSums f s ks).length = ks.length := by
  induction ks generalizing s with
  | nil => rfl
  | cons k ks ih => simp [spanSums, ih]

theorem spanSums_snd (f : ℕ → α) (s : ℕ) (ks : List ℕ) : (spanSums f s ks).map Prod.snd = ks := by
  induction ks generalizing s with
  | nil => rfl
  | cons k ks ih => simp [spanSums, ih]

theorem sum_length_splitBy (r : Int → Int → Bool) (l : List Int) :
    ((l.splitBy r).map List.length).sum = l.length := by
  rw [← List.length_flatten, List.flatten_splitBy]

theorem runMeans_spanSums (labels : List Int) (z : List α) (hz : labels.length ≤ z.length) :
    runMeans (labels.zip z) none =
      spanSums (fn z) 0 ((labels.splitBy (· == ·)).map List.length) := by
  rw [runMeans_none labels z hz]
  have := splitLengths_sums z ((labels.splitBy (· == ·)).map List.length) 0
    (by rw [sum_length_splitBy]; omega)
  rwa [List.drop_zero] at this

theorem sum_Ico_affine (a b : α) (s k : ℕ) :
    ∑ i ∈ Finset.Ico s (s + k), (a + b * (i : α)) =
      (k : α) * (a + b * ((s : α) + ((k : α) - 1) / 2)) := by
  induction k with
  | zero => simp
  | succ k ih =>
    rw [← add_assoc, Finset.sum_Ico_succ_top (by omega), ih]
    push_cast
    field_simp
    ring

end Hdc.Stats
