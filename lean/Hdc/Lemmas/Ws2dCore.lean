import Hdc.Lemmas.Ws2dRows
import Hdc.Lemmas.Ws2dSpec
/-
The link between the program's rows and the specification: applying `W + λ DᵀD` to a vector
equals applying `L D Lᵀ` built from the rows (`apply_eq`), whence the normal equations for the
output (`normal_eq_fn`) and positivity of the pivots (`pivots_pos_fn`).
-/
namespace Hdc.Ws2d
open Finset

section core
variable {α : Type} [Field α]
variable (lam : α) (n : ℕ) (W Y : ℕ → α)

/-- `tS x k` is `(Lᵀ x)_{k-2}` : `x_i + c_i x_{i+1} + e_i x_{i+2}` at `i = k - 2` -/
def tS (x : ℕ → α) : ℕ → α
  | 0 => 0
  | 1 => 0
  | k + 2 => x k + (RS lam n W Y (k + 2)).c * x (k + 1) + (RS lam n W Y (k + 2)).e * x (k + 2)

/-- `diagCoef` and `supCoef` are the entries of `DᵀD`: rows 0, 1 and `i + 2` -/
theorem dtd_coef_zero (hn : 4 ≤ n) (x : ℕ → α) :
    dtd n x 0 = (diagCoef n 0 : α) * x 0 - (supCoef n 0 : α) * x 1 + x 2 := by
  rw [dtd_zero n hn, diagCoef_first, supCoef_first, d2]
  push_cast
  ring

theorem dtd_coef_one (hn : 4 ≤ n) (x : ℕ → α) :
    dtd n x 1 = (diagCoef n 1 : α) * x 1 - (supCoef n 1 : α) * x 2 - (supCoef n 0 : α) * x 0
      + x 3 := by
  rw [dtd_one n hn, diagCoef_second n (by omega), supCoef_mid n 1 le_rfl (by omega),
    supCoef_first, d2, d2]
  push_cast
  ring

theorem dtd_coef_add_two (x : ℕ → α) (hx : ∀ j, n ≤ j → x j = 0) (i : ℕ) (hi : i + 2 < n) :
    dtd n x (i + 2) = (diagCoef n (i + 2) : α) * x (i + 2) - (supCoef n (i + 2) : α) * x (i + 3)
      - (supCoef n (i + 1) : α) * x (i + 1) + x (i + 4) + x i := by
  rcases lt_trichotomy (i + 4) n with h | h | h
  · rw [dtd_mid n x i h, diagCoef_mid n _ (by omega) h, supCoef_mid n _ (by omega) h,
      supCoef_mid n _ (by omega) (by omega)]
    simp only [d2]
    push_cast
    ring
  · rw [dtd_penult n x i h, diagCoef_penult n _ (by omega) h, supCoef_penult n _ h,
      supCoef_mid n _ (by omega) (by omega), hx (i + 4) h.ge]
    simp only [d2]
    push_cast
    ring
  · have h3 : i + 3 = n := by omega
    rw [dtd_last n x i h3, diagCoef_last n _ h3, supCoef_penult n _ h3, hx (i + 3) h3.ge,
      hx (i + 4) (by omega), d2]
    ring

/-- one row of `L D Lᵀ`, multiplied out: `d, c, e` are the entries of the row, `d1 …` and `d2 …`
those of the two rows before, `D`, `S`, `Sp` the coefficients of `λ x0`, `-λ x1`, `-λ xm1` -/
theorem core_alg (w D S Sp lam d c e d1 c1 e1 d2 c2 e2 xm2 xm1 x0 x1 x2 : α)
    (hd : d = w + D * lam - c1 ^ 2 * d1 - e2 ^ 2 * d2)
    (hc : d * c * x1 = (-S * lam - d1 * c1 * e1) * x1)
    (he : d * e * x2 = lam * x2)
    (hc1 : d1 * c1 = -Sp * lam - d2 * c2 * e2)
    (he2 : d2 * e2 = lam) :
    w * x0 + lam * (D * x0 - S * x1 - Sp * xm1 + x2 + xm2) =
      d * (x0 + c * x1 + e * x2) + c1 * d1 * (xm1 + c1 * x0 + e1 * x1)
        + e2 * d2 * (xm2 + c2 * xm1 + e2 * x0) := by
  linear_combination (-x0) * hd - hc - he - xm1 * hc1 - xm2 * he2

local notation "R" => RS lam n W Y
local notation "T" => tS lam n W Y

/-- `(W + λ DᵀD) x` at row `i` equals `(L D Lᵀ x)` at row `i`, provided the pivots before `i`
are nonzero and either pivot `i` is nonzero or `x` vanishes after `i`. -/
theorem apply_eq (hn : 4 ≤ n) (x : ℕ → α) (hx : ∀ j, n ≤ j → x j = 0) (i : ℕ) (hi : i < n)
    (hprev : ∀ j < i, (R (j + 2)).d ≠ 0)
    (hcur : (R (i + 2)).d ≠ 0 ∨ (x (i + 1) = 0 ∧ x (i + 2) = 0)) :
    W i * x i + lam * dtd n x i =
      (R (i + 2)).d * T x (i + 2) + (R (i + 1)).c * (R (i + 1)).d * T x (i + 1)
        + (R i).e * (R i).d * T x i := by
  have hd := RS_d lam n W Y i
  have hcx : (R (i + 2)).d * (R (i + 2)).c * x (i + 1) =
      (-(supCoef n i : α) * lam - (R (i + 1)).d * (R (i + 1)).c * (R (i + 1)).e) * x (i + 1) := by
    rcases hcur with h | h
    · rw [RS_c lam n W Y i h]
    · rw [h.1, mul_zero, mul_zero]
  have hex : (R (i + 2)).d * (R (i + 2)).e * x (i + 2) = lam * x (i + 2) := by
    rcases hcur with h | h
    · rw [RS_e lam n W Y i h]
    · rw [h.2, mul_zero, mul_zero]
  rcases i with _ | _ | i
  · -- row 0: the two rows before are zero
    have hd0 : (R 2).d = W 0 + (diagCoef n 0 : α) * lam := by simpa using hd
    have hc0 : (R 2).d * (R 2).c * x 1 = -(supCoef n 0 : α) * lam * x 1 := by simpa using hcx
    rw [dtd_coef_zero n hn]
    show _ = (R 2).d * (x 0 + (R 2).c * x 1 + (R 2).e * x 2) + (R 1).c * (R 1).d * 0
        + (R 0).e * (R 0).d * 0
    linear_combination (-x 0) * hd0 - hc0 - hex
  · -- row 1: the row before row 0 is zero
    have hd1 : (R 3).d = W 1 + (diagCoef n 1 : α) * lam - (R 2).c ^ 2 * (R 2).d := by
      simpa using hd
    have hc1 := RS_c lam n W Y 0 (hprev 0 (by omega))
    simp only [zero_add, RS_one, zero_d, zero_c, zero_e, mul_zero, sub_zero] at hc1
    rw [dtd_coef_one n hn]
    show _ = (R 3).d * (x 1 + (R 3).c * x 2 + (R 3).e * x 3)
        + (R 2).c * (R 2).d * (x 0 + (R 2).c * x 1 + (R 2).e * x 2) + (R 1).e * (R 1).d * 0
    linear_combination (-x 1) * hd1 - hcx - hex - x 0 * hc1
  · rw [dtd_coef_add_two n x hx i hi]
    exact core_alg _ _ _ _ lam (R (i + 4)).d (R (i + 4)).c (R (i + 4)).e
      (R (i + 3)).d (R (i + 3)).c (R (i + 3)).e (R (i + 2)).d (R (i + 2)).c (R (i + 2)).e
      (x i) (x (i + 1)) (x (i + 2)) (x (i + 3)) (x (i + 4)) hd hcx hex
      (RS_c lam n W Y (i + 1) (hprev (i + 1) (by omega))) (RS_e lam n W Y i (hprev i (by omega)))

/-- a vector with `x_k = 1`, zero beyond `k`, and `(Lᵀ x)_j = 0` for `j < k` -/
theorem exists_test_vector (c e : ℕ → α) (k : ℕ) :
    ∃ x : ℕ → α, x k = 1 ∧ (∀ j, k < j → x j = 0) ∧
      ∀ j < k, x j + c j * x (j + 1) + e j * x (j + 2) = 0 := by
  induction k generalizing c e with
  | zero =>
    refine ⟨fun j => if j = 0 then 1 else 0, by simp, ?_, ?_⟩
    · intro j hj; simp; omega
    · intro j hj; omega
  | succ k ih =>
    obtain ⟨x', h1, h2, h3⟩ := ih (fun j => c (j + 1)) (fun j => e (j + 1))
    refine ⟨fun j => match j with
      | 0 => -(c 0 * x' 0) - e 0 * x' 1
      | j + 1 => x' j, h1, ?_, ?_⟩
    · intro j hj
      cases j with
      | zero => omega
      | succ j => exact h2 j (by omega)
    · intro j hj
      cases j with
      | zero => show -(c 0 * x' 0) - e 0 * x' 1 + c 0 * x' 0 + e 0 * x' 1 = 0; ring
      | succ j => exact h3 j (by omega)

end core

section ordered
variable {α : Type} [Field α] [LinearOrder α] [IsStrictOrderedRing α]
variable (lam : α) (n : ℕ) (W Y : ℕ → α)

/-- every pivot of the forward sweep is positive -/
theorem pivots_pos_fn (hn : 4 ≤ n) (hlam : 0 < lam) (hw : ∀ i < n, 0 ≤ W i)
    (p q : ℕ) (hpq : p < q) (hq : q < n) (hwp : 0 < W p) (hwq : 0 < W q) :
    ∀ k < n, 0 < (RS lam n W Y (k + 2)).d := by
  intro k
  induction k using Nat.strong_induction_on with
  | _ k ih =>
    intro hk
    have hprev : ∀ j < k, (RS lam n W Y (j + 2)).d ≠ 0 :=
      fun j hj => (ih j hj (by omega)).ne'
    obtain ⟨x, x1, x2, x3⟩ := exists_test_vector
      (fun j => (RS lam n W Y (j + 2)).c) (fun j => (RS lam n W Y (j + 2)).e) k
    have hx : ∀ j, n ≤ j → x j = 0 := fun j hj => x2 j (by omega)
    -- `Lᵀ x` vanishes below `k`
    have hT : ∀ m, m < k + 2 → tS lam n W Y x m = 0 := by
      intro m hm
      rcases m with _ | _ | m
      · rfl
      · rfl
      · exact x3 m (by omega)
    have hTk : tS lam n W Y x (k + 2) = 1 := by
      show x k + _ * x (k + 1) + _ * x (k + 2) = 1
      rw [x1, x2 (k + 1) (by omega), x2 (k + 2) (by omega)]; ring
    -- rows of `(W + λ DᵀD) x`
    have rows : ∀ i ∈ range n, x i * (W i * x i + lam * dtd n x i)
        = if i = k then (RS lam n W Y (k + 2)).d else 0 := by
      intro i hi
      have hi := mem_range.1 hi
      rcases lt_trichotomy i k with h | h | h
      · rw [apply_eq lam n W Y hn x hx i hi (fun j hj => hprev j (by omega))
          (Or.inl (hprev i h)), hT (i + 2) (by omega), hT (i + 1) (by omega), hT i (by omega),
          if_neg (by omega)]
        ring
      · subst h
        rw [apply_eq lam n W Y hn x hx i hi hprev
          (Or.inr ⟨x2 _ (by omega), x2 _ (by omega)⟩), hTk, hT (i + 1) (by omega),
          hT i (by omega), x1, if_pos rfl]
        ring
      · rw [x2 i h, if_neg (by omega)]; ring
    have hsum : qf n W lam x = (RS lam n W Y (k + 2)).d := by
      have e : ∑ i ∈ range n, x i * (W i * x i + lam * dtd n x i) = qf n W lam x := by
        unfold qf
        have e2 : ∑ j ∈ range (n - 2), d2 x j ^ 2 = ∑ j ∈ range (n - 2), d2 x j * d2 x j :=
          Finset.sum_congr rfl (fun _ _ => sq _)
        rw [e2, ← sum_mul_dtd n x x, Finset.mul_sum, ← Finset.sum_add_distrib]
        apply Finset.sum_congr rfl; intro i _; ring
      rw [← e, Finset.sum_congr rfl rows, Finset.sum_ite_eq' (range n) k, if_pos (mem_range.2 hk)]
    rw [← hsum]
    by_contra hneg
    have := qf_definite n W lam hlam hw p q hpq hq hwp hwq x (not_lt.1 hneg) k hk
    rw [x1] at this
    exact one_ne_zero this

end ordered

section normal
variable {α : Type} [Field α]

/-- the output of the program satisfies the normal equations when no pivot vanishes -/
theorem normal_eq_fn (y w : List α) (lam : α) (hn : 4 ≤ y.length) (hlen : w.length = y.length)
    (hpiv : ∀ k < y.length, (RS lam y.length (fnl w) (fnl y) (k + 2)).d ≠ 0) :
    ∀ i < y.length, fnl w i * fnl (ws2d y lam w) i + lam * dtd y.length (fnl (ws2d y lam w)) i
      = fnl w i * fnl y i := by
  intro i hi
  set n := y.length with hndef
  set z := fnl (ws2d y lam w) with hz
  have hx : ∀ j, n ≤ j → z j = 0 := fun j hj => ws2d_out y w lam hlen j hj
  -- `d_k (Lᵀ z)_k = u_k`
  have hu : ∀ m, m < n + 2 → (RS lam n (fnl w) (fnl y) m).d * tS lam n (fnl w) (fnl y) z m
      = (RS lam n (fnl w) (fnl y) m).u := by
    intro m hm
    rcases m with _ | _ | m
    · simp
    · simp
    · have hm' : m < n := by omega
      have rel := ws2d_rel y w lam hlen m hm'
      rw [← hz, ← hndef] at rel
      have hd := mul_div_cancel₀ (RS lam n (fnl w) (fnl y) (m + 2)).u (hpiv m hm')
      show _ * (z m + _ * z (m + 1) + _ * z (m + 2)) = _
      linear_combination (RS lam n (fnl w) (fnl y) (m + 2)).d * rel + hd
  rw [apply_eq lam n (fnl w) (fnl y) hn z hx i hi (fun j hj => hpiv j (by omega))
    (Or.inl (hpiv i hi))]
  have u2 := hu (i + 2) (by omega)
  have u1 := hu (i + 1) (by omega)
  have u0 := hu i (by omega)
  have ru := RS_u lam n (fnl w) (fnl y) i
  linear_combination u2 + (RS lam n (fnl w) (fnl y) (i + 1)).c * u1
    + (RS lam n (fnl w) (fnl y) i).e * u0 + ru

/-- Affine equivariance in `y`, from uniqueness: if the output for `(y, w)` solves the normal
equations and those for `(y.map f, w)` have no other solution than the output, `f t = a * t + c`,
then the program commutes with `f` (`a • z + c` solves the equations for `a • y + c`). -/
theorem map_affine (y w : List α) (lam a c : α) (f : α → α) (hf : ∀ t, f t = a * t + c)
    (hlen : w.length = y.length)
    (hN : ∀ i < y.length, fnl w i * fnl (ws2d y lam w) i
      + lam * dtd y.length (fnl (ws2d y lam w)) i = fnl w i * fnl y i)
    (hU : ∀ z : ℕ → α, (∀ i < (y.map f).length, fnl w i * z i + lam * dtd (y.map f).length z i
        = fnl w i * fnl (y.map f) i) → ∀ i < (y.map f).length, z i = fnl (ws2d (y.map f) lam w) i) :
    ws2d (y.map f) lam w = (ws2d y lam w).map f := by
  refine list_eq_of_fnl _ _ (by simp [ws2d_length', hlen]) fun i hi => ?_
  simp only [ws2d_length', hlen, List.length_map] at hi
  rw [fnl_map_of_lt f _ i (by rwa [ws2d_length' y w lam hlen]), hf]
  rw [List.length_map] at hU
  refine (hU (fun k => a * fnl (ws2d y lam w) k + c) (fun j hj => ?_) i hi).symm
  rw [dtd_mul_add, fnl_map_of_lt f y j hj, hf]
  linear_combination a * hN j hj

end normal

end Hdc.Ws2d
