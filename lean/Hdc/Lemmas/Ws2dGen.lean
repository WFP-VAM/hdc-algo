import Hdc.Gen.Ws2d
import Hdc.Lemmas.Ws2dRows
import Hdc.Lemmas.GenKernels
import Mathlib.Algebra.Field.Basic
import Mathlib.Tactic.Ring
/-
Generic lemmas for the refinement proof "generated translation of ws2d.py = hand model":

  (a) `rd` / `wr` / `pyRange` / `pyRangeDown` of `Hdc.Gen.Ws2d` (Python index semantics) in terms of
      ℕ-indexed reads `av a j`;
  (b) the rows of the model (`Hdc.Ws2d.RS`) in exactly the shape in which the source writes them;
  (c) the loop invariants `Fwd` (forward sweep) and `Bwd` (back substitution).

Nothing in this file mentions the generated program `Hdc.Gen.Ws2d.ws2d` itself.
-/
namespace Hdc.Ws2dGen
open Hdc.Gen.Ws2d Hdc.Ws2d

variable {α : Type} [Field α]

/-! ### (a) arrays read as functions -/

/- `ix`, `pyRange` of `Hdc.Gen.Ws2d` are the functions of `Hdc.Gen.Kernels` written out again: their lemmas carry over by
   unfolding. -/

theorem ix_of_eq (n : ℕ) (i : ℤ) (j : ℕ) (h : i = (j : ℤ)) : ix n i = j :=
  Hdc.GenKernels.ix_of_eq n i j h

theorem rd_of_eq (a : Array α) (i : ℤ) (j : ℕ) (h : i = (j : ℤ)) : rd a i = av a j := by
  simp only [rd, av, nat, ix_of_eq a.size i j h, Nat.cast_zero]

/-- reading at a non-negative index -/
theorem rd_nonneg (a : Array α) (i : ℤ) (h : 0 ≤ i) : rd a i = av a i.toNat :=
  rd_of_eq a i i.toNat (by omega)

/-- reading at a negative index wraps around; used for the one wrapped read of the source
    (`i2 = m - 3 = -1` at `n = 3`), which hits a cell that is still zero -/
theorem rd_wrap_zero {a : Array α} {n k : ℕ} (hs : a.size = n) (hz : ∀ j, k ≤ j → av a j = 0)
    (i : ℤ) (j : ℕ) (hi : i < 0) (hj : i + (n : ℤ) = (j : ℤ)) (hk : k ≤ j) : rd a i = 0 := by
  have : ix a.size i = j := by
    simp only [ix, hi, if_true, hs]
    omega
  simp only [rd, this, nat, Nat.cast_zero]
  exact hz j hk

omit [Field α] in
@[simp] theorem size_wr (a : Array α) (i : ℤ) (v : α) : (wr a i v).size = a.size := by
  simp [wr]

/-- `rd_wr_same` -/
theorem av_wr_self (a : Array α) (i : ℤ) (v : α) (j : ℕ) (h : i = (j : ℤ)) (hj : j < a.size) :
    av (wr a i v) j = v := by
  simp only [wr, ix_of_eq a.size i j h]
  exact av_setIfInBounds_self a j v hj

/-- `rd_wr_other` -/
theorem av_wr_ne (a : Array α) (i : ℤ) (v : α) (j : ℕ) (hi : 0 ≤ i) (h : i ≠ (j : ℤ)) :
    av (wr a i v) j = av a j := by
  simp only [wr, ix_of_eq a.size i i.toNat (by omega)]
  exact av_setIfInBounds_ne a _ j v (by omega)

theorem av_toArray (l : List α) (j : ℕ) : av l.toArray j = fnl l j := by
  simp [av, fnl]

theorem av_replicate (n j : ℕ) : av (Array.replicate n (0 : α)) j = 0 := by
  simp only [av, Array.getD_eq_getD_getElem?, Array.getElem?_replicate]
  split <;> simp

theorem toList_eq_of_av (z : Array α) (l : List α) (hs : z.size = l.length)
    (h : ∀ j < l.length, av z j = fnl l j) : z.toList = l := by
  apply list_eq_of_fnl _ _ (by simpa using hs)
  intro j hj
  have hj' : j < l.length := by simpa [hs] using hj
  rw [← h j hj']
  simp [av, fnl]

/-! ### `range(a, b)` and `range(a, b, -1)` -/

@[simp] theorem pyRange_length (a b : ℤ) : (pyRange a b).length = (b - a).toNat :=
  Hdc.GenKernels.pyRange_length a b

@[simp] theorem pyRangeDown_length (a b : ℤ) : (pyRangeDown a b).length = (a - b).toNat := by
  simp [pyRangeDown]

/-- the current element of `for i in range(a, b)` after `pref` iterations -/
theorem pyRange_split (a b : ℤ) (pref suff : List ℤ) (cur : ℤ)
    (h : pyRange a b = pref ++ cur :: suff) :
    cur = a + (pref.length : ℤ) ∧ a + (pref.length : ℤ) < b :=
  Hdc.GenKernels.pyRange_split a b pref suff cur h

/-- the current element of `for i in range(a, b, -1)` after `pref` iterations -/
theorem pyRangeDown_split (a b : ℤ) (pref suff : List ℤ) (cur : ℤ)
    (h : pyRangeDown a b = pref ++ cur :: suff) :
    cur = a - (pref.length : ℤ) ∧ b < a - (pref.length : ℤ) := by
  obtain ⟨hlt, hget⟩ := split_getElem _ _ _ _ h
  rw [pyRangeDown_length] at hlt
  refine ⟨?_, by omega⟩
  rw [← hget]
  simp [pyRangeDown]

/-! ### (b) rows of the model, as the source writes them -/

section rows
variable (y w : List α) (lam : α)

/-- row `j` of the forward sweep of the model -/
def Rw (j : ℕ) : Row α := RS lam y.length (fnl w) (fnl y) (j + 2)

/-- the output of the model, read as a function -/
def X (j : ℕ) : α := fnl (Hdc.ws2d y lam w) j

theorem Rw_d_zero : (Rw y w lam 0).d = fnl w 0 + (diagCoef y.length 0 : α) * lam := by
  unfold Rw
  rw [RS_d]
  simp

theorem Rw_d_one : (Rw y w lam 1).d =
    fnl w 1 + (diagCoef y.length 1 : α) * lam
      - (Rw y w lam 0).c * (Rw y w lam 0).c * (Rw y w lam 0).d := by
  unfold Rw
  rw [RS_d]
  simp only [RS_one, zero_e, zero_d]
  ring

theorem Rw_d_succ2 (k : ℕ) : (Rw y w lam (k + 2)).d =
    fnl w (k + 2) + (diagCoef y.length (k + 2) : α) * lam
      - (Rw y w lam (k + 1)).c * (Rw y w lam (k + 1)).c * (Rw y w lam (k + 1)).d
      - (Rw y w lam k).e * (Rw y w lam k).e * (Rw y w lam k).d := by
  unfold Rw
  rw [RS_d]
  ring

theorem Rw_c_zero : (Rw y w lam 0).c =
    (-(supCoef y.length 0 : α) * lam) / (Rw y w lam 0).d := by
  unfold Rw
  rw [RS_c_eq]
  simp

theorem Rw_c_succ (k : ℕ) : (Rw y w lam (k + 1)).c =
    (-(supCoef y.length (k + 1) : α) * lam
      - (Rw y w lam k).d * (Rw y w lam k).c * (Rw y w lam k).e) / (Rw y w lam (k + 1)).d :=
  RS_c_eq lam y.length (fnl w) (fnl y) (k + 1)

theorem Rw_e (k : ℕ) : (Rw y w lam k).e = lam / (Rw y w lam k).d :=
  RS_e_eq lam y.length (fnl w) (fnl y) k

theorem Rw_u_zero : (Rw y w lam 0).u = fnl w 0 * fnl y 0 := by
  unfold Rw
  rw [RS_u]
  simp

theorem Rw_u_one : (Rw y w lam 1).u =
    fnl w 1 * fnl y 1 - (Rw y w lam 0).c * (Rw y w lam 0).u := by
  unfold Rw
  rw [RS_u]
  simp

theorem Rw_u_succ2 (k : ℕ) : (Rw y w lam (k + 2)).u =
    fnl w (k + 2) * fnl y (k + 2) - (Rw y w lam (k + 1)).c * (Rw y w lam (k + 1)).u
      - (Rw y w lam k).e * (Rw y w lam k).u := by
  unfold Rw
  rw [RS_u]

theorem X_rel (h : w.length = y.length) (j : ℕ) (hj : j < y.length) :
    X y w lam j = (Rw y w lam j).u / (Rw y w lam j).d
      - (Rw y w lam j).c * X y w lam (j + 1) - (Rw y w lam j).e * X y w lam (j + 2) :=
  ws2d_rel y w lam h j hj

theorem X_out (h : w.length = y.length) (j : ℕ) (hj : y.length ≤ j) : X y w lam j = 0 :=
  ws2d_out y w lam h j hj

/-! ### (c) loop invariants -/

/-- the first `k` cells of `a` (an array of size `n`) hold `f` -/
def Holds (n : ℕ) (f : ℕ → α) (k : ℕ) (a : Array α) : Prop :=
  a.size = n ∧ ∀ j < k, av a j = f j

/-- the cells `≥ k` of `a` are (still) zero -/
def Zeros (k : ℕ) (a : Array α) : Prop := ∀ j, k ≤ j → av a j = 0

/-- forward sweep: rows `< k` of the four work arrays hold the rows of the model (row `n - 2` of
    `c`, whose coefficient is `-2` instead of `-4`, is only final after the tail rows: for `n = 3` the
    source first writes row 1 with `-4` and then overwrites it), and `e` is still zero from row `k` on -/
structure Fwd (k : ℕ) (z d c e : Array α) : Prop where
  hz : Holds y.length (fun j => (Rw y w lam j).u) k z
  hd : Holds y.length (fun j => (Rw y w lam j).d) k d
  hc : Holds y.length (fun j => (Rw y w lam j).c) (min k (y.length - 2)) c
  he : Holds y.length (fun j => (Rw y w lam j).e) k e
  ze : Zeros k e

/-- back substitution: cells `≥ t` hold the output of the model, cells `< t` still the
    forward-substituted right-hand side -/
structure Bwd (t : ℕ) (z : Array α) : Prop where
  sz : z.size = y.length
  hx : ∀ j, t ≤ j → j < y.length → av z j = X y w lam j
  hu : ∀ j < t, av z j = (Rw y w lam j).u

end rows

/-- the effect of one Python assignment `a[i] = v` with `0 ≤ i < len(a)` -/
theorem wr_upd {a a0 : Array α} {i : ℤ} {v : α} (ha : a = wr a0 i v) (k : ℕ)
    (hi : i = (k : ℤ)) (hk : k < a0.size) : Upd a a0 k v := by
  rw [ha, wr, ix_of_eq _ _ k hi]
  exact Upd.setIfInBounds a0 k v hk

theorem Holds.size {n : ℕ} {f : ℕ → α} {k : ℕ} {a : Array α} (h : Holds n f k a) :
    a.size = n := h.1

theorem Holds.get {n : ℕ} {f : ℕ → α} {k : ℕ} {a : Array α} (h : Holds n f k a) :
    ∀ j < k, av a j = f j := h.2

theorem Holds.mono {n : ℕ} {f : ℕ → α} {k k' : ℕ} {a : Array α} (h : Holds n f k a)
    (hk : k' ≤ k) : Holds n f k' a := ⟨h.1, fun j hj => h.2 j (by omega)⟩

theorem Zeros.step {k : ℕ} {a a0 : Array α} {v : α} (h : Zeros k a0) (hu : Upd a a0 k v) :
    Zeros (k + 1) a := fun j hj => by rw [hu.other j (by omega)]; exact h j (by omega)

theorem Holds.cast {n : ℕ} {f : ℕ → α} {k k' : ℕ} {a : Array α} (h : Holds n f k a)
    (e : k = k') : Holds n f k' a := e ▸ h

/-- writing row `k` with the right value extends the invariant -/
theorem Holds.step {n : ℕ} {f : ℕ → α} {k : ℕ} {a a0 : Array α} {v : α}
    (h : Holds n f k a0) (hu : Upd a a0 k v) (hv : v = f k) : Holds n f (k + 1) a := by
  refine ⟨hu.size.trans h.1, fun j hj => ?_⟩
  by_cases hjk : j = k
  · subst hjk; rw [hu.self, hv]
  · rw [hu.other j hjk]; exact h.2 j (by omega)

/-- the store `a := wr a0 i v` into row `k` with the right value extends the invariant -/
theorem Holds.write {n : ℕ} {f : ℕ → α} {k : ℕ} {a a0 : Array α} {i : ℤ} {v : α}
    (h : Holds n f k a0) (ha : a = wr a0 i v) (hi : i = (k : ℤ)) (hk : k < n) (hv : v = f k) :
    Holds n f (k + 1) a :=
  h.step (wr_upd ha k hi (h.size ▸ hk)) hv

/-- writing at or beyond row `k` keeps the invariant -/
theorem Holds.keep {n : ℕ} {f : ℕ → α} {k i : ℕ} {a a0 : Array α} {v : α}
    (h : Holds n f k a0) (hu : Upd a a0 i v) (hik : k ≤ i) : Holds n f k a :=
  ⟨hu.size.trans h.1, fun j hj => by rw [hu.other j (by omega)]; exact h.2 j hj⟩

section rows
variable (y w : List α) (lam : α)

/-- the freshly allocated work arrays -/
theorem Fwd.init (n : ℕ) (hn : n = y.length) :
    Fwd y w lam 0 (Array.replicate n (nat 0 : α)) (Array.replicate n (nat 0))
      (Array.replicate n (nat 0)) (Array.replicate n (nat 0)) := by
  subst hn
  refine ⟨⟨?_, ?_⟩, ⟨?_, ?_⟩, ⟨?_, ?_⟩, ⟨?_, ?_⟩,
    fun j _ => by simpa [nat] using av_replicate (α := α) y.length j⟩ <;> simp

variable {y w lam}

theorem Fwd.cast {k k' : ℕ} {z d c e : Array α} (h : Fwd y w lam k z d c e) (hk : k = k') :
    Fwd y w lam k' z d c e := hk ▸ h

/-- one step of the back substitution -/
theorem Bwd.step {t : ℕ} {z z0 : Array α} {v : α} (hs : z0.size = y.length)
    (hx : ∀ j, t < j → j < y.length → av z0 j = X y w lam j)
    (hu : ∀ j < t, av z0 j = (Rw y w lam j).u)
    (hupd : Upd z z0 t v) (hv : v = X y w lam t) : Bwd y w lam t z := by
  refine ⟨hupd.size.trans hs, fun j hj hjn => ?_, fun j hj => ?_⟩
  · by_cases hjt : j = t
    · subst hjt; rw [hupd.self, hv]
    · rw [hupd.other j hjt]; exact hx j (by omega) hjn
  · rw [hupd.other j (by omega)]; exact hu j hj

theorem Bwd.cast {t t' : ℕ} {z : Array α} (h : Bwd y w lam t z) (ht : t = t') :
    Bwd y w lam t' z := ht ▸ h

theorem Bwd.toList_eq {z : Array α} (hB : Bwd y w lam 0 z) (h : w.length = y.length) :
    z.toList = Hdc.ws2d y lam w := by
  apply toList_eq_of_av z _ (by rw [hB.sz, ws2d_length' y w lam h])
  intro j hj
  rw [ws2d_length' y w lam h] at hj
  exact hB.hx j (Nat.zero_le _) hj

end rows

/-- closes `source expression = model expression` after the reads have been rewritten: syntactic
    equality (nothing left to do) or a commutative-ring identity in which every quotient is an atom
    (no side condition on the denominators: `x / 0` means the same on both sides) -/
macro "row_arith" : tactic => `(tactic| first | done | ring)

end Hdc.Ws2dGen
