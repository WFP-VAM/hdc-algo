import Hdc.Model.Ws2d
import Mathlib.Algebra.Field.Basic
import Mathlib.Tactic.Ring
/-
Model-side lemmas for `ws2d`: the list program is re-expressed through ℕ-indexed functions.

`RS k` is the row with index `k - 2` of the forward sweep (`RS 0 = RS 1 =` the zero row), so
that the three-term recurrences have no case split at the start.
-/
namespace Hdc

/-! The values of `diagCoef` and `supCoef` in the five row classes. -/

theorem diagCoef_first (n : ℕ) : diagCoef n 0 = 1 := by simp [diagCoef]
theorem diagCoef_second (n : ℕ) (h : 3 ≤ n) : diagCoef n 1 = 5 := by
  have : ¬ (1 + 1 = n) := by omega
  simp [diagCoef, this]
theorem diagCoef_mid (n k : ℕ) (h2 : 2 ≤ k) (h : k + 2 < n) : diagCoef n k = 6 := by
  have h1 : ¬ (k = 0 ∨ k + 1 = n) := by omega
  have h3 : ¬ (k = 1 ∨ k + 2 = n) := by omega
  simp [diagCoef, h1, h3]
theorem diagCoef_penult (n k : ℕ) (h2 : 1 ≤ k) (h : k + 2 = n) : diagCoef n k = 5 := by
  have h1 : ¬ (k = 0 ∨ k + 1 = n) := by omega
  simp [diagCoef, h1, h]
theorem diagCoef_last (n k : ℕ) (h : k + 1 = n) : diagCoef n k = 1 := by
  simp [diagCoef, h]
theorem supCoef_first (n : ℕ) : supCoef n 0 = 2 := by simp [supCoef]
theorem supCoef_mid (n k : ℕ) (h1 : 1 ≤ k) (h : k + 2 < n) : supCoef n k = 4 := by
  have h1 : ¬ (k = 0 ∨ k + 2 = n) := by omega
  simp [supCoef, h1]
theorem supCoef_penult (n k : ℕ) (h : k + 2 = n) : supCoef n k = 2 := by
  simp [supCoef, h]

end Hdc

namespace Hdc.Ws2d

variable {α : Type} [Field α]

/-- a list read as a function (0 outside) -/
def fnl (l : List α) : ℕ → α := fun i => l.getD i 0

theorem fnl_nil (i : ℕ) : fnl ([] : List α) i = 0 := by simp [fnl]
theorem fnl_cons_zero (a : α) (l : List α) : fnl (a :: l) 0 = a := by simp [fnl]
theorem fnl_cons_succ (a : α) (l : List α) (i : ℕ) : fnl (a :: l) (i + 1) = fnl l i := by
  simp [fnl]
theorem fnl_of_lt (l : List α) (i : ℕ) (h : i < l.length) : fnl l i = l[i] := by
  simp [fnl, h]
theorem fnl_of_le (l : List α) (i : ℕ) (h : l.length ≤ i) : fnl l i = 0 := by
  simp [fnl, h]

theorem fnl_map_of_lt (f : α → α) (l : List α) (i : ℕ) (h : i < l.length) :
    fnl (l.map f) i = f (fnl l i) := by
  simp [fnl, h]

theorem list_eq_of_fnl (l l' : List α) (hl : l.length = l'.length)
    (h : ∀ i < l.length, fnl l i = fnl l' i) : l = l' := by
  apply List.ext_getElem hl
  intro i h1 h2
  have := h i h1
  rwa [fnl_of_lt _ _ h1, fnl_of_lt _ _ h2] at this

/-- shifted rows of the forward sweep: `RS k` is row `k-2` -/
def RS (lam : α) (n : ℕ) (W Y : ℕ → α) : ℕ → Row α
  | 0 => Row.zero
  | 1 => Row.zero
  | k + 2 => fwdRow lam n k (RS lam n W Y (k + 1)) (RS lam n W Y k) (W k) (Y k)

section
variable (lam : α) (n : ℕ) (W Y : ℕ → α)

@[simp] theorem RS_zero : RS lam n W Y 0 = Row.zero := rfl
@[simp] theorem RS_one : RS lam n W Y 1 = Row.zero := rfl
theorem RS_succ2 (k : ℕ) :
    RS lam n W Y (k + 2) = fwdRow lam n k (RS lam n W Y (k + 1)) (RS lam n W Y k) (W k) (Y k) :=
  rfl

@[simp] theorem zero_d : (Row.zero : Row α).d = 0 := by simp [Row.zero]
@[simp] theorem zero_c : (Row.zero : Row α).c = 0 := by simp [Row.zero]
@[simp] theorem zero_e : (Row.zero : Row α).e = 0 := by simp [Row.zero]
@[simp] theorem zero_u : (Row.zero : Row α).u = 0 := by simp [Row.zero]

theorem RS_d (k : ℕ) : (RS lam n W Y (k + 2)).d =
    W k + (diagCoef n k : α) * lam
      - (RS lam n W Y (k + 1)).c ^ 2 * (RS lam n W Y (k + 1)).d
      - (RS lam n W Y k).e ^ 2 * (RS lam n W Y k).d := by
  rw [RS_succ2]; simp only [fwdRow, nat]; ring

theorem RS_u (k : ℕ) : (RS lam n W Y (k + 2)).u =
    W k * Y k - (RS lam n W Y (k + 1)).c * (RS lam n W Y (k + 1)).u
      - (RS lam n W Y k).e * (RS lam n W Y k).u := by
  rw [RS_succ2]; simp only [fwdRow]

theorem RS_c_eq (k : ℕ) : (RS lam n W Y (k + 2)).c =
    (-(supCoef n k : α) * lam
      - (RS lam n W Y (k + 1)).d * (RS lam n W Y (k + 1)).c * (RS lam n W Y (k + 1)).e)
      / (RS lam n W Y (k + 2)).d := by
  rw [RS_succ2]; simp only [fwdRow, nat]

theorem RS_e_eq (k : ℕ) : (RS lam n W Y (k + 2)).e = lam / (RS lam n W Y (k + 2)).d := by
  rw [RS_succ2]; simp only [fwdRow, nat]

theorem RS_c (k : ℕ) (h : (RS lam n W Y (k + 2)).d ≠ 0) :
    (RS lam n W Y (k + 2)).d * (RS lam n W Y (k + 2)).c =
      -(supCoef n k : α) * lam
        - (RS lam n W Y (k + 1)).d * (RS lam n W Y (k + 1)).c * (RS lam n W Y (k + 1)).e := by
  rw [RS_c_eq, mul_div_cancel₀ _ h]

theorem RS_e (k : ℕ) (h : (RS lam n W Y (k + 2)).d ≠ 0) :
    (RS lam n W Y (k + 2)).d * (RS lam n W Y (k + 2)).e = lam := by
  rw [RS_e_eq, mul_div_cancel₀ _ h]

/-- the forward sweep started at index `i` with the right state produces the rows `RS` -/
theorem fwd_eq (l : List (α × α)) : ∀ (i : ℕ),
    (∀ j (h : j < l.length), l[j] = (W (i + j), Y (i + j))) →
    fwd lam n i (RS lam n W Y (i + 1)) (RS lam n W Y i) l
      = (List.range' i l.length).map (fun j => RS lam n W Y (j + 2)) := by
  induction l with
  | nil => intro i _; simp [fwd]
  | cons p rest ih =>
    intro i h
    have h0 := h 0 (by simp)
    simp only [List.getElem_cons_zero, Nat.add_zero] at h0
    obtain ⟨pw, py⟩ := p
    simp only [Prod.mk.injEq] at h0
    obtain ⟨rfl, rfl⟩ := h0
    simp only [fwd, List.length_cons, List.range'_succ, List.map_cons]
    rw [← RS_succ2]
    congr 1
    apply ih (i + 1)
    intro j hj
    have := h (j + 1) (by simp; omega)
    simp only [List.getElem_cons_succ] at this
    rw [this]; congr 2 <;> omega

end

theorem fwd_length (lam : α) (n : ℕ) (l : List (α × α)) :
    ∀ (i : ℕ) (r1 r2 : Row α), (fwd lam n i r1 r2 l).length = l.length := by
  induction l with
  | nil => intros; simp [fwd]
  | cons p rest ih => intro i r1 r2; obtain ⟨a, b⟩ := p; simp [fwd, ih]

/-- `back`, one step, without the case split of the source -/
theorem back_cons (r : Row α) (rs : List (Row α)) :
    back (r :: rs) =
      (r.u / r.d - r.c * fnl (back rs) 0 - r.e * fnl (back rs) 1) :: back rs := by
  rw [back]
  split
  · next h => simp [h, fnl]
  · next z1 h => simp [h, fnl]
  · next z1 z2 zs h => simp [h, fnl]

theorem back_length (rs : List (Row α)) : (back rs).length = rs.length := by
  induction rs with
  | nil => simp [back]
  | cons r rs ih => rw [back_cons]; simp [ih]

/-- the back-substitution relation, uniformly in the index (values past the end read as 0) -/
theorem back_rel (rs : List (Row α)) : ∀ (i : ℕ) (h : i < rs.length),
    fnl (back rs) i =
      rs[i].u / rs[i].d - rs[i].c * fnl (back rs) (i + 1) - rs[i].e * fnl (back rs) (i + 2) := by
  induction rs with
  | nil => intro i h; simp at h
  | cons r rs ih =>
    intro i h
    rw [back_cons]
    cases i with
    | zero => simp [fnl_cons_zero, fnl_cons_succ]
    | succ i =>
      simp only [fnl_cons_succ, List.getElem_cons_succ]
      exact ih i (by simpa using h)

theorem ws2dRows_eq (y : List α) (lam : α) (w : List α) :
    ws2dRows y lam w = (List.range' 0 (w.zip y).length).map
      (fun j => RS lam y.length (fnl w) (fnl y) (j + 2)) := by
  unfold ws2dRows
  have := fwd_eq lam y.length (fnl w) (fnl y) (w.zip y) 0 (by
    intro j hj
    have hj' : j < w.length ∧ j < y.length := by simpa using hj
    simp [fnl, hj'.1, hj'.2])
  simpa using this

theorem ws2dRows_length (y : List α) (lam : α) (w : List α) (h : w.length = y.length) :
    (ws2dRows y lam w).length = y.length := by
  unfold ws2dRows; rw [fwd_length]; simp [h]

theorem ws2dRows_getElem (y : List α) (lam : α) (w : List α) (h : w.length = y.length)
    (i : ℕ) (hi : i < y.length) :
    (ws2dRows y lam w)[i]'(by rw [ws2dRows_length y lam w h]; exact hi)
      = RS lam y.length (fnl w) (fnl y) (i + 2) := by
  simp [ws2dRows_eq]

theorem ws2d_length' (y w : List α) (lam : α) (h : w.length = y.length) :
    (ws2d y lam w).length = y.length := by
  unfold ws2d; rw [back_length, ws2dRows_length y lam w h]

/-- the output, read as a function, satisfies the back-substitution relation -/
theorem ws2d_rel (y w : List α) (lam : α) (h : w.length = y.length) (i : ℕ) (hi : i < y.length) :
    fnl (ws2d y lam w) i =
      (RS lam y.length (fnl w) (fnl y) (i + 2)).u / (RS lam y.length (fnl w) (fnl y) (i + 2)).d
        - (RS lam y.length (fnl w) (fnl y) (i + 2)).c * fnl (ws2d y lam w) (i + 1)
        - (RS lam y.length (fnl w) (fnl y) (i + 2)).e * fnl (ws2d y lam w) (i + 2) := by
  unfold ws2d
  rw [back_rel _ i (by rw [ws2dRows_length y lam w h]; exact hi),
    ws2dRows_getElem y lam w h i hi]

theorem ws2d_out (y w : List α) (lam : α) (h : w.length = y.length) (i : ℕ) (hi : y.length ≤ i) :
    fnl (ws2d y lam w) i = 0 :=
  fnl_of_le _ _ (by rw [ws2d_length' y w lam h]; exact hi)

/-- the rows only see the products `w_i * y_i` -/
theorem RS_congr (lam : α) (n : ℕ) (W Y Y' : ℕ → α) (h : ∀ k, W k * Y k = W k * Y' k) :
    ∀ k, RS lam n W Y k = RS lam n W Y' k := by
  have key : ∀ k, RS lam n W Y k = RS lam n W Y' k ∧ RS lam n W Y (k + 1) = RS lam n W Y' (k + 1) := by
    intro k
    induction k with
    | zero => simp
    | succ k ih =>
      refine ⟨ih.2, ?_⟩
      rw [RS_succ2, RS_succ2, ih.1, ih.2]
      simp only [fwdRow, h k]
  exact fun k => (key k).1

end Hdc.Ws2d
