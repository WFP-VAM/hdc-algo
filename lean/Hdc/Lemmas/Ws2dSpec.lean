import Mathlib.Algebra.BigOperators.Group.Finset.Basic
import Mathlib.Algebra.BigOperators.Ring.Finset
import Mathlib.Algebra.Order.BigOperators.Ring.Finset
import Mathlib.Algebra.Order.Field.Basic
import Mathlib.Tactic.Ring
import Mathlib.Tactic.LinearCombination
/-
Specification-side lemmas for C01: second differences, DᵀD, the quadratic form, and the
penalised least-squares functional.  Nothing here mentions the program.

The definitions `d2`, `dmat`, `dtd`, `pls` are verbatim copies of `D2`, `Dmat`, `DtD`, `PLS`
of `Hdc/Props/C01.lean` (which cannot be imported from here); `C01.lean` identifies them by `rfl`.
-/
namespace Hdc.Ws2d
open Finset

variable {α : Type} [Field α]

def d2 (z : ℕ → α) (j : ℕ) : α := z j - 2 * z (j + 1) + z (j + 2)

def dmat (j i : ℕ) : α :=
  if i = j then 1 else if i = j + 1 then -2 else if i = j + 2 then 1 else 0

def dtd (n : ℕ) (z : ℕ → α) (i : ℕ) : α := ∑ j ∈ range (n - 2), dmat j i * d2 z j

def pls (n : ℕ) (y w : ℕ → α) (lam : α) (z : ℕ → α) : α :=
  (∑ i ∈ range n, w i * (y i - z i) ^ 2) + lam * ∑ j ∈ range (n - 2), (d2 z j) ^ 2

/-- the quadratic form of `W + λ DᵀD` -/
def qf (n : ℕ) (w : ℕ → α) (lam : α) (h : ℕ → α) : α :=
  (∑ i ∈ range n, w i * h i ^ 2) + lam * ∑ j ∈ range (n - 2), (d2 h j) ^ 2

theorem dmat_mul (j i : ℕ) (a : α) :
    dmat j i * a = (if i = j then a else 0) + (if i = j + 1 then -2 * a else 0)
      + (if i = j + 2 then a else 0) := by
  unfold dmat
  by_cases h1 : i = j
  · subst h1; simp
  · by_cases h2 : i = j + 1
    · subst h2; simp
    · by_cases h3 : i = j + 2
      · subst h3; simp
      · simp [h1, h2, h3]

/-! ### Column sums of `dmat` (index `j` runs) -/

theorem sum_dmat_zero (f : ℕ → α) (m : ℕ) (hm : 0 < m) :
    ∑ j ∈ range m, dmat j 0 * f j = f 0 := by
  rw [Finset.sum_eq_single 0]
  · simp [dmat]
  · intro j _ hj
    have : (0 : ℕ) ≠ j := fun h => hj h.symm
    simp [dmat, this]
  · intro h; exact absurd (mem_range.2 hm) h

theorem sum_dmat_one (f : ℕ → α) (m : ℕ) (hm : 1 < m) :
    ∑ j ∈ range m, dmat j 1 * f j = f 1 - 2 * f 0 := by
  have h : ∀ j, dmat j 1 * f j = (if j = 1 then f j else 0) + (if j = 0 then -2 * f j else 0) := by
    intro j
    rw [dmat_mul]
    have e1 : (1 = j) = (j = 1) := propext eq_comm
    have e2 : (1 = j + 1) = (j = 0) := propext (by omega)
    have e3 : ¬ (1 = j + 2) := by omega
    simp only [e1, e2, e3, if_false, add_zero]
  simp_rw [h, Finset.sum_add_distrib, Finset.sum_ite_eq', mem_range]
  have h0 : 0 < m := by omega
  simp [hm, h0]; ring

theorem sum_dmat_add_two (f : ℕ → α) (m i : ℕ) :
    ∑ j ∈ range m, dmat j (i + 2) * f j =
      (if i + 2 < m then f (i + 2) else 0) + (if i + 1 < m then -2 * f (i + 1) else 0)
        + (if i < m then f i else 0) := by
  have h : ∀ j, dmat j (i + 2) * f j = (if j = i + 2 then f j else 0)
      + (if j = i + 1 then -2 * f j else 0) + (if j = i then f j else 0) := by
    intro j
    rw [dmat_mul]
    have e1 : (i + 2 = j) = (j = i + 2) := propext eq_comm
    have e2 : (i + 2 = j + 1) = (j = i + 1) := propext (by omega)
    have e3 : (i + 2 = j + 2) = (j = i) := propext (by omega)
    simp only [e1, e2, e3]
  simp_rw [h, Finset.sum_add_distrib, Finset.sum_ite_eq', mem_range]

/-! ### Row sums of `dmat` (index `i` runs) -/

theorem sum_dmat_row (h : ℕ → α) (n j : ℕ) (hj : j + 2 < n) :
    ∑ i ∈ range n, dmat j i * h i = d2 h j := by
  simp_rw [dmat_mul, Finset.sum_add_distrib, Finset.sum_ite_eq', mem_range]
  have h0 : j < n := by omega
  have h1 : j + 1 < n := by omega
  simp [hj, h0, h1, d2]; ring

/-- `DᵀD` is the adjoint square of `D` -/
theorem sum_mul_dtd (n : ℕ) (h z : ℕ → α) :
    ∑ i ∈ range n, h i * dtd n z i = ∑ j ∈ range (n - 2), d2 h j * d2 z j := by
  unfold dtd
  simp_rw [Finset.mul_sum]
  rw [Finset.sum_comm]
  apply Finset.sum_congr rfl
  intro j hj
  have hj' : j + 2 < n := by have := mem_range.1 hj; omega
  rw [← sum_dmat_row h n j hj', Finset.sum_mul]
  apply Finset.sum_congr rfl
  intro i _; ring

/-! ### Explicit `dtd` in the five row classes -/

theorem dtd_zero (n : ℕ) (hn : 4 ≤ n) (z : ℕ → α) : dtd n z 0 = d2 z 0 := by
  unfold dtd; exact sum_dmat_zero _ _ (by omega)

theorem dtd_one (n : ℕ) (hn : 4 ≤ n) (z : ℕ → α) : dtd n z 1 = d2 z 1 - 2 * d2 z 0 := by
  unfold dtd; exact sum_dmat_one _ _ (by omega)

theorem dtd_mid (n : ℕ) (z : ℕ → α) (i : ℕ) (hi : i + 4 < n) :
    dtd n z (i + 2) = d2 z (i + 2) - 2 * d2 z (i + 1) + d2 z i := by
  unfold dtd; rw [sum_dmat_add_two]
  have h1 : i + 2 < n - 2 := by omega
  have h2 : i + 1 < n - 2 := by omega
  have h3 : i < n - 2 := by omega
  simp [h1, h2, h3]; ring

theorem dtd_penult (n : ℕ) (z : ℕ → α) (i : ℕ) (hi : i + 4 = n) :
    dtd n z (i + 2) = - 2 * d2 z (i + 1) + d2 z i := by
  unfold dtd; rw [sum_dmat_add_two]
  have h1 : ¬ i + 2 < n - 2 := by omega
  have h2 : i + 1 < n - 2 := by omega
  have h3 : i < n - 2 := by omega
  simp [h1, h2, h3]

theorem dtd_last (n : ℕ) (z : ℕ → α) (i : ℕ) (hi : i + 3 = n) :
    dtd n z (i + 2) = d2 z i := by
  unfold dtd; rw [sum_dmat_add_two]
  have h1 : ¬ i + 2 < n - 2 := by omega
  have h2 : ¬ i + 1 < n - 2 := by omega
  have h3 : i < n - 2 := by omega
  simp [h1, h2, h3]

theorem d2_sub (z z' : ℕ → α) (j : ℕ) : d2 (fun i => z i - z' i) j = d2 z j - d2 z' j := by
  simp only [d2]; ring

/-- `DᵀD` is linear and annihilates constants -/
theorem dtd_mul_add (n : ℕ) (z : ℕ → α) (a c : α) (i : ℕ) :
    dtd n (fun k => a * z k + c) i = a * dtd n z i := by
  simp only [dtd, d2, Finset.mul_sum]
  exact Finset.sum_congr rfl fun j _ => by ring

theorem dtd_sub (n : ℕ) (z z' : ℕ → α) (i : ℕ) :
    dtd n (fun i => z i - z' i) i = dtd n z i - dtd n z' i := by
  unfold dtd
  rw [← Finset.sum_sub_distrib]
  apply Finset.sum_congr rfl
  intro j _; rw [d2_sub]; ring

theorem dtd_congr (n : ℕ) (z z' : ℕ → α) (h : ∀ i < n, z i = z' i) (i : ℕ) :
    dtd n z i = dtd n z' i := by
  unfold dtd
  apply Finset.sum_congr rfl
  intro j hj
  have hj' : j + 2 < n := by have := mem_range.1 hj; omega
  simp only [d2]
  rw [h j (by omega), h (j + 1) (by omega), h (j + 2) hj']

/-! ### Expansion of the functional around a solution of the normal equations -/

theorem pls_expand (n : ℕ) (y w : ℕ → α) (lam : α) (z z' : ℕ → α) :
    pls n y w lam z' = pls n y w lam z
      + 2 * ∑ i ∈ range n, (z' i - z i) * (w i * z i + lam * dtd n z i - w i * y i)
      + qf n w lam (fun i => z' i - z i) := by
  have hadj := sum_mul_dtd n (fun i => z' i - z i) z
  have e1 : ∑ i ∈ range n, (z' i - z i) * (w i * z i + lam * dtd n z i - w i * y i)
      = ∑ i ∈ range n, (z' i - z i) * (w i * (z i - y i))
        + lam * ∑ i ∈ range n, (z' i - z i) * dtd n z i := by
    rw [Finset.mul_sum, ← Finset.sum_add_distrib]
    apply Finset.sum_congr rfl; intro i _; ring
  rw [e1, hadj]
  have e2 : ∀ j, d2 z' j = d2 z j + d2 (fun i => z' i - z i) j := by
    intro j; rw [d2_sub]; ring
  have e3 : ∑ j ∈ range (n - 2), d2 z' j ^ 2
      = ∑ j ∈ range (n - 2), (d2 z j ^ 2
          + 2 * (d2 (fun i => z' i - z i) j * d2 z j)
          + d2 (fun i => z' i - z i) j ^ 2) := by
    apply Finset.sum_congr rfl; intro j _; rw [e2 j]; ring
  have e4 : ∑ i ∈ range n, w i * (y i - z' i) ^ 2
      = ∑ i ∈ range n, (w i * (y i - z i) ^ 2
          + 2 * ((z' i - z i) * (w i * (z i - y i))) + w i * (z' i - z i) ^ 2) := by
    apply Finset.sum_congr rfl; intro i _; ring
  unfold pls qf
  beta_reduce
  rw [e3, e4]
  simp only [Finset.sum_add_distrib, ← Finset.mul_sum]
  ring

/-- around a solution of the normal equations the functional is that value plus the form -/
theorem pls_of_normal (n : ℕ) (y w : ℕ → α) (lam : α) (z z' : ℕ → α)
    (hz : ∀ i < n, w i * z i + lam * dtd n z i = w i * y i) :
    pls n y w lam z' = pls n y w lam z + qf n w lam (fun i => z' i - z i) := by
  rw [pls_expand n y w lam z z']
  have : ∑ i ∈ range n, (z' i - z i) * (w i * z i + lam * dtd n z i - w i * y i) = 0 := by
    apply Finset.sum_eq_zero
    intro i hi
    rw [hz i (mem_range.1 hi)]; ring
  rw [this]; ring

end Hdc.Ws2d

/-! ### Definiteness (ordered field) -/
namespace Hdc.Ws2d
open Finset

variable {α : Type} [Field α] [LinearOrder α] [IsStrictOrderedRing α]

theorem qf_nonneg (n : ℕ) (w : ℕ → α) (lam : α) (hlam : 0 < lam)
    (hw : ∀ i < n, 0 ≤ w i) (h : ℕ → α) : 0 ≤ qf n w lam h := by
  exact add_nonneg
    (Finset.sum_nonneg fun i hi => mul_nonneg (hw i (mem_range.1 hi)) (sq_nonneg _))
    (mul_nonneg hlam.le (Finset.sum_nonneg fun j _ => sq_nonneg _))

/-- the quadratic form is definite as soon as two weights are positive -/
theorem qf_definite (n : ℕ) (w : ℕ → α) (lam : α) (hlam : 0 < lam)
    (hw : ∀ i < n, 0 ≤ w i) (p q : ℕ) (hpq : p < q) (hq : q < n) (hwp : 0 < w p) (hwq : 0 < w q)
    (h : ℕ → α) (hQ : qf n w lam h ≤ 0) : ∀ i < n, h i = 0 := by
  have n1 : ∀ i ∈ range n, 0 ≤ w i * h i ^ 2 :=
    fun i hi => mul_nonneg (hw i (mem_range.1 hi)) (sq_nonneg _)
  have n2 : ∀ j ∈ range (n - 2), 0 ≤ (d2 h j) ^ 2 := fun j _ => sq_nonneg _
  have h1 := Finset.sum_nonneg n1
  have h2 := Finset.sum_nonneg n2
  have h3 := mul_nonneg hlam.le h2
  unfold qf at hQ
  -- both sums of non-negative terms vanish, hence every term
  obtain ⟨s1, s2⟩ := (add_eq_zero_iff_of_nonneg h1 h3).1 (le_antisymm hQ (add_nonneg h1 h3))
  have t1 := (Finset.sum_eq_zero_iff_of_nonneg n1).1 s1
  have t2 := (Finset.sum_eq_zero_iff_of_nonneg n2).1 ((mul_eq_zero.1 s2).resolve_left hlam.ne')
  have hz : ∀ i < n, 0 < w i → h i = 0 := fun i hi hwi =>
    (pow_eq_zero_iff two_ne_zero).1 ((mul_eq_zero.1 (t1 i (mem_range.2 hi))).resolve_left hwi.ne')
  have hd : ∀ j, j + 2 < n → h (j + 2) = 2 * h (j + 1) - h j := by
    intro j hj
    have := (pow_eq_zero_iff two_ne_zero).1 (t2 j (mem_range.2 (by omega)))
    unfold d2 at this
    linear_combination this
  -- so `h` is affine on `[0, n)`, with two zeros
  have haff : ∀ j < n, h j = h 0 + (j : α) * (h 1 - h 0) := by
    intro j
    induction j using Nat.twoStepInduction with
    | zero => intro _; simp
    | one => intro _; simp
    | more j ih1 ih2 =>
      intro hj
      rw [hd j hj, ih1 (by omega), ih2 (by omega)]
      push_cast
      ring
  have ap := haff p (by omega)
  have aq := haff q hq
  rw [hz p (by omega) hwp] at ap
  rw [hz q hq hwq] at aq
  have hne : (q : α) - (p : α) ≠ 0 := (sub_pos.2 (Nat.cast_lt.2 hpq)).ne'
  have hs : h 1 - h 0 = 0 :=
    (mul_eq_zero.1 (by linear_combination ap - aq : ((q : α) - (p : α)) * (h 1 - h 0) = 0)).resolve_left
      hne
  rw [hs, mul_zero, add_zero] at ap
  intro i hi
  rw [haff i hi, hs, ← ap, mul_zero, add_zero]

end Hdc.Ws2d
