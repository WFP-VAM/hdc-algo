import Hdc.Model.Ws2d
import Mathlib.Algebra.BigOperators.Group.Finset.Basic
import Mathlib.Algebra.Order.Field.Basic
import Hdc.Lemmas.Ws2dCore
import Mathlib.Tactic.Linarith
/-
C01  The Whittaker core returns the exact penalised least-squares solution.

Specification side — written without any of the code's literals (1,5,6,-2,-4 never
appear here; they have to be derived in the proofs):
-/
namespace Hdc.C01
open Finset

variable {α : Type} [Field α] [LinearOrder α] [IsStrictOrderedRing α]

/-- second difference -/
def D2 (z : ℕ → α) (j : ℕ) : α := z j - 2 * z (j + 1) + z (j + 2)

/-- the penalised least-squares functional -/
def PLS (n : ℕ) (y w : ℕ → α) (lam : α) (z : ℕ → α) : α :=
  (∑ i ∈ range n, w i * (y i - z i) ^ 2) + lam * ∑ j ∈ range (n - 2), (D2 z j) ^ 2

/-- entry (j,i) of the second-difference matrix D ((n-2) × n) -/
def Dmat (j i : ℕ) : α := if i = j then 1 else if i = j + 1 then -2 else if i = j + 2 then 1 else 0

/-- (DᵀD z) i -/
def DtD (n : ℕ) (z : ℕ → α) (i : ℕ) : α := ∑ j ∈ range (n - 2), Dmat j i * D2 z j

/-- the normal equations (W + λ DᵀD) z = W y -/
def NormalEq (n : ℕ) (y w : ℕ → α) (lam : α) (z : ℕ → α) : Prop :=
  ∀ i < n, w i * z i + lam * DtD n z i = w i * y i

/-- a list read as a function (0 outside) -/
def fn (l : List α) : ℕ → α := fun i => l.getD i 0

/-- hypotheses of the property: n ≥ 4, λ > 0, w ≥ 0 with at least two positive entries -/
structure InContract (y w : List α) (lam : α) : Prop where
  len : 4 ≤ y.length
  wlen : w.length = y.length
  lam_pos : 0 < lam
  w_nonneg : ∀ x ∈ w, 0 ≤ x
  two_pos : ∃ i j, i < j ∧ j < w.length ∧ 0 < fn w i ∧ 0 < fn w j

set_option linter.unusedSectionVars false

/-! ### Bridge to the lemma files (verbatim copies of the spec definitions, identified by `rfl`) -/

theorem fn_eq (l : List α) : fn l = Ws2d.fnl l := rfl
theorem D2_eq (z : ℕ → α) (j : ℕ) : D2 z j = Ws2d.d2 z j := rfl
theorem Dmat_eq (j i : ℕ) : (Dmat j i : α) = Ws2d.dmat j i := rfl
theorem DtD_eq (n : ℕ) (z : ℕ → α) (i : ℕ) : DtD n z i = Ws2d.dtd n z i := rfl
theorem PLS_eq (n : ℕ) (y w : ℕ → α) (lam : α) (z : ℕ → α) :
    PLS n y w lam z = Ws2d.pls n y w lam z := rfl

variable {y w : List α} {lam : α}

theorem InContract.w_nonneg_fn (h : InContract y w lam) : ∀ i < y.length, 0 ≤ fn w i := by
  intro i hi
  have hi' : i < w.length := by rw [h.wlen]; exact hi
  have : fn w i = w[i] := Ws2d.fnl_of_lt w i hi'
  rw [this]
  exact h.w_nonneg _ (List.getElem_mem hi')

theorem pivots_pos_fn (h : InContract y w lam) :
    ∀ k < y.length, 0 < (Ws2d.RS lam y.length (fn w) (fn y) (k + 2)).d := by
  obtain ⟨p, q, hpq, hq, hwp, hwq⟩ := h.two_pos
  exact Ws2d.pivots_pos_fn lam y.length (fn w) (fn y) h.len h.lam_pos h.w_nonneg_fn p q hpq
    (by rw [← h.wlen]; exact hq) hwp hwq

/-- the quadratic form of `W + λ DᵀD` is definite under the contract -/
theorem qf_definite (h : InContract y w lam) (g : ℕ → α)
    (hg : Ws2d.qf y.length (fn w) lam g ≤ 0) : ∀ i < y.length, g i = 0 := by
  obtain ⟨p, q, hpq, hq, hwp, hwq⟩ := h.two_pos
  exact Ws2d.qf_definite y.length (fn w) lam h.lam_pos h.w_nonneg_fn p q hpq
    (by rw [← h.wlen]; exact hq) hwp hwq g hg

theorem ws2d_length (y w : List α) (lam : α) (h : w.length = y.length) :
    (ws2d y lam w).length = y.length :=
  Ws2d.ws2d_length' y w lam h

theorem pivots_pos (h : InContract y w lam) : ∀ r ∈ ws2dRows y lam w, 0 < r.d := by
  intro r hr
  obtain ⟨i, hi, rfl⟩ := List.getElem_of_mem hr
  have hi' : i < y.length := by rwa [Ws2d.ws2dRows_length y lam w h.wlen] at hi
  rw [Ws2d.ws2dRows_getElem y lam w h.wlen i hi']
  exact pivots_pos_fn h i hi'

theorem ws2d_normal_eq (h : InContract y w lam) :
    NormalEq y.length (fn y) (fn w) lam (fn (ws2d y lam w)) := by
  intro i hi
  exact Ws2d.normal_eq_fn y w lam h.len h.wlen (fun k hk => (pivots_pos_fn h k hk).ne') i hi

/-- around any solution of the normal equations, `PLS` is that value plus the quadratic form -/
theorem PLS_of_normalEq (n : ℕ) (yf wf : ℕ → α) (lam : α) (z z' : ℕ → α)
    (hz : NormalEq n yf wf lam z) :
    PLS n yf wf lam z' = PLS n yf wf lam z + Ws2d.qf n wf lam (fun i => z' i - z i) :=
  Ws2d.pls_of_normal n yf wf lam z z' hz

theorem ws2d_minimises (h : InContract y w lam) (z : ℕ → α) :
    PLS y.length (fn y) (fn w) lam (fn (ws2d y lam w)) ≤ PLS y.length (fn y) (fn w) lam z := by
  rw [PLS_of_normalEq _ _ _ _ _ z (ws2d_normal_eq h)]
  have := Ws2d.qf_nonneg y.length (fn w) lam h.lam_pos h.w_nonneg_fn
    (fun i => z i - fn (ws2d y lam w) i)
  linarith

theorem ws2d_minimiser_unique (h : InContract y w lam) (z : ℕ → α)
    (hz : PLS y.length (fn y) (fn w) lam z ≤ PLS y.length (fn y) (fn w) lam (fn (ws2d y lam w))) :
    ∀ i < y.length, z i = fn (ws2d y lam w) i := by
  rw [PLS_of_normalEq _ _ _ _ _ z (ws2d_normal_eq h)] at hz
  have hq : Ws2d.qf y.length (fn w) lam (fun i => z i - fn (ws2d y lam w) i) ≤ 0 := by linarith
  intro i hi
  have := qf_definite h _ hq i hi
  exact sub_eq_zero.1 this

theorem ws2d_unique (h : InContract y w lam) (z : ℕ → α)
    (hz : NormalEq y.length (fn y) (fn w) lam z) :
    ∀ i < y.length, z i = fn (ws2d y lam w) i := by
  apply ws2d_minimiser_unique h z
  rw [PLS_of_normalEq _ _ _ _ _ (fn (ws2d y lam w)) hz]
  have := Ws2d.qf_nonneg y.length (fn w) lam h.lam_pos h.w_nonneg_fn
    (fun i => fn (ws2d y lam w) i - z i)
  linarith

/-! ### Non-vacuity: the contract is satisfiable (ℚ, n = 5, three zero weights) -/

example : InContract (α := ℚ) [3, 1, 4, 1, 5] [0, 2, 0, 0, 1] 7 where
  len := by decide
  wlen := by decide
  lam_pos := by norm_num
  w_nonneg := by
    intro x hx
    simp only [List.mem_cons, List.not_mem_nil, or_false] at hx
    rcases hx with rfl | rfl | rfl | rfl | rfl <;> norm_num
  two_pos := ⟨1, 4, by decide, by decide, by norm_num [fn], by norm_num [fn]⟩

end Hdc.C01
