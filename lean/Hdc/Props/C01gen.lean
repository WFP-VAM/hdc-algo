import Hdc.Lemmas.Ws2dGen
import Hdc.Props.C01
import Hdc.Props.SafeWs2d
import Std.Tactic.Do
import Mathlib.Tactic.NormNum
/-
C01gen  The GENERATED translation of `hdc/algo/ops/ws2d.py` (Hdc/Gen/Ws2d.lean, an imperative
`Id.run do` program over arrays with Python index semantics) computes the hand model `Hdc.ws2d`,
hence (by C01) the exact penalised least-squares solution.

Method: the loops are verified once, on the instrumented translation `Hdc.Gen.Safe.ws2d` (the same statements plus a
flag): `SafeWs2d.safe_ws2d_run` (Hdc/Lemmas/SafeWs2d.lean) runs the verification-condition generator `mvcgen` (Std.Do)
with two loop invariants stated through the ℕ-indexed rows of the model (Hdc/Lemmas/Ws2dRows.lean):

  * forward loop  `Fwd k z d c e` : rows `< k` of the work arrays are the rows of the model;
  * backward loop `Bwd t z`       : cells `≥ t` of `z` are the output of the model, cells `< t` still
                                     the forward-substituted right-hand side,

and `SafeWs2d.safe_ws2d_fst` (the instrumented program is the translation plus a flag, for every carrier) carries the
result over to `Hdc.Gen.Ws2d.ws2d`.  No positivity hypothesis: division by zero is the same on both sides.

Range: n ≥ 3 (at n = 3 the forward loop is empty and the source reads wrapped cells, see `safe_ws2d_run`).  At n = 2 the
source and the model differ (the model is documented for n ≥ 3).
-/
namespace Hdc.C01gen
open Hdc Hdc.Gen.Ws2d Hdc.Ws2dGen Hdc.Ws2d Std.Do

set_option mvcgen.warning false

/-- The translated source equals the hand model (n ≥ 3, any field, any λ, any weights). -/
theorem gen_ws2d_eq_model {α : Type} [Field α] (y w : List α) (lam : α)
    (h : w.length = y.length) (hn : 3 ≤ y.length) :
    (Hdc.Gen.Ws2d.ws2d y.toArray lam w.toArray).toList = Hdc.ws2d y lam w := by
  -- the instrumented program only needs some decidable `<` for its checks
  let _ : LT α := ⟨fun _ _ => False⟩
  let _ : DecidableLT α := fun _ _ => instDecidableFalse
  rw [← SafeWs2d.safe_ws2d_fst]
  exact (SafeWs2d.safe_ws2d_run y w lam h hn).1

/-- The translated source returns an array of the length of its input (any lengths, any carrier:
    every assignment is an in-place `wr`). -/
theorem gen_ws2d_size_array {α : Type} [Add α] [Sub α] [Mul α] [Div α] [Neg α] [NatCast α]
    (y w : Array α) (lam : α) : (Hdc.Gen.Ws2d.ws2d y lam w).size = y.size := by
  generalize hr : Hdc.Gen.Ws2d.ws2d y lam w = r
  apply Id.of_wp_run_eq hr
  mvcgen -trivial invariants
  -- forward loop `for i in range(2, m - 1)`, state (i1, i2, z, d, c, e); backward loop, state z
  · ⇓⟨_, s⟩ => ⌜s.2.2.1.size = y.size⌝
  · ⇓⟨_, z⟩ => ⌜z.size = y.size⌝
  -- exit of the backward loop: `return z`
  case vc5.post.success.post.success => assumption
  all_goals
    simp (config := {zetaDelta := true}) only [size_wr, Array.size_replicate, Int.toNat_natCast]
  all_goals assumption

theorem gen_ws2d_size {α : Type} [Field α] (y w : List α) (lam : α) :
    (Hdc.Gen.Ws2d.ws2d y.toArray lam w.toArray).size = y.length := by
  rw [gen_ws2d_size_array, List.size_toArray]

/-! ### The translated source itself returns the exact penalised least-squares solution -/

section C01
variable {α : Type} [Field α] [LinearOrder α] [IsStrictOrderedRing α] {y w : List α} {lam : α}

/-- the output of the translated source satisfies the normal equations `(W + λ DᵀD) z = W y` -/
theorem gen_ws2d_normal_eq (h : C01.InContract y w lam) :
    C01.NormalEq y.length (C01.fn y) (C01.fn w) lam
      (C01.fn (Hdc.Gen.Ws2d.ws2d y.toArray lam w.toArray).toList) := by
  rw [gen_ws2d_eq_model y w lam h.wlen (by have := h.len; omega)]
  exact C01.ws2d_normal_eq h

/-- it is the only solution of the normal equations -/
theorem gen_ws2d_unique (h : C01.InContract y w lam) (z : ℕ → α)
    (hz : C01.NormalEq y.length (C01.fn y) (C01.fn w) lam z) :
    ∀ i < y.length, z i = C01.fn (Hdc.Gen.Ws2d.ws2d y.toArray lam w.toArray).toList i := by
  rw [gen_ws2d_eq_model y w lam h.wlen (by have := h.len; omega)]
  exact C01.ws2d_unique h z hz

/-- it minimises the penalised least-squares functional -/
theorem gen_ws2d_minimises (h : C01.InContract y w lam) (z : ℕ → α) :
    C01.PLS y.length (C01.fn y) (C01.fn w) lam
        (C01.fn (Hdc.Gen.Ws2d.ws2d y.toArray lam w.toArray).toList)
      ≤ C01.PLS y.length (C01.fn y) (C01.fn w) lam z := by
  rw [gen_ws2d_eq_model y w lam h.wlen (by have := h.len; omega)]
  exact C01.ws2d_minimises h z

/-- and it is the unique minimiser -/
theorem gen_ws2d_unique_minimiser (h : C01.InContract y w lam) (z : ℕ → α)
    (hz : C01.PLS y.length (C01.fn y) (C01.fn w) lam z
      ≤ C01.PLS y.length (C01.fn y) (C01.fn w) lam
          (C01.fn (Hdc.Gen.Ws2d.ws2d y.toArray lam w.toArray).toList)) :
    ∀ i < y.length, z i = C01.fn (Hdc.Gen.Ws2d.ws2d y.toArray lam w.toArray).toList i := by
  rw [gen_ws2d_eq_model y w lam h.wlen (by have := h.len; omega)] at hz ⊢
  exact C01.ws2d_minimiser_unique h z hz

end C01

/-! ### Non-vacuity: a concrete instance (ℚ, n = 5, one zero weight, λ = 10) -/

/-- the hypotheses of `gen_ws2d_eq_model` are satisfiable and the translated source returns this
    concrete vector (the same value `#eval` prints for `Gen.Ws2d.ws2d` at `Rat`) -/
example : (Hdc.Gen.Ws2d.ws2d [1, 2, 4, 3, 5].toArray (10 : ℚ) [1, 1, 0, 1, 1].toArray).toList
    = [2113 / 2193, 4036 / 2193, 117 / 43, 7949 / 2193, 10025 / 2193] := by
  rw [gen_ws2d_eq_model [1, 2, 4, 3, 5] [1, 1, 0, 1, 1] (10 : ℚ) rfl (by decide)]
  decide +kernel

/-- the smallest covered length, n = 3 (here the source reads one wrapped-around cell, `i2 = -1`,
    and overwrites row 1; at n = 2 the source and the model differ, `#eval` shows it) -/
example : (Hdc.Gen.Ws2d.ws2d [1, 2, 4].toArray (10 : ℚ) [1, 1, 0].toArray).toList
    = [1, 2 / 11, -7 / 11] := by
  rw [gen_ws2d_eq_model [1, 2, 4] [1, 1, 0] (10 : ℚ) rfl (by decide)]
  decide +kernel

/-- the contract of the corollaries holds for this instance -/
example : C01.InContract (α := ℚ) [1, 2, 4, 3, 5] [1, 1, 0, 1, 1] 10 where
  len := by decide
  wlen := by decide
  lam_pos := by norm_num
  w_nonneg := by
    intro x hx
    simp only [List.mem_cons, List.not_mem_nil, or_false] at hx
    rcases hx with rfl | rfl | rfl | rfl | rfl <;> norm_num
  two_pos := ⟨0, 1, by decide, by decide, by norm_num [C01.fn], by norm_num [C01.fn]⟩

end Hdc.C01gen
