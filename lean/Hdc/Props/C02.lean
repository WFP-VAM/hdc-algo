import Hdc.Lemmas.SmoothMasked
import Mathlib.Tactic.NormNum
import Mathlib.Tactic.IntervalCases
/-
C02  Missing observations carry zero weight.

Formal statements proved in this file (α any linearly ordered field; `miss` the kernel's
missing-cell test; `SameObs miss y miss' y'` = two encodings of the same observations):

  weightsOf_sameObs / cleanOf_sameObs / countValid_sameObs
      SameObs miss y miss' y' → weightsOf, cleanOf, countValid coincide
  gu_sameObs       SameObs → gu miss y lam = gu miss' y' lam                          (any lam)
  pgu_sameObs      SameObs → pgu miss y lam p = pgu miss' y' lam p                    (any lam, p)
  optv_sameObs     SameObs → optv F miss y llas = optv F miss' y' llas          (curve AND lopt, any F)
  optvp_sameObs    SameObs → optvp F miss y p llas = optvp F miss' y' p llas
  optvplc_sameObs  SameObs → optvplc F miss y p hi lo g1 g2 g3 = optvplc F miss' y' p hi lo g1 g2 g3
  wcv_sameObs      SameObs → wcv G miss y llas robust = wcv G miss' y' llas robust    (robust = true, false)
  wcvp_sameObs     SameObs → wcvp G miss y p llas robust = wcvp G miss' y' p llas robust
  gu_passthrough_iff   gu miss y lam = none ↔ lam = 0 ∨ countValid miss y ≤ 1
  pgu_passthrough_iff  pgu miss y lam p = none ↔ lam = 0 ∨ countValid miss y ≤ 1
  optv_passthrough     countValid miss y ≤ 1 → optv F miss y llas = none   (also optvp, optvplc)
  wcv_passthrough_iff  wcv G miss y llas robust = .passthrough ↔ countValid miss y ≤ 4
  wcvp_passthrough_iff wcvp G miss y p llas robust = .passthrough ↔ countValid miss y ≤ 4
  gu_normal_eq     4 ≤ |y|, 0 < lam, 2 ≤ countValid →
                     ∃ z, gu miss y lam = some z ∧ |z| = |y| ∧
                          NormalEq |y| (clean y) (weights y) lam z ∧ (z is the only solution)
  gu_valid_cell_eq / gu_gap_eq
      componentwise reading: z_i + lam (DᵀD z)_i = y_i on valid cells, (DᵀD z)_i = 0 on missing cells
-/
namespace Hdc.C02
open Hdc Hdc.C01 Hdc.Smooth

set_option linter.unusedSectionVars false

variable {α : Type} [Field α] [LinearOrder α] [IsStrictOrderedRing α]

/-- two encodings (possibly with different placeholders) of the same observations -/
def SameObs (miss : α → Bool) (y : List α) (miss' : α → Bool) (y' : List α) : Prop :=
  y.length = y'.length ∧
    ∀ i (h : i < y.length) (h' : i < y'.length),
      miss y[i] = miss' y'[i] ∧ (miss y[i] = false → y[i] = y'[i])

/-! ### SameObs: what the kernels see is the same -/

variable {miss miss' : α → Bool} {y y' : List α}

theorem sameObs_cons_iff (a b : α) :
    SameObs miss (a :: y) miss' (b :: y') ↔
      (miss a = miss' b ∧ (miss a = false → a = b)) ∧ SameObs miss y miss' y' := by
  constructor
  · rintro ⟨hl, h⟩
    exact ⟨h 0 (by simp) (by simp), by simpa using hl,
      fun i hi hi' => h (i + 1) (by simpa using hi) (by simpa using hi')⟩
  · rintro ⟨h0, hl, h⟩
    refine ⟨by simpa using hl, fun i hi hi' => ?_⟩
    cases i with
    | zero => exact h0
    | succ i => exact h i (by simpa using hi) (by simpa using hi')

theorem weightsOf_sameObs (h : SameObs miss y miss' y') : weightsOf miss y = weightsOf miss' y' := by
  refine List.ext_getElem (by simpa using h.1) fun i hi hi' => ?_
  simp only [weightsOf, List.getElem_map, (h.2 i (by simpa using hi) (by simpa using hi')).1]

theorem cleanOf_sameObs (h : SameObs miss y miss' y') : cleanOf miss y = cleanOf miss' y' := by
  refine List.ext_getElem (by simpa using h.1) fun i hi hi' => ?_
  obtain ⟨hm, hy⟩ := h.2 i (by simpa using hi) (by simpa using hi')
  simp only [cleanOf, List.getElem_map, ← hm]
  split_ifs with hc
  · rfl
  · exact hy (by simpa using hc)

theorem countValid_sameObs (h : SameObs miss y miss' y') : countValid miss y = countValid miss' y' :=
  Nat.cast_injective (R := α) (by rw [cast_countValid, cast_countValid, weightsOf_sameObs h])

/-- the raw data agree wherever the validity weights are non-zero -/
theorem maskedEq_of_sameObs (h : SameObs miss y miss' y') : MaskedEq (weightsOf miss y) y y' := by
  refine ⟨h.1.symm, fun i hi => ?_⟩
  obtain ⟨hi1, hm⟩ := weightsOf_ne_zero miss y i hi
  have hi2 : i < y'.length := by rw [← h.1]; exact hi1
  rw [fn_of_lt _ i hi1, fn_of_lt _ i hi2]
  exact (h.2 i hi1 hi2).2 hm

/-! ### 1. fixed-λ kernels -/

theorem gu_sameObs (h : SameObs miss y miss' y') (lam : α) : gu miss y lam = gu miss' y' lam := by
  unfold gu
  rw [countValid_sameObs h, cleanOf_sameObs h, weightsOf_sameObs h]

theorem pgu_sameObs (h : SameObs miss y miss' y') (lam p : α) :
    pgu miss y lam p = pgu miss' y' lam p := by
  unfold pgu
  rw [countValid_sameObs h, cleanOf_sameObs h, weightsOf_sameObs h]

/-! ### 2. V-curve kernels (the data is NOT cleaned there) -/

theorem optv_sameObs (F : VFns α) (h : SameObs miss y miss' y') (llas : List α) :
    optv F miss y llas = optv F miss' y' llas := by
  have hm := maskedEq_of_sameObs h
  unfold optv
  rw [countValid_sameObs h, ← weightsOf_sameObs h]
  simp only [optvSelect_masked F hm llas, ← ws2d_masked hm (SuppIn.refl _)]

theorem optvp_sameObs (F : VFns α) (h : SameObs miss y miss' y') (p : α) (llas : List α) :
    optvp F miss y p llas = optvp F miss' y' p llas := by
  have hm := maskedEq_of_sameObs h
  unfold optvp
  rw [countValid_sameObs h, ← weightsOf_sameObs h, optvpCore_masked F hm]

theorem optvplc_sameObs (F : VFns α) (h : SameObs miss y miss' y') (p : α) (hi lo : Bool)
    (gHi gLo gNan : List α) :
    optvplc F miss y p hi lo gHi gLo gNan = optvplc F miss' y' p hi lo gHi gLo gNan :=
  optvp_sameObs F h p (if hi then gHi else if lo then gLo else gNan)

/-! ### 3. GCV kernels -/

theorem wcv_sameObs (G : GFns α) (h : SameObs miss y miss' y') (llas : List α) (robust : Bool) :
    wcv G miss y llas robust = wcv G miss' y' llas robust := by
  unfold wcv
  rw [countValid_sameObs h, cleanOf_sameObs h, weightsOf_sameObs h]

theorem wcvp_sameObs (G : GFns α) (h : SameObs miss y miss' y') (p : α) (llas : List α)
    (robust : Bool) : wcvp G miss y p llas robust = wcvp G miss' y' p llas robust := by
  unfold wcvp
  rw [countValid_sameObs h, cleanOf_sameObs h, weightsOf_sameObs h]

/-! ### 4. pass-through -/

theorem gu_passthrough_iff (miss : α → Bool) (y : List α) (lam : α) :
    gu miss y lam = none ↔ (lam = 0 ∨ countValid miss y ≤ 1) := by
  rw [gu, guard_eq]
  split_ifs with h <;> simp [h]

theorem pgu_passthrough_iff (miss : α → Bool) (y : List α) (lam p : α) :
    pgu miss y lam p = none ↔ (lam = 0 ∨ countValid miss y ≤ 1) := by
  rw [pgu, guard_eq]
  split_ifs with h <;> simp [h]

theorem optv_passthrough (F : VFns α) (miss : α → Bool) (y llas : List α)
    (h : countValid miss y ≤ 1) : optv F miss y llas = none := by
  unfold optv; rw [if_neg (by omega)]

theorem optvp_passthrough (F : VFns α) (miss : α → Bool) (y : List α) (p : α) (llas : List α)
    (h : countValid miss y ≤ 1) : optvp F miss y p llas = none := by
  unfold optvp; rw [if_neg (by omega)]

theorem optvplc_passthrough (F : VFns α) (miss : α → Bool) (y : List α) (p : α) (hi lo : Bool)
    (gHi gLo gNan : List α) (h : countValid miss y ≤ 1) :
    optvplc F miss y p hi lo gHi gLo gNan = none :=
  optvp_passthrough F miss y p (if hi then gHi else if lo then gLo else gNan) h

theorem wcv_passthrough_iff (G : GFns α) (miss : α → Bool) (y llas : List α) (robust : Bool) :
    wcv G miss y llas robust = .passthrough ↔ countValid miss y ≤ 4 := by
  unfold wcv
  split_ifs with hc
  · dsimp only
    split <;> simp <;> omega
  · simp; omega

theorem wcvp_passthrough_iff (G : GFns α) (miss : α → Bool) (y : List α) (p : α) (llas : List α)
    (robust : Bool) : wcvp G miss y p llas robust = .passthrough ↔ countValid miss y ≤ 4 := by
  unfold wcvp
  split_ifs with hc
  · dsimp only
    split <;> simp <;> omega
  · simp; omega

/-! ### 5. gap filling: also at missing cells the curve is THE penalised solution -/

theorem gu_eq_some (miss : α → Bool) (y : List α) (lam : α) (hlam : lam ≠ 0)
    (hv : 2 ≤ countValid miss y) :
    gu miss y lam = some (ws2d (cleanOf miss y) lam (weightsOf miss y)) := by
  rw [gu, guard_eq, if_neg (not_or.2 ⟨hlam, by omega⟩)]

theorem pgu_eq_some (miss : α → Bool) (y : List α) (lam p : α) (hlam : lam ≠ 0)
    (hv : 2 ≤ countValid miss y) :
    pgu miss y lam p = some (expectile (cleanOf miss y) (weightsOf miss y) lam p) := by
  rw [pgu, guard_eq, if_neg (not_or.2 ⟨hlam, by omega⟩)]

theorem gu_normal_eq (miss : α → Bool) (y : List α) (lam : α) (hn : 4 ≤ y.length) (hlam : 0 < lam)
    (hv : 2 ≤ countValid miss y) :
    ∃ z, gu miss y lam = some z ∧ z.length = y.length ∧
      NormalEq y.length (fn (cleanOf miss y)) (fn (weightsOf miss y)) lam (fn z) ∧
      ∀ z' : ℕ → α, NormalEq y.length (fn (cleanOf miss y)) (fn (weightsOf miss y)) lam z' →
        ∀ i < y.length, z' i = fn z i := by
  have hc := inContract_clean miss y lam hn hlam hv
  refine ⟨_, gu_eq_some miss y lam hlam.ne' hv, ?_, ?_, ?_⟩
  · rw [ws2d_length _ _ _ (by simp)]; simp
  · simpa using ws2d_normal_eq hc
  · intro z' hz' i hi
    exact ws2d_unique hc z' (by simpa using hz') i (by simpa using hi)

/-- on a valid cell the curve satisfies `z_i + lam (DᵀD z)_i = y_i` -/
theorem gu_valid_cell_eq (miss : α → Bool) (y : List α) (lam : α) (hn : 4 ≤ y.length)
    (hlam : 0 < lam) (hv : 2 ≤ countValid miss y) (z : List α) (hz : gu miss y lam = some z)
    (i : ℕ) (hi : i < y.length) (hm : miss y[i] = false) :
    fn z i + lam * DtD y.length (fn z) i = y[i] := by
  obtain ⟨z0, h0, _, hN, _⟩ := gu_normal_eq miss y lam hn hlam hv
  obtain rfl : z = z0 := Option.some.inj (hz.symm.trans h0)
  have := hN i hi
  rw [fn_weightsOf miss y i hi, fn_cleanOf miss y i hi, hm] at this
  simpa using this

/-- on a missing cell the curve solves the homogeneous equation `(DᵀD z)_i = 0`: the gap is
    filled by the smoothest interpolant, the placeholder value plays no role -/
theorem gu_gap_eq (miss : α → Bool) (y : List α) (lam : α) (hn : 4 ≤ y.length)
    (hlam : 0 < lam) (hv : 2 ≤ countValid miss y) (z : List α) (hz : gu miss y lam = some z)
    (i : ℕ) (hi : i < y.length) (hm : miss y[i] = true) :
    DtD y.length (fn z) i = 0 := by
  obtain ⟨z0, h0, _, hN, _⟩ := gu_normal_eq miss y lam hn hlam hv
  obtain rfl : z = z0 := Option.some.inj (hz.symm.trans h0)
  have := hN i hi
  rw [fn_weightsOf miss y i hi, fn_cleanOf miss y i hi, hm] at this
  simpa [hlam.ne'] using this

/-! ### non-vacuity -/

/-- two encodings of the same five observations (one missing), with placeholders −3000 and 255 -/
example : SameObs (fun x : ℚ => decide (x = -3000)) [1, -3000, 2, 5, 3]
    (fun x : ℚ => decide (x = 255)) [1, 255, 2, 5, 3] := by
  refine ⟨rfl, ?_⟩
  intro i h h'
  simp only [List.length_cons, List.length_nil] at h
  interval_cases i <;> norm_num

/-- the hypotheses of `gu_normal_eq` are satisfiable -/
example : 4 ≤ ([1, -3000, 2, 5, 3] : List ℚ).length ∧ (0 : ℚ) < 7 ∧
    2 ≤ countValid (fun x : ℚ => decide (x = -3000)) [1, -3000, 2, 5, 3] := by
  refine ⟨by decide, by norm_num, ?_⟩
  norm_num [countValid, List.filter]

/-- the pass-through side: one valid cell only -/
example : countValid (fun x : ℚ => decide (x = -3000)) [-3000, -3000, 2, -3000] ≤ 1 := by
  norm_num [countValid, List.filter]

end Hdc.C02
