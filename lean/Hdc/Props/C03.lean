import Hdc.Lemmas.SmoothIrls
import Hdc.Lemmas.SmoothInv
import Hdc.Props.C02
import Hdc.Py
import Mathlib.Data.Rat.Floor
import Mathlib.Algebra.Order.Floor.Ring
import Mathlib.Algebra.Ring.Int.Parity
import Mathlib.Tactic.NormNum
/-
C03  Fixed-λ smoothers return the (rounded) penalised-least-squares / expectile curve.

Formal statements proved in this file (α any linearly ordered field):

  gu_lam_zero / pgu_lam_zero      gu miss y 0 = none,  pgu miss y 0 p = none
  PLS_clean                       PLS with unit weights on valid cells does not see the placeholders
  gu_is_pls_minimiser             4 ≤ |y|, 0 < lam, 2 ≤ countValid → ∃ z, gu miss y lam = some z ∧ |z| = |y| ∧
                                    z minimises PLS(y, w, lam) over all curves ∧ every minimiser equals z on 0..n−1
  roundHalfEvenRat_spec           |round x − x| ≤ 1/2 ∧ (|round x − x| = 1/2 → Even (round x))        (ℚ)
  roundHalfEvenRat_nearest        |round x − x| ≤ |m − x| for every integer m
  roundHalfEvenRat_unique         an integer r with |r − x| ≤ 1/2 and (tie → even) is round x
  roundHalfEvenRat_add_int        Even c ∨ x − ⌊x⌋ ≠ 1/2 → round (x + c) = round x + c
                                  (for ODD c at a tie the equation is FALSE: counterexample below)
  gu_band_spec                    the band (ℚ): every entry within 1/2 of the PLS minimiser, ties to even
  asymW_spec / asymW_length / asymW_entry      entries are w_i·p where y_i > z_i and w_i·(1−p) elsewhere
  asymW_pos_iff / asymW_inContract   0<p<1: same support, weights ≥ 0, InContract is preserved
  irls_weights                    the weights returned after k ≥ 1 passes are asymW p w y (iter j) for the curve
                                  `iter j` the last executed pass started from; + where the loop stops
  irls_reproduces                 ws2d y lam (irls …).2 = (irls …).1   (so `expectile = (irls …).1`)
  expectile_normal_eq             0<p<1, InContract y w lam → NormalEq |y| y (irls …).2 lam (expectile y w lam p)
  expectile_fixed_point           the loop stopped early (some pass j < 10 reproduced its input) →
                                    z* = ws2d y lam (asymW p w y z*) ∧ NormalEq |y| y (asymW p w y z*) lam z*
  iter_line / early_stop_of_line  data on a line: every pass returns the line, the loop stops early (non-vacuity of the above)
  expectile_fixed_point'          the same from `(irls …).2 = asymW p w y (irls …).1`
                                  (NB the formalisation `ws2d y lam r.2 = r.1` of "stopped early" is vacuous: it ALWAYS
                                   holds, see irls_reproduces; "some pass reproduced its input" is the right one)
  pgu_spec                        ties the above to `pgu` (≥ 2 valid, lam > 0, n ≥ 4, 0<p<1)
-/
namespace Hdc.C03
open Hdc Hdc.C01 Hdc.Smooth Hdc.Py

variable {α : Type} [Field α] [LinearOrder α] [IsStrictOrderedRing α]

/-! ### 1. λ = 0 -/

theorem gu_lam_zero (miss : α → Bool) (y : List α) : gu miss y 0 = none :=
  (C02.gu_passthrough_iff miss y 0).2 (Or.inl rfl)

theorem pgu_lam_zero (miss : α → Bool) (y : List α) (p : α) : pgu miss y 0 p = none :=
  (C02.pgu_passthrough_iff miss y 0 p).2 (Or.inl rfl)

/-! ### 2. the curve of ws2dgu is the penalised least-squares minimiser -/

/-- with unit weights on the valid cells, the functional does not see the placeholders -/
theorem PLS_clean (miss : α → Bool) (y : List α) (lam : α) (z : ℕ → α) :
    PLS y.length (fn y) (fn (weightsOf miss y)) lam z =
      PLS y.length (fn (cleanOf miss y)) (fn (weightsOf miss y)) lam z := by
  unfold PLS
  congr 1
  apply Finset.sum_congr rfl
  intro i hi
  have hi' : i < y.length := Finset.mem_range.1 hi
  by_cases h0 : fn (weightsOf miss y) i = 0
  · rw [h0]; simp
  · rw [cleanOf_masked miss y i h0]

theorem gu_is_pls_minimiser (miss : α → Bool) (y : List α) (lam : α) (hn : 4 ≤ y.length)
    (hlam : 0 < lam) (hv : 2 ≤ countValid miss y) :
    ∃ z, gu miss y lam = some z ∧ z.length = y.length ∧
      (∀ z' : ℕ → α, PLS y.length (fn y) (fn (weightsOf miss y)) lam (fn z)
          ≤ PLS y.length (fn y) (fn (weightsOf miss y)) lam z') ∧
      (∀ z' : ℕ → α, PLS y.length (fn y) (fn (weightsOf miss y)) lam z'
          ≤ PLS y.length (fn y) (fn (weightsOf miss y)) lam (fn z) → ∀ i < y.length, z' i = fn z i) := by
  have hc := inContract_clean miss y lam hn hlam hv
  refine ⟨_, C02.gu_eq_some miss y lam hlam.ne' hv, ?_, ?_, ?_⟩
  · rw [ws2d_length _ _ _ (by simp)]; simp
  · intro z'
    rw [PLS_clean, PLS_clean]
    simpa using ws2d_minimises hc z'
  · intro z' hz' i hi
    rw [PLS_clean, PLS_clean] at hz'
    exact ws2d_minimiser_unique hc z' (by simpa using hz') i (by simpa using hi)

/-! ### 3. half-to-even rounding (ℚ) -/

theorem roundHalfEvenRat_cases (x : ℚ) :
    (x - ⌊x⌋ < 1 / 2 ∧ roundHalfEvenRat x = ⌊x⌋) ∨
    (1 / 2 < x - ⌊x⌋ ∧ roundHalfEvenRat x = ⌊x⌋ + 1) ∨
    (x - ⌊x⌋ = 1 / 2 ∧ Even ⌊x⌋ ∧ roundHalfEvenRat x = ⌊x⌋) ∨
    (x - ⌊x⌋ = 1 / 2 ∧ Odd ⌊x⌋ ∧ roundHalfEvenRat x = ⌊x⌋ + 1) := by
  have hf : x.floor = ⌊x⌋ := rfl
  unfold roundHalfEvenRat
  simp only [hf]
  rcases lt_trichotomy (x - (⌊x⌋ : ℚ)) (1 / 2) with h | h | h
  · exact Or.inl ⟨h, if_pos h⟩
  · rw [if_neg h.not_lt, if_neg h.not_gt]
    rcases Int.even_or_odd ⌊x⌋ with he | ho
    · exact Or.inr (Or.inr (Or.inl ⟨h, he, if_pos (Int.even_iff.1 he)⟩))
    · have h1 : ⌊x⌋ % 2 = 1 := Int.odd_iff.1 ho
      exact Or.inr (Or.inr (Or.inr ⟨h, ho, if_neg (by omega)⟩))
  · exact Or.inr (Or.inl ⟨h, by rw [if_neg h.not_gt, if_pos h]⟩)

theorem roundHalfEvenRat_spec (x : ℚ) :
    |((roundHalfEvenRat x : ℤ) : ℚ) - x| ≤ 1 / 2 ∧
      (|((roundHalfEvenRat x : ℤ) : ℚ) - x| = 1 / 2 → Even (roundHalfEvenRat x)) := by
  have h0 : (⌊x⌋ : ℚ) ≤ x := Int.floor_le x
  have h1 : x < ⌊x⌋ + 1 := Int.lt_floor_add_one x
  rcases roundHalfEvenRat_cases x with ⟨hd, hr⟩ | ⟨hd, hr⟩ | ⟨hd, he, hr⟩ | ⟨hd, ho, hr⟩ <;> rw [hr]
  · rw [abs_sub_comm, abs_of_nonneg (by linarith)]
    exact ⟨hd.le, fun h => absurd h hd.ne⟩
  · push_cast
    rw [abs_of_nonneg (by linarith)]
    exact ⟨by linarith, fun h => by linarith⟩
  · rw [abs_sub_comm, abs_of_nonneg (by linarith)]
    exact ⟨hd.le, fun _ => he⟩
  · push_cast
    rw [abs_of_nonneg (by linarith)]
    exact ⟨by linarith, fun _ => ho.add_one⟩

/-- the rounded value is a nearest integer -/
theorem roundHalfEvenRat_nearest (x : ℚ) (m : ℤ) :
    |((roundHalfEvenRat x : ℤ) : ℚ) - x| ≤ |(m : ℚ) - x| := by
  have h := (roundHalfEvenRat_spec x).1
  by_cases hm : m = roundHalfEvenRat x
  · rw [hm]
  · have h1 : (1 : ℚ) ≤ |(m : ℚ) - (roundHalfEvenRat x : ℤ)| := by
      exact_mod_cast Int.one_le_abs (sub_ne_zero.2 hm)
    have h2 := abs_sub_le (m : ℚ) x ((roundHalfEvenRat x : ℤ) : ℚ)
    rw [abs_sub_comm x] at h2
    linarith

/-- nearest-with-ties-to-even determines the value -/
theorem roundHalfEvenRat_unique (x : ℚ) (r : ℤ) (h1 : |(r : ℚ) - x| ≤ 1 / 2)
    (h2 : |(r : ℚ) - x| = 1 / 2 → Even r) : r = roundHalfEvenRat x := by
  obtain ⟨s1, s2⟩ := roundHalfEvenRat_spec x
  by_contra hne
  have hd : (1 : ℚ) ≤ |(r : ℚ) - (roundHalfEvenRat x : ℤ)| := by
    exact_mod_cast Int.one_le_abs (sub_ne_zero.2 hne)
  have htri := abs_sub_le (r : ℚ) x ((roundHalfEvenRat x : ℤ) : ℚ)
  rw [abs_sub_comm x] at htri
  -- both are ties, hence both even, yet exactly 1 apart
  obtain ⟨k, hk⟩ : Even (r - roundHalfEvenRat x) := (h2 (by linarith)).sub (s2 (by linarith))
  have hd1 : |r - roundHalfEvenRat x| = 1 := by
    have : |(r : ℚ) - (roundHalfEvenRat x : ℤ)| = 1 := by linarith
    exact_mod_cast this
  rcases (abs_eq zero_le_one).1 hd1 with h | h <;> omega

theorem roundHalfEvenRat_add_int (x : ℚ) (c : ℤ) (h : Even c ∨ x - ⌊x⌋ ≠ 1 / 2) :
    roundHalfEvenRat (x + c) = roundHalfEvenRat x + c := by
  obtain ⟨s1, s2⟩ := roundHalfEvenRat_spec x
  have e : ((roundHalfEvenRat x + c : ℤ) : ℚ) - (x + c) = (roundHalfEvenRat x : ℤ) - x := by
    push_cast; ring
  symm
  apply roundHalfEvenRat_unique <;> rw [e]
  · exact s1
  · intro ht
    rcases h with hc | hx
    · exact (s2 ht).add hc
    · exfalso
      apply hx
      have h0 : (⌊x⌋ : ℚ) ≤ x := Int.floor_le x
      have h1 : x < ⌊x⌋ + 1 := Int.lt_floor_add_one x
      rcases roundHalfEvenRat_cases x with ⟨hd, hr⟩ | ⟨hd, hr⟩ | ⟨hd, _, _⟩ | ⟨hd, _, _⟩
      · rwa [hr, abs_sub_comm, abs_of_nonneg (by linarith)] at ht
      · rw [hr] at ht
        push_cast at ht
        rw [abs_of_nonneg (by linarith)] at ht
        linarith
      · exact hd
      · exact hd

/-- at a tie an ODD offset does not commute with rounding: 1/2 ↦ 0 but 3/2 ↦ 2 -/
example : roundHalfEvenRat (1 / 2 + ((1 : ℤ) : ℚ)) ≠ roundHalfEvenRat (1 / 2) + 1 := by
  have h1 : roundHalfEvenRat (1 / 2 + ((1 : ℤ) : ℚ)) = 2 :=
    (roundHalfEvenRat_unique _ 2 (by rw [abs_le]; constructor <;> norm_num) (fun _ => by decide)).symm
  have h2 : roundHalfEvenRat (1 / 2) = 0 :=
    (roundHalfEvenRat_unique _ 0 (by rw [abs_le]; constructor <;> norm_num) (fun _ => by decide)).symm
  rw [h1, h2]; decide

/-- the band of ws2dgu on ℚ: every entry is a nearest integer (ties to even) to the unique
    minimiser of the penalised least-squares functional with unit weights on valid cells -/
theorem gu_band_spec (miss : ℚ → Bool) (y : List ℚ) (lam : ℚ) (hn : 4 ≤ y.length)
    (hlam : 0 < lam) (hv : 2 ≤ countValid miss y) :
    ∃ z, gu miss y lam = some z ∧ z.length = y.length ∧
      (∀ z' : ℕ → ℚ, PLS y.length (fn y) (fn (weightsOf miss y)) lam (fn z)
          ≤ PLS y.length (fn y) (fn (weightsOf miss y)) lam z') ∧
      ∀ i (hi : i < z.length),
        |(((z.map roundHalfEvenRat)[i]'(by simpa using hi) : ℤ) : ℚ) - z[i]| ≤ 1 / 2 ∧
        (|(((z.map roundHalfEvenRat)[i]'(by simpa using hi) : ℤ) : ℚ) - z[i]| = 1 / 2 →
          Even ((z.map roundHalfEvenRat)[i]'(by simpa using hi))) := by
  obtain ⟨z, h1, h2, h3, _⟩ := gu_is_pls_minimiser miss y lam hn hlam hv
  refine ⟨z, h1, h2, h3, ?_⟩
  intro i hi
  simp only [List.getElem_map]
  exact roundHalfEvenRat_spec z[i]

/-! ### 4. asymmetric weights -/

theorem asymW_length (p : α) (w y z : List α) (hw : w.length = y.length) (hz : z.length = y.length) :
    (asymW p w y z).length = y.length := by
  rw [Smooth.asymW_length, hw, hz]; simp

/-- entry `i`: `w_i · p` where the data lies above the curve, `w_i · (1 − p)` elsewhere -/
theorem asymW_entry (p : α) (w y z : List α) (i : ℕ) (h1 : i < w.length) (h2 : i < y.length)
    (h3 : i < z.length) :
    fn (asymW p w y z) i = if fn z i < fn y i then fn w i * p else fn w i * (1 - p) := by
  rw [fn_asymW p w y z i h1 h2 h3, aw]
  split_ifs <;> rfl

theorem aw_pos_iff (p w y z : α) (hp0 : 0 < p) (hp1 : p < 1) : 0 < aw p w y z ↔ 0 < w :=
  mul_pos_iff_of_pos_right (aw_coeff_pos hp0 hp1 y z)

theorem aw_nonneg (p w y z : α) (hp0 : 0 < p) (hp1 : p < 1) (hw : 0 ≤ w) : 0 ≤ aw p w y z :=
  mul_nonneg hw (aw_coeff_pos hp0 hp1 y z).le

theorem aw_le (p w y z : α) (hp0 : 0 < p) (hp1 : p < 1) (hw : 0 ≤ w) : aw p w y z ≤ w := by
  unfold aw
  have : (if z < y then p else 1 - p) ≤ 1 := by split_ifs <;> linarith
  exact mul_le_of_le_one_right hw this

/-- for `0 < p < 1` the re-weighting keeps the support -/
theorem asymW_pos_iff (p : α) (w y z : List α) (hp0 : 0 < p) (hp1 : p < 1) (i : ℕ)
    (h1 : i < w.length) (h2 : i < y.length) (h3 : i < z.length) :
    0 < fn (asymW p w y z) i ↔ 0 < fn w i := by
  rw [fn_asymW p w y z i h1 h2 h3]; exact aw_pos_iff p _ _ _ hp0 hp1

theorem asymW_spec (p : α) (w y z : List α) (hw : w.length = y.length) (hz : z.length = y.length) :
    (asymW p w y z).length = y.length ∧
    (∀ i < y.length, fn (asymW p w y z) i =
      if fn z i < fn y i then fn w i * p else fn w i * (1 - p)) ∧
    (0 < p → p < 1 → ∀ i < y.length, (0 < fn (asymW p w y z) i ↔ 0 < fn w i) ∧
      (fn (asymW p w y z) i = 0 ↔ fn w i = 0)) := by
  refine ⟨asymW_length p w y z hw hz, ?_, ?_⟩
  · intro i hi
    exact asymW_entry p w y z i (by omega) hi (by omega)
  · intro hp0 hp1 i hi
    refine ⟨asymW_pos_iff p w y z hp0 hp1 i (by omega) hi (by omega), ?_⟩
    rw [fn_asymW p w y z i (by omega) hi (by omega), aw, mul_eq_zero,
      or_iff_left (aw_coeff_pos hp0 hp1 _ _).ne']

variable {y w : List α} {lam : α}

/-- for `0 < p < 1` the re-weighted problem is again inside the contract of C01 -/
theorem asymW_inContract (h : InContract y w lam) (p : α) (hp0 : 0 < p) (hp1 : p < 1) (z : List α)
    (hz : z.length = y.length) : InContract y (asymW p w y z) lam :=
  inContract_asymW h p hp0 hp1 z hz

/-! ### 5. the re-weighting loop and the expectile curve -/

/-- The weight vector returned by the loop after at most `k + 1 ≥ 1` passes from `z0` is
    `asymW p w y (iter j)` for the curve `iter j` the last executed pass `j` started from;
    no earlier pass reproduced its input; and either pass `j` reproduced `iter j` (early
    stop, the loop returns `iter j`) or the fuel ran out (`j = k`, it returns `iter (k+1)`). -/
theorem irls_weights (y w : List α) (lam p : α) (hw : w.length = y.length) (k : ℕ) (z0 ww0 : List α)
    (hz : z0.length = y.length) :
    ∃ j, j < k + 1 ∧ (∀ i < j, iter y w lam p z0 (i + 1) ≠ iter y w lam p z0 i) ∧
      (irls y w lam p (k + 1) z0 ww0).2 = asymW p w y (iter y w lam p z0 j) ∧
      ((iter y w lam p z0 (j + 1) = iter y w lam p z0 j ∧
          (irls y w lam p (k + 1) z0 ww0).1 = iter y w lam p z0 j) ∨
        (j = k ∧ iter y w lam p z0 (j + 1) ≠ iter y w lam p z0 j ∧
          (irls y w lam p (k + 1) z0 ww0).1 = iter y w lam p z0 (k + 1))) :=
  irls_spec y w lam p hw k z0 ww0 hz

/-- the final fit of every asymmetric kernel recomputes the curve the loop ended with -/
theorem irls_reproduces (y w : List α) (lam p : α) (hw : w.length = y.length) (k : ℕ)
    (z0 ww0 : List α) (hz : z0.length = y.length) :
    ws2d y lam (irls y w lam p (k + 1) z0 ww0).2 = (irls y w lam p (k + 1) z0 ww0).1 :=
  Smooth.irls_reproduces y w lam p hw k z0 ww0 hz

theorem expectile_eq_irls_fst (y w : List α) (lam p : α) (hw : w.length = y.length) :
    expectile y w lam p = (irls y w lam p 10 (zerosLike y) (zerosLike y)).1 :=
  Smooth.irls_reproduces y w lam p hw 9 _ _ (by simp)

theorem irls_inContract (h : InContract y w lam) (p : α) (hp0 : 0 < p) (hp1 : p < 1) (k : ℕ)
    (z0 ww0 : List α) (hz : z0.length = y.length) :
    InContract y (irls y w lam p (k + 1) z0 ww0).2 lam := by
  obtain ⟨j, _, _, h2, _⟩ := irls_spec y w lam p h.wlen k z0 ww0 hz
  rw [h2]
  exact asymW_inContract h p hp0 hp1 _ (iter_length y w lam p z0 h.wlen hz j)

theorem expectile_normal_eq (h : InContract y w lam) (p : α) (hp0 : 0 < p) (hp1 : p < 1) :
    NormalEq y.length (fn y) (fn (irls y w lam p 10 (zerosLike y) (zerosLike y)).2) lam
      (fn (expectile y w lam p)) :=
  ws2d_normal_eq (irls_inContract h p hp0 hp1 9 _ _ (by simp))

/-! ### 6. early stop = the expectile (asymmetric least-squares) equations -/

/-- If the loop stopped early — some pass `j < 10` reproduced the curve it started from —
    the returned curve `z*` is a fixed point of "re-weight, re-fit": it satisfies the
    normal equations with the weights computed from itself. -/
theorem expectile_fixed_point (h : InContract y w lam) (p : α) (hp0 : 0 < p) (hp1 : p < 1)
    (hstop : ∃ j < 10, iter y w lam p (zerosLike y) (j + 1) = iter y w lam p (zerosLike y) j) :
    expectile y w lam p = ws2d y lam (asymW p w y (expectile y w lam p)) ∧
    NormalEq y.length (fn y) (fn (asymW p w y (expectile y w lam p))) lam
      (fn (expectile y w lam p)) := by
  have hz : (zerosLike y).length = y.length := by simp
  obtain ⟨j, hj, hne, h2, h3⟩ := irls_spec y w lam p h.wlen 9 (zerosLike y) (zerosLike y) hz
  have key : expectile y w lam p = ws2d y lam (asymW p w y (expectile y w lam p)) := by
    rcases h3 with ⟨a, b⟩ | ⟨a, b, _⟩
    · rw [expectile_eq_irls_fst y w lam p h.wlen, b]
      exact a.symm
    · exfalso
      obtain ⟨j', hj', hfix⟩ := hstop
      rcases Nat.lt_or_ge j' j with hlt | hge
      · exact hne j' hlt hfix
      · exact b ((show j' = j by omega) ▸ hfix)
  exact ⟨key, normalEq_of_fix h p hp0 hp1 _ (expectile_length y w lam p h.wlen) key⟩

/-- the same from the self-consistency of the returned pair: the weights the loop returns
    are the weights computed from the curve it returns -/
theorem expectile_fixed_point' (h : InContract y w lam) (p : α) (hp0 : 0 < p) (hp1 : p < 1)
    (hstop : (irls y w lam p 10 (zerosLike y) (zerosLike y)).2 =
      asymW p w y (irls y w lam p 10 (zerosLike y) (zerosLike y)).1) :
    expectile y w lam p = ws2d y lam (asymW p w y (expectile y w lam p)) ∧
    NormalEq y.length (fn y) (fn (asymW p w y (expectile y w lam p))) lam
      (fn (expectile y w lam p)) := by
  have key : expectile y w lam p = ws2d y lam (asymW p w y (expectile y w lam p)) := by
    rw [expectile_eq_irls_fst y w lam p h.wlen, ← hstop]
    exact (Smooth.irls_reproduces y w lam p h.wlen 9 _ _ (by simp)).symm
  exact ⟨key, normalEq_of_fix h p hp0 hp1 _ (expectile_length y w lam p h.wlen) key⟩

/-- data on a straight line (where the weights are non-zero): every pass returns the line, so
    the loop stops at its second pass — the early-stop hypothesis is satisfiable -/
theorem iter_line (h : InContract y w lam) (p : α) (hp0 : 0 < p) (hp1 : p < 1) (a b : α)
    (hy : ∀ i, fn w i ≠ 0 → fn y i = a + b * (i : α)) (z0 : List α) (hz : z0.length = y.length)
    (j : ℕ) : iter y w lam p z0 (j + 1) = lineList a b y.length := by
  show ws2d y lam (asymW p w y (iter y w lam p z0 j)) = _
  apply ws2d_eq_line (asymW_inContract h p hp0 hp1 _ (iter_length y w lam p z0 h.wlen hz j)) a b
  intro i hi
  exact hy i (fn_asymW_ne_zero p w y _ i hi)

theorem early_stop_of_line (h : InContract y w lam) (p : α) (hp0 : 0 < p) (hp1 : p < 1) (a b : α)
    (hy : ∀ i, fn w i ≠ 0 → fn y i = a + b * (i : α)) :
    ∃ j < 10, iter y w lam p (zerosLike y) (j + 1) = iter y w lam p (zerosLike y) j :=
  ⟨1, by omega, by
    rw [iter_line h p hp0 hp1 a b hy _ (by simp) 1, iter_line h p hp0 hp1 a b hy _ (by simp) 0]⟩

/-! ### 7. ws2dpgu -/

/-- ws2dpgu with at least two valid cells, `n ≥ 4`, `λ > 0`, `0 < p < 1`: the returned curve
    solves the normal equations for the cleaned data with weights `ww = asymW p w yc zprev`
    (`w` the validity weights, so `0 ≤ ww ≤ w` and `ww` vanishes exactly on the missing
    cells); it is the unique solution for those weights; and if the loop stopped early it
    solves the expectile equations. -/
theorem pgu_spec (miss : α → Bool) (y : List α) (lam p : α) (hn : 4 ≤ y.length) (hlam : 0 < lam)
    (hv : 2 ≤ countValid miss y) (hp0 : 0 < p) (hp1 : p < 1) :
    ∃ z zprev, pgu miss y lam p = some z ∧ z.length = y.length ∧ zprev.length = y.length ∧
      NormalEq y.length (fn (cleanOf miss y))
        (fn (asymW p (weightsOf miss y) (cleanOf miss y) zprev)) lam (fn z) ∧
      (∀ z' : ℕ → α, NormalEq y.length (fn (cleanOf miss y))
        (fn (asymW p (weightsOf miss y) (cleanOf miss y) zprev)) lam z' →
          ∀ i < y.length, z' i = fn z i) ∧
      (∀ i (hi : i < y.length),
        fn (asymW p (weightsOf miss y) (cleanOf miss y) zprev) i =
          if miss y[i] then 0 else if fn zprev i < y[i] then p else 1 - p) ∧
      ((∃ j < 10, iter (cleanOf miss y) (weightsOf miss y) lam p (zerosLike (cleanOf miss y)) (j + 1)
            = iter (cleanOf miss y) (weightsOf miss y) lam p (zerosLike (cleanOf miss y)) j) →
        z = ws2d (cleanOf miss y) lam (asymW p (weightsOf miss y) (cleanOf miss y) z) ∧
        NormalEq y.length (fn (cleanOf miss y))
          (fn (asymW p (weightsOf miss y) (cleanOf miss y) z)) lam (fn z)) := by
  have hc := inContract_clean miss y lam hn hlam hv
  obtain ⟨zprev, hlen, hc', hze⟩ := expectile_eq_ws2d hc p hp0 hp1
  refine ⟨_, zprev, C02.pgu_eq_some miss y lam p hlam.ne' hv, ?_, by simpa using hlen, ?_, ?_, ?_, ?_⟩
  · simpa using expectile_length _ _ lam p hc.wlen
  · rw [hze]
    simpa using ws2d_normal_eq hc'
  · intro z' hz' i hi
    rw [hze]
    exact ws2d_unique hc' z' (by simpa using hz') i (by simpa using hi)
  · intro i hi
    rw [fn_asymW _ _ _ _ i (by simpa using hi) (by simpa using hi) (by rw [hlen]; simpa using hi),
      fn_weightsOf miss y i hi, fn_cleanOf miss y i hi, aw]
    cases hm : miss y[i] <;> simp
  · intro hstop
    simpa using expectile_fixed_point hc p hp0 hp1 hstop

/-! ### non-vacuity -/

/-- hypotheses of `gu_is_pls_minimiser` / `pgu_spec` -/
example : 4 ≤ ([1, -3000, 2, 5, 3] : List ℚ).length ∧ (0 : ℚ) < 7 ∧
    2 ≤ countValid (fun x : ℚ => decide (x = -3000)) [1, -3000, 2, 5, 3] ∧
    (0 : ℚ) < 9 / 10 ∧ (9 / 10 : ℚ) < 1 := by
  refine ⟨by decide, by norm_num, ?_, by norm_num, by norm_num⟩
  norm_num [countValid, List.filter]

/-- hypotheses of `asymW_inContract` / `expectile_normal_eq` -/
example : InContract (α := ℚ) [3, 1, 4, 1, 5] [0, 2, 0, 0, 1] 7 where
  len := by decide
  wlen := by decide
  lam_pos := by norm_num
  w_nonneg := by norm_num
  two_pos := ⟨1, 4, by decide, by decide, by norm_num [fn], by norm_num [fn]⟩

/-- rounding: ties go to the even neighbour -/
example : roundHalfEvenRat (5 / 2) = 2 ∧ roundHalfEvenRat (7 / 2) = 4 ∧ roundHalfEvenRat (-1 / 2) = 0 := by
  refine ⟨?_, ?_, ?_⟩
  · exact (roundHalfEvenRat_unique _ 2 (by rw [abs_le]; constructor <;> norm_num) (fun _ => by decide)).symm
  · exact (roundHalfEvenRat_unique _ 4 (by rw [abs_le]; constructor <;> norm_num) (fun _ => by decide)).symm
  · exact (roundHalfEvenRat_unique _ 0 (by rw [abs_le]; constructor <;> norm_num) (fun _ => by decide)).symm

end Hdc.C03
