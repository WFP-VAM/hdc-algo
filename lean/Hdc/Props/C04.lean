import Hdc.Lemmas.SmoothV
import Hdc.Props.C02
import Mathlib.Tactic.NormNum
/-
C04  V-curve selection is optimal on the grid and self-consistent.

Formal statements proved in this file (α any linearly ordered field, `F : VFns α` arbitrary):

  argminFirst_spec     l ≠ [] → ∃ b, argminFirst l = some b ∧ b ∈ l ∧ (∀ c ∈ l, ¬ c.1 < b.1) ∧
                         ∃ k, l[k] = b ∧ ∀ j < k, b.1 < l[j].1            (FIRST strict minimum)
  argminFirst_eq_none_iff   argminFirst l = none ↔ l = []
  vcurve_length / vcurve_entry
                       the V-curve of m points has m − 1 entries; entry k is
                       (sqrt((f_{k+1} − f_k)² + (p_{k+1} − p_k)²) / (ln10 · step), (l_k + l_{k+1}) / 2)
  vpts_grid            the sweep produces one point per grid value, in grid order
  optv_pts             for ws2doptv, point k is (l_k, log fitSS w y z_k, log penSS z_k), z_k = ws2d y 10^{l_k} w
  vselect_midpoint     vselect … = some lopt → ∃ k, k + 1 < |llas| ∧ lopt = pow10 ((llas[k] + llas[k+1]) / 2) ∧
                         no V value is strictly below V_k ∧ every V value before k is strictly above V_k
  vselect_eq_none_iff  vselect … = none ↔ |llas| ≤ 1
  optv_eq_some_iff     optv F miss y llas = some (z, lopt) ↔ 1 < countValid ∧ vselect … = some lopt ∧ z = ws2d y lopt w
  optv_lopt            optv F miss y llas = some (z, lopt) → z = ws2d y lopt w ∧ (conclusion of vselect_midpoint)
  optv_isSome_iff      (optv F miss y llas).isSome ↔ 1 < countValid miss y ∧ 2 ≤ |llas|
  optv_self_consistent optv F miss y llas = some (z, lopt) → lopt ≠ 0 → gu miss y lopt = some z
  optvp_self_consistent   optvp F miss y p llas = some (z, lopt) → lopt ≠ 0 → pgu miss y lopt p = some z
  optvplc_self_consistent the same for optvplc
  optvplc_grid         optvplc F miss y p hi lo gHi gLo gNan
                         = optvp F miss y p (if hi then gHi else if lo then gLo else gNan)
  optvplc_hi / optvplc_lo / optvplc_nan    the three cases spelled out
-/
namespace Hdc.C04
open Hdc Hdc.C01 Hdc.Smooth

set_option linter.unusedSectionVars false

variable {α : Type} [Field α] [LinearOrder α] [IsStrictOrderedRing α]

/-! ### 1. first strict minimum -/

theorem argminFirst_eq_none_iff (l : List (α × α)) : argminFirst l = none ↔ l = [] := by
  cases l <;> simp [argminFirst]

theorem argminFirst_spec (l : List (α × α)) (hl : l ≠ []) :
    ∃ b, argminFirst l = some b ∧ b ∈ l ∧ (∀ c ∈ l, ¬ c.1 < b.1) ∧
      ∃ k, ∃ hk : k < l.length, l[k] = b ∧ ∀ j (hj : j < k), b.1 < (l[j]'(by omega)).1 := by
  obtain ⟨b, hb⟩ := Option.ne_none_iff_exists'.1 (mt (argminFirst_eq_none_iff l).1 hl)
  obtain ⟨k, hk, rfl, hmin, hbefore⟩ := isFirstMin_of_argminFirst hb
  exact ⟨_, hb, List.getElem_mem hk, hmin, k, hk, rfl, hbefore⟩

/-! ### 2. the V-curve and the selected λ -/

theorem vcurve_length (F : VFns α) (step : α) (pts : List (α × α × α)) :
    (vcurve F step pts).length = pts.length - 1 := Smooth.vcurve_length F step pts

/-- entry `k` of the V-curve: distance of consecutive (log fit, log penalty) points over
    `ln10 · step`, paired with the midpoint of the two grid values -/
theorem vcurve_entry (F : VFns α) (step : α) (pts : List (α × α × α)) (k : ℕ)
    (hk : k + 1 < pts.length) :
    (vcurve F step pts)[k]'(by rw [vcurve_length]; omega) =
      (F.sqrt ((pts[k + 1].2.1 - pts[k].2.1) * (pts[k + 1].2.1 - pts[k].2.1)
          + (pts[k + 1].2.2 - pts[k].2.2) * (pts[k + 1].2.2 - pts[k].2.2)) / (F.ln10 * step),
        (pts[k].1 + pts[k + 1].1) / 2) :=
  Smooth.vcurve_getElem F step pts k hk

/-- the sweep yields one point per grid value, in grid order -/
theorem vpts_grid {σ : Type} (F : VFns α) (w y llas : List α) (fit : σ → α → σ × List α) (s0 : σ) :
    (vpts F w y llas fit s0).map (·.1) = llas := vpts_fst F w y llas fit s0

/-- the points of the ws2doptv sweep -/
theorem optv_pts (F : VFns α) (w y llas : List α) :
    vpts F w y llas (fun (_ : Unit) lam => ((), ws2d y lam w)) () =
      llas.map fun l => (l, F.log (fitSS w y (ws2d y (F.pow10 l) w)),
        F.log (penSS (ws2d y (F.pow10 l) w))) :=
  vpts_unit F w y llas fun lam => ws2d y lam w

theorem vselect_midpoint {σ : Type} (F : VFns α) (w y llas : List α) (fit : σ → α → σ × List α)
    (s0 : σ) (lopt : α) (h : vselect F w y llas fit s0 = some lopt) :
    ∃ k, ∃ hk : k + 1 < llas.length,
      lopt = F.pow10 ((llas[k] + llas[k + 1]) / 2) ∧
      ∃ hv : k < (vcurve F (gridStep llas) (vpts F w y llas fit s0)).length,
        (∀ c ∈ vcurve F (gridStep llas) (vpts F w y llas fit s0),
          ¬ c.1 < ((vcurve F (gridStep llas) (vpts F w y llas fit s0))[k]).1) ∧
        ∀ j (hj : j < k), ((vcurve F (gridStep llas) (vpts F w y llas fit s0))[k]).1
          < ((vcurve F (gridStep llas) (vpts F w y llas fit s0))[j]'(by omega)).1 := by
  rw [vselect_eq, Option.map_eq_some_iff] at h
  obtain ⟨b, hb, rfl⟩ := h
  obtain ⟨k, hk, rfl, hmin, hbefore⟩ := isFirstMin_of_argminFirst hb
  have hk1 : k + 1 < llas.length := by
    rw [Smooth.vcurve_length, vpts_length] at hk
    omega
  refine ⟨k, hk1, ?_, hk, hmin, hbefore⟩
  rw [Smooth.vcurve_getElem F _ _ k (by rw [vpts_length]; exact hk1)]
  simp only
  rw [vpts_getElem_fst F w y llas fit s0 k (by omega), vpts_getElem_fst F w y llas fit s0 (k + 1) hk1]

theorem vselect_eq_none_iff {σ : Type} (F : VFns α) (w y llas : List α) (fit : σ → α → σ × List α)
    (s0 : σ) : vselect F w y llas fit s0 = none ↔ llas.length ≤ 1 := by
  rw [vselect_eq, Option.map_eq_none_iff, argminFirst_eq_none_iff, ← List.length_eq_zero_iff,
    Smooth.vcurve_length, vpts_length]
  omega

/-! ### 3. ws2doptv -/

theorem optv_eq_some_iff (F : VFns α) (miss : α → Bool) (y llas : List α) (z : List α) (lopt : α) :
    optv F miss y llas = some (z, lopt) ↔
      1 < countValid miss y ∧
      vselect F (weightsOf miss y) y llas
        (fun (_ : Unit) lam => ((), ws2d y lam (weightsOf miss y))) () = some lopt ∧
      z = ws2d y lopt (weightsOf miss y) := by
  rw [optv_unfold]
  split_ifs with hc
  · simp only [Option.map_eq_some_iff, Prod.mk.injEq, hc, true_and]
    constructor
    · rintro ⟨l, hl, rfl, rfl⟩; exact ⟨hl, rfl⟩
    · rintro ⟨hl, rfl⟩; exact ⟨lopt, hl, rfl, rfl⟩
  · simp [hc]

theorem optv_isSome_iff (F : VFns α) (miss : α → Bool) (y llas : List α) :
    (optv F miss y llas).isSome ↔ 1 < countValid miss y ∧ 2 ≤ llas.length := by
  rw [optv_unfold]
  split_ifs with hc
  · rw [Option.isSome_map, Option.isSome_iff_ne_none, Ne, vselect_eq_none_iff]
    omega
  · simp [hc]

/-- the curve returned with `lopt` is the curve the fixed-λ kernel returns at `lopt` -/
theorem optv_self_consistent (F : VFns α) (miss : α → Bool) (y llas : List α) (z : List α) (lopt : α)
    (h : optv F miss y llas = some (z, lopt)) (h0 : lopt ≠ 0) : gu miss y lopt = some z := by
  rw [optv_eq_some_iff] at h
  obtain ⟨hc, _, rfl⟩ := h
  rw [C02.gu_eq_some miss y lopt h0 (by omega),
    ws2d_masked (maskedEq_clean miss y) (SuppIn.refl _)]

/-- ws2doptv: the reported λ is the grid midpoint at the first strict minimum of the V-curve
    (whose points are given by `optv_pts`), and the curve is the Whittaker curve at that λ -/
theorem optv_lopt (F : VFns α) (miss : α → Bool) (y llas : List α) (z : List α) (lopt : α)
    (h : optv F miss y llas = some (z, lopt)) :
    z = ws2d y lopt (weightsOf miss y) ∧
    ∃ k, ∃ hk : k + 1 < llas.length,
      lopt = F.pow10 ((llas[k] + llas[k + 1]) / 2) ∧
      ∃ hv : k < (vcurve F (gridStep llas) (vpts F (weightsOf miss y) y llas
          (fun (_ : Unit) lam => ((), ws2d y lam (weightsOf miss y))) ())).length,
        (∀ c ∈ vcurve F (gridStep llas) (vpts F (weightsOf miss y) y llas
            (fun (_ : Unit) lam => ((), ws2d y lam (weightsOf miss y))) ()),
          ¬ c.1 < ((vcurve F (gridStep llas) (vpts F (weightsOf miss y) y llas
            (fun (_ : Unit) lam => ((), ws2d y lam (weightsOf miss y))) ()))[k]).1) ∧
        ∀ j (hj : j < k), ((vcurve F (gridStep llas) (vpts F (weightsOf miss y) y llas
            (fun (_ : Unit) lam => ((), ws2d y lam (weightsOf miss y))) ()))[k]).1
          < ((vcurve F (gridStep llas) (vpts F (weightsOf miss y) y llas
            (fun (_ : Unit) lam => ((), ws2d y lam (weightsOf miss y))) ()))[j]'(by omega)).1 := by
  rw [optv_eq_some_iff] at h
  exact ⟨h.2.2, vselect_midpoint F _ _ _ _ _ _ h.2.1⟩

/-! ### 4. asymmetric V-curve kernels -/

theorem optvpCore_eq_some (F : VFns α) (y w : List α) (p : α) (llas : List α) (z : List α)
    (lopt : α) (h : optvpCore F y w p llas = some (z, lopt)) :
    z = expectile y w lopt p ∧
    vselect F w y llas
        (fun (z : List α) lam => let r := irls y w lam p 10 z (zerosLike y); (r.1, r.1))
        (zerosLike y) = some lopt := by
  rw [optvpCore_unfold, Option.map_eq_some_iff] at h
  obtain ⟨l, hl, he⟩ := h
  obtain ⟨rfl, rfl⟩ := Prod.mk.inj he
  exact ⟨rfl, hl⟩

theorem optvp_self_consistent (F : VFns α) (miss : α → Bool) (y : List α) (p : α) (llas : List α)
    (z : List α) (lopt : α) (h : optvp F miss y p llas = some (z, lopt)) (h0 : lopt ≠ 0) :
    pgu miss y lopt p = some z := by
  unfold optvp at h
  split_ifs at h with hc
  rw [(optvpCore_eq_some F _ _ p llas z lopt h).1, C02.pgu_eq_some miss y lopt p h0 (by omega),
    expectile_masked (maskedEq_clean miss y)]

theorem optvplc_self_consistent (F : VFns α) (miss : α → Bool) (y : List α) (p : α) (hi lo : Bool)
    (gHi gLo gNan : List α) (z : List α) (lopt : α)
    (h : optvplc F miss y p hi lo gHi gLo gNan = some (z, lopt)) (h0 : lopt ≠ 0) :
    pgu miss y lopt p = some z :=
  optvp_self_consistent F miss y p (if hi then gHi else if lo then gLo else gNan) z lopt h h0

/-- the selected λ of the asymmetric kernels is again a grid midpoint minimising the V-curve -/
theorem optvp_lopt (F : VFns α) (miss : α → Bool) (y : List α) (p : α) (llas : List α)
    (z : List α) (lopt : α) (h : optvp F miss y p llas = some (z, lopt)) :
    ∃ k, ∃ hk : k + 1 < llas.length, lopt = F.pow10 ((llas[k] + llas[k + 1]) / 2) := by
  unfold optvp at h
  split_ifs at h
  obtain ⟨k, hk, hl, _⟩ := vselect_midpoint F _ _ _ _ _ _ (optvpCore_eq_some F _ _ p llas z lopt h).2
  exact ⟨k, hk, hl⟩

/-! ### 5. grid choice of ws2doptvplc -/

theorem optvplc_grid (F : VFns α) (miss : α → Bool) (y : List α) (p : α) (hi lo : Bool)
    (gHi gLo gNan : List α) :
    optvplc F miss y p hi lo gHi gLo gNan =
      optvp F miss y p (if hi then gHi else if lo then gLo else gNan) := rfl

theorem optvplc_hi (F : VFns α) (miss : α → Bool) (y : List α) (p : α) (lo : Bool)
    (gHi gLo gNan : List α) :
    optvplc F miss y p true lo gHi gLo gNan = optvp F miss y p gHi := rfl

theorem optvplc_lo (F : VFns α) (miss : α → Bool) (y : List α) (p : α)
    (gHi gLo gNan : List α) :
    optvplc F miss y p false true gHi gLo gNan = optvp F miss y p gLo := rfl

theorem optvplc_nan (F : VFns α) (miss : α → Bool) (y : List α) (p : α)
    (gHi gLo gNan : List α) :
    optvplc F miss y p false false gHi gLo gNan = optvp F miss y p gNan := rfl

/-! ### non-vacuity -/

/-- a concrete `VFns ℚ` (the theorems hold for arbitrary ones) -/
def Fq : VFns ℚ := ⟨fun x => x, fun x => x, fun _ => 1, 1⟩

/-- `argminFirst_spec`: a non-empty list -/
example : ([(3, 0), (1, 1), (1, 2)] : List (ℚ × ℚ)) ≠ [] := by simp

/-- `optv_self_consistent`: the hypothesis `optv … = some (z, lopt)` with `lopt ≠ 0` is satisfiable -/
example : ∃ z lopt, optv Fq (fun x : ℚ => decide (x = -3000)) [1, -3000, 2, 5, 3] [0, 1, 2] = some (z, lopt)
    ∧ lopt ≠ 0 := by
  have hs : (optv Fq (fun x : ℚ => decide (x = -3000)) [1, -3000, 2, 5, 3] [0, 1, 2]).isSome := by
    rw [optv_isSome_iff]
    refine ⟨?_, by decide⟩
    norm_num [countValid, List.filter]
  obtain ⟨⟨z, lopt⟩, h⟩ := Option.isSome_iff_exists.1 hs
  refine ⟨z, lopt, h, ?_⟩
  rw [optv_eq_some_iff] at h
  obtain ⟨k, _, hl, _⟩ := vselect_midpoint _ _ _ _ _ _ _ h.2.1
  rw [hl]; simp [Fq]

end Hdc.C04
