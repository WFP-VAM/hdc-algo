import Hdc.Lemmas.SmoothGcvAffine
import Hdc.Props.C02
import Hdc.Props.C03
import Mathlib.Tactic.NormNum
import Mathlib.Tactic.IntervalCases
/-
C05  GCV selection.

Formal statements proved in this file (α any linearly ordered field, `G : GFns α` arbitrary):

  gcvSweep_spec     r := gcvSweep G y wt de lams b0 satisfies r.score ≤ b0.score, no score on `lams` is < r.score,
                    and either r = b0 (no score is < b0.score) or r = ⟨score s, s, curve s⟩ for the FIRST s = lams[k]
                    attaining the minimum, which is < b0.score
  gcvSelect_nonrobust   robust = false: λ is the λ of one sweep from ⟨big, 0, none⟩, the weights are the validity weights
  wcv_nonrobust_eq / wcvp_nonrobust_eq    closed form of the kernels for robust = false (never `.unbound`)
  wcv_lopt_on_grid_nonrobust   wcv … false = .ok z lopt → (lopt ∈ grid ∧ score lopt < big ∧ lopt minimises the score on the
                    grid) ∨ (lopt = 0 ∧ no grid score is < big)
  wcv_lopt_on_grid_robust      wcv … true = .ok z lopt → lopt ∈ llas.map G.pow10
  wcv_lopt_on_grid  robust or not: lopt ∈ llas.map G.pow10 ∨ lopt = 0           (same for wcvp)
  wcv_self_consistent    wcv G miss y llas false = .ok z lopt → lopt ≠ 0 → gu miss y lopt = some z
  wcvp_self_consistent   wcvp G miss y p llas false = .ok z lopt → lopt ≠ 0 → pgu miss y lopt p = some z
  robustStep_range   entries of rw in [0,1] → entries of robustStep … rw w … in [0,1]
  robustStep_mad_small   MAD ≤ madtol·(1 + max − min of the valid cells) → robustStep … rw w … = rw
  robustStep_mad_nonpos / robustStep_mad_zero   corollaries for 0 ≤ madtol (the spread is ≥ 0: spread_nonneg)
  robustStep_two_pos     TwoPos (w·rw) → TwoPos (w·robustStep … rw w …)     (the guard of the repaired kernel)
  wcv_robust_is_weighted_curve   wcv G miss y llas true = .ok z lopt → ∃ rw, (∀ x ∈ rw, 0 ≤ x ∧ x ≤ 1) ∧
                    z = ws2d (cleanOf miss y) lopt (mul2 (weightsOf miss y) rw)
                    (+ the weights mul2 w rw are in [0, w_i], zero on missing cells)     (wcvp: expectile … lopt p)
  gcvSelect_weights_two_pos      TwoPos w → gcvSelect … = some (lopt, rwts) → TwoPos rwts          (robust or not)
  gcvSelect_robust_inContract    … hence InContract y rwts lopt for robust = true and a positive grid
  wcv_robust_inContract   wcv … true = .ok z lopt, 0 < pow10 on the grid → the final weights are InContract at lopt
  wcv_robust_normal_eq    … and z has full length, solves the weighted normal equations, is their only solution and the
                    unique minimiser of the weighted PLS, at a grid λ: robust mode never degenerates
  wcvp_robust_inContract / wcvp_robust_normal_eq   the same for ws2dwcvp with the asymmetric final stage (0<p<1):
                    the curve is ws2d yc lopt (asymW p (w·rw) yc zprev), weights again InContract
  wcv_affine_robust  valid cells on a + b·i, 0 < pow10 on the grid, 0 ≤ madtol, wcv … true = .ok z lopt →
                    z = lineList a b n and the final weights are the validity weights (MAD = 0 throughout)
                    (C06.wcv_affine_robust drops `0 ≤ madtol` for the curve alone)
  wcv_affine_robust_ok   additionally 4 < countValid, 0 < G.big, G.sqrtw 0 = 0, grid l0 :: ls →
                    wcv … true = .ok (lineList a b n) (G.pow10 l0)
-/
namespace Hdc.C05
open Hdc Hdc.C01 Hdc.Smooth

variable {α : Type} [Field α] [LinearOrder α] [IsStrictOrderedRing α]

/-! ### 1. the sweep keeps the first strict minimum -/

theorem gcvSweep_spec (G : GFns α) (y wt de lams : List α) (b0 : Best α) :
    (gcvSweep G y wt de lams b0).score ≤ b0.score ∧
    (∀ s ∈ lams, ¬ (gcvScore G y wt de s).1 < (gcvSweep G y wt de lams b0).score) ∧
    ((gcvSweep G y wt de lams b0 = b0 ∧ ∀ s ∈ lams, ¬ (gcvScore G y wt de s).1 < b0.score) ∨
      ∃ k, ∃ hk : k < lams.length,
        gcvSweep G y wt de lams b0 =
          ⟨(gcvScore G y wt de lams[k]).1, lams[k], some (ws2d y lams[k] wt)⟩ ∧
        (gcvScore G y wt de lams[k]).1 < b0.score ∧
        ∀ j (hj : j < k), (gcvScore G y wt de lams[k]).1 < (gcvScore G y wt de (lams[j]'(by omega))).1) :=
  sweepInv_gcvSweep G y wt de lams b0

/-- the λ the sweep reports is the initial one or a swept one -/
theorem gcvSweep_lam (G : GFns α) (y wt de lams : List α) (b0 : Best α) :
    (gcvSweep G y wt de lams b0 = b0) ∨
      ((gcvSweep G y wt de lams b0).lam ∈ lams ∧
        (gcvSweep G y wt de lams b0).ytemp =
          some (ws2d y (gcvSweep G y wt de lams b0).lam wt)) :=
  Smooth.gcvSweep_lam G y wt de lams b0

/-! ### 2. λ selection: structure -/

theorem mul2_ones (w y : List α) (h : w.length = y.length) :
    mul2 w (y.map fun _ => (nat 1 : α)) = w :=
  mul2_ones' w y h

theorem gcvSelect_nonrobust (G : GFns α) (y w llas : List α) (hw : w.length = y.length) :
    gcvSelect G y w llas false =
      some ((gcvSweep G y w (deigs G y.length) (llas.map G.pow10) ⟨G.big, nat 0, none⟩).lam, w) := by
  rw [gcvSelect_unfold]
  simp only [grun, gstep, iterLams, Bool.false_eq_true, if_false, Option.bind_some, Option.map_some,
    mul2_ones w y hw, List.nil_append, List.getD_cons_zero]
  simp

theorem wcv_nonrobust_eq (G : GFns α) (miss : α → Bool) (y llas : List α) :
    wcv G miss y llas false =
      if 4 < countValid miss y then
        .ok (ws2d (cleanOf miss y)
            (gcvSweep G (cleanOf miss y) (weightsOf miss y) (deigs G y.length) (llas.map G.pow10)
              ⟨G.big, nat 0, none⟩).lam (weightsOf miss y))
          (gcvSweep G (cleanOf miss y) (weightsOf miss y) (deigs G y.length) (llas.map G.pow10)
              ⟨G.big, nat 0, none⟩).lam
      else .passthrough := by
  rw [wcv_unfold, gcvSelect_nonrobust G _ _ llas (by simp)]
  simp

theorem wcvp_nonrobust_eq (G : GFns α) (miss : α → Bool) (y : List α) (p : α) (llas : List α) :
    wcvp G miss y p llas false =
      if 4 < countValid miss y then
        .ok (expectile (cleanOf miss y) (weightsOf miss y)
            (gcvSweep G (cleanOf miss y) (weightsOf miss y) (deigs G y.length) (llas.map G.pow10)
              ⟨G.big, nat 0, none⟩).lam p)
          (gcvSweep G (cleanOf miss y) (weightsOf miss y) (deigs G y.length) (llas.map G.pow10)
              ⟨G.big, nat 0, none⟩).lam
      else .passthrough := by
  rw [wcvp_unfold, gcvSelect_nonrobust G _ _ llas (by simp)]
  simp

theorem wcv_ok (G : GFns α) (miss : α → Bool) (y llas : List α) (robust : Bool) (z : List α)
    (lopt : α) (h : wcv G miss y llas robust = .ok z lopt) :
    4 < countValid miss y ∧ ∃ rwts,
      gcvSelect G (cleanOf miss y) (weightsOf miss y) llas robust = some (lopt, rwts) ∧
      z = ws2d (cleanOf miss y) lopt rwts :=
  gcvOut_eq_ok _ _ z lopt h

theorem wcvp_ok (G : GFns α) (miss : α → Bool) (y : List α) (p : α) (llas : List α) (robust : Bool)
    (z : List α) (lopt : α) (h : wcvp G miss y p llas robust = .ok z lopt) :
    4 < countValid miss y ∧ ∃ rwts,
      gcvSelect G (cleanOf miss y) (weightsOf miss y) llas robust = some (lopt, rwts) ∧
      z = expectile (cleanOf miss y) rwts lopt p :=
  gcvOut_eq_ok _ _ z lopt h

/-- robust = false: what `.ok z lopt` means -/
theorem wcv_nonrobust_ok (G : GFns α) (miss : α → Bool) (y llas : List α) (z : List α) (lopt : α)
    (h : wcv G miss y llas false = .ok z lopt) :
    4 < countValid miss y ∧
    lopt = (gcvSweep G (cleanOf miss y) (weightsOf miss y) (deigs G y.length) (llas.map G.pow10)
              ⟨G.big, nat 0, none⟩).lam ∧
    z = ws2d (cleanOf miss y) lopt (weightsOf miss y) := by
  obtain ⟨hc, rwts, hs, hz⟩ := wcv_ok G miss y llas false z lopt h
  rw [gcvSelect_nonrobust G _ _ llas (by simp), cleanOf_length] at hs
  cases hs
  exact ⟨hc, rfl, hz⟩

theorem wcvp_nonrobust_ok (G : GFns α) (miss : α → Bool) (y : List α) (p : α) (llas : List α)
    (z : List α) (lopt : α) (h : wcvp G miss y p llas false = .ok z lopt) :
    4 < countValid miss y ∧
    lopt = (gcvSweep G (cleanOf miss y) (weightsOf miss y) (deigs G y.length) (llas.map G.pow10)
              ⟨G.big, nat 0, none⟩).lam ∧
    z = expectile (cleanOf miss y) (weightsOf miss y) lopt p := by
  obtain ⟨hc, rwts, hs, hz⟩ := wcvp_ok G miss y p llas false z lopt h
  rw [gcvSelect_nonrobust G _ _ llas (by simp), cleanOf_length] at hs
  cases hs
  exact ⟨hc, rfl, hz⟩

/-- robust = false: the reported λ minimises the GCV score over the grid and beats `big`,
    or no grid score beats `big` and the reported λ is 0 -/
theorem wcv_lopt_on_grid_nonrobust (G : GFns α) (miss : α → Bool) (y llas : List α) (z : List α)
    (lopt : α) (h : wcv G miss y llas false = .ok z lopt) :
    (lopt ∈ llas.map G.pow10 ∧
      (gcvScore G (cleanOf miss y) (weightsOf miss y) (deigs G y.length) lopt).1 < G.big ∧
      ∀ s ∈ llas.map G.pow10,
        ¬ (gcvScore G (cleanOf miss y) (weightsOf miss y) (deigs G y.length) s).1 <
          (gcvScore G (cleanOf miss y) (weightsOf miss y) (deigs G y.length) lopt).1) ∨
    (lopt = 0 ∧ ∀ s ∈ llas.map G.pow10,
        ¬ (gcvScore G (cleanOf miss y) (weightsOf miss y) (deigs G y.length) s).1 < G.big) := by
  obtain ⟨_, hl, _⟩ := wcv_nonrobust_ok G miss y llas z lopt h
  obtain ⟨_, h2, h3 | ⟨k, hk, hr, hb, _⟩⟩ := gcvSweep_spec G (cleanOf miss y) (weightsOf miss y)
    (deigs G y.length) (llas.map G.pow10) ⟨G.big, nat 0, none⟩
  · right
    rw [hl, h3.1]
    exact ⟨nat_zero, h3.2⟩
  · left
    rw [hr] at h2
    rw [hl, hr]
    exact ⟨List.getElem_mem hk, hb, h2⟩

/-! ### robust = true: the four iterations -/

theorem gcvSelect_robust_some (G : GFns α) (y w llas : List α) (lopt : α) (rwts : List α)
    (h : gcvSelect G y w llas true = some (lopt, rwts)) :
    ∃ st4, grun G y w (deigs G y.length) (llas.map G.pow10) true (sumF w) 4 0
        (⟨G.big, nat 0, none⟩, y.map (fun _ => nat 1), []) = some st4 ∧
      lopt = (st4.2.2.getD 1 ⟨nat 0, nat 0, none⟩).lam ∧ rwts = mul2 w st4.2.1 := by
  rw [gcvSelect_unfold, Option.map_eq_some_iff] at h
  obtain ⟨st4, hg, he⟩ := h
  simp only [if_true, Prod.mk.injEq] at he
  exact ⟨st4, hg, he.1.symm, he.2.symm⟩

/-- robust = true: the reported λ is always a grid value (otherwise the kernel is `.unbound`) -/
theorem gcvSelect_robust_lopt (G : GFns α) (y w llas : List α) (lopt : α) (rwts : List α)
    (h : gcvSelect G y w llas true = some (lopt, rwts)) : lopt ∈ llas.map G.pow10 := by
  obtain ⟨st4, hg, hl, _⟩ := gcvSelect_robust_some G y w llas lopt rwts h
  simp only [grun, Option.bind_eq_some_iff] at hg
  obtain ⟨st1, h1, st2, h2, st3, h3, st4', h4, h5⟩ := hg
  cases h5
  obtain ⟨a1, b1, yt1, c1, _⟩ := gstep_robust_some _ _ _ _ _ _ _ _ _ h1
  obtain ⟨a2, b2, _, _, _⟩ := gstep_robust_some _ _ _ _ _ _ _ _ _ h2
  obtain ⟨_, b3, _, _, _⟩ := gstep_robust_some _ _ _ _ _ _ _ _ _ h3
  obtain ⟨_, b4, _, _, _⟩ := gstep_robust_some _ _ _ _ _ _ _ _ _ h4
  have hl2 : lopt = st2.1.lam := by rw [hl, b4, b3, b2, b1]; rfl
  -- iteration 0 recorded a curve, hence moved away from the initial best
  have hlam1 : st1.1.lam ∈ llas.map G.pow10 := by
    simp only [iterLams, if_false, Nat.not_lt_zero] at a1
    rcases gcvSweep_lam G y (mul2 w (y.map fun _ => nat 1)) (deigs G y.length) (llas.map G.pow10)
      ⟨G.big, nat 0, none⟩ with e | ⟨e, _⟩
    · rw [a1, e] at c1; simp at c1
    · rw [a1]; exact e
  simp only [iterLams, show ¬ (1 < 1) by omega, if_false] at a2
  rcases gcvSweep_lam G y (mul2 w st1.2.1) (deigs G y.length) (llas.map G.pow10) st1.1 with e | ⟨e, _⟩
  · rw [hl2, a2, e]; exact hlam1
  · rw [hl2, a2]; exact e

theorem wcv_lopt_on_grid_robust (G : GFns α) (miss : α → Bool) (y llas : List α) (z : List α)
    (lopt : α) (h : wcv G miss y llas true = .ok z lopt) : lopt ∈ llas.map G.pow10 := by
  obtain ⟨_, rwts, hs, _⟩ := wcv_ok G miss y llas true z lopt h
  exact gcvSelect_robust_lopt G _ _ llas lopt rwts hs

theorem wcvp_lopt_on_grid_robust (G : GFns α) (miss : α → Bool) (y : List α) (p : α) (llas : List α)
    (z : List α) (lopt : α) (h : wcvp G miss y p llas true = .ok z lopt) :
    lopt ∈ llas.map G.pow10 := by
  obtain ⟨_, rwts, hs, _⟩ := wcvp_ok G miss y p llas true z lopt h
  exact gcvSelect_robust_lopt G _ _ llas lopt rwts hs

/-- robust or not: the reported λ is a grid value, or 0 (only for robust = false, and only
    when no grid score is below `big`, see `wcv_lopt_on_grid_nonrobust`) -/
theorem wcv_lopt_on_grid (G : GFns α) (miss : α → Bool) (y llas : List α) (robust : Bool)
    (z : List α) (lopt : α) (h : wcv G miss y llas robust = .ok z lopt) :
    lopt ∈ llas.map G.pow10 ∨ lopt = 0 := by
  cases robust with
  | true => exact Or.inl (wcv_lopt_on_grid_robust G miss y llas z lopt h)
  | false =>
    rcases wcv_lopt_on_grid_nonrobust G miss y llas z lopt h with h1 | h1
    · exact Or.inl h1.1
    · exact Or.inr h1.1

theorem wcvp_lopt_on_grid (G : GFns α) (miss : α → Bool) (y : List α) (p : α) (llas : List α)
    (robust : Bool) (z : List α) (lopt : α) (h : wcvp G miss y p llas robust = .ok z lopt) :
    lopt ∈ llas.map G.pow10 ∨ lopt = 0 := by
  cases robust with
  | true => exact Or.inl (wcvp_lopt_on_grid_robust G miss y p llas z lopt h)
  | false =>
    obtain ⟨_, hl, _⟩ := wcvp_nonrobust_ok G miss y p llas z lopt h
    rcases gcvSweep_lam G (cleanOf miss y) (weightsOf miss y) (deigs G y.length) (llas.map G.pow10)
      ⟨G.big, nat 0, none⟩ with e | ⟨e, _⟩
    · right; rw [hl, e]; exact nat_zero
    · left; rw [hl]; exact e

/-! ### 3. self-consistency (robust = false) -/

theorem wcv_self_consistent (G : GFns α) (miss : α → Bool) (y llas : List α) (z : List α) (lopt : α)
    (h : wcv G miss y llas false = .ok z lopt) (h0 : lopt ≠ 0) : gu miss y lopt = some z := by
  obtain ⟨hc, _, rfl⟩ := wcv_nonrobust_ok G miss y llas z lopt h
  exact C02.gu_eq_some miss y lopt h0 (by omega)

theorem wcvp_self_consistent (G : GFns α) (miss : α → Bool) (y : List α) (p : α) (llas : List α)
    (z : List α) (lopt : α) (h : wcvp G miss y p llas false = .ok z lopt) (h0 : lopt ≠ 0) :
    pgu miss y lopt p = some z := by
  obtain ⟨hc, _, rfl⟩ := wcvp_nonrobust_ok G miss y p llas z lopt h
  exact C02.pgu_eq_some miss y lopt p h0 (by omega)

/-! ### 4. the robust re-weighting step -/

theorem robustStep_range (G : GFns α) (y ytemp wt de rw w : List α) (s n : α)
    (h : ∀ x ∈ rw, 0 ≤ x ∧ x ≤ 1) :
    ∀ x ∈ robustStep G y ytemp wt de rw w s n, 0 ≤ x ∧ x ≤ 1 :=
  Smooth.robustStep_range G y ytemp wt de rw w s n h

/-- a MAD at rounding-noise level relative to the spread of the valid data keeps the weights
    (the source tests `mad > madtol * (1 + max − min)`) -/
theorem robustStep_mad_small (G : GFns α) (y ytemp wt de rw w : List α) (s n : α)
    (h : madOf y ytemp wt ≤ G.madtol * (1 + (maxL (yvOf y w) - minL (yvOf y w)))) :
    robustStep G y ytemp wt de rw w s n = rw := by
  rw [robustStep_eq, if_neg (not_lt.2 (by unfold madMinOf; exact h))]

/-- the spread of the valid data is non-negative -/
theorem spread_nonneg (l : List α) : 0 ≤ maxL l - minL l :=
  sub_nonneg.2 (minL_le_maxL l)

theorem robustStep_mad_nonpos (G : GFns α) (y ytemp wt de rw w : List α) (s n : α)
    (hmt : 0 ≤ G.madtol) (h : ¬ 0 < madOf y ytemp wt) : robustStep G y ytemp wt de rw w s n = rw :=
  robustStep_mad_small G y ytemp wt de rw w s n ((not_lt.1 h).trans (madMinOf_nonneg G hmt y w))

theorem robustStep_mad_zero (G : GFns α) (y ytemp wt de rw w : List α) (s n : α)
    (hmt : 0 ≤ G.madtol) (h : madOf y ytemp wt = 0) : robustStep G y ytemp wt de rw w s n = rw :=
  robustStep_mad_nonpos G y ytemp wt de rw w s n hmt (by rw [h]; exact lt_irrefl _)

/-- the guard of the repaired kernel: if two cells have positive weight before the step,
    two cells have positive weight after it -/
theorem robustStep_two_pos (G : GFns α) (y ytemp wt de rw w : List α) (s n : α)
    (h : TwoPos (mul2 w rw)) : TwoPos (mul2 w (robustStep G y ytemp wt de rw w s n)) :=
  Smooth.robustStep_two_pos G y ytemp wt de rw w s n h

/-! ### 5. robust = true: the band is a weighted Whittaker curve at the reported λ -/

theorem gstep_rw_range (G : GFns α) (y w de llasPow : List α) (robust : Bool) (n : α) (it : ℕ)
    (st st' : GState α) (h : gstep G y w de llasPow robust n it st = some st')
    (hr : ∀ x ∈ st.2.1, 0 ≤ x ∧ x ≤ 1) : ∀ x ∈ st'.2.1, 0 ≤ x ∧ x ≤ 1 := by
  cases robust with
  | true =>
    obtain ⟨_, _, yt, _, e⟩ := gstep_robust_some _ _ _ _ _ _ _ _ _ h
    rw [e]
    exact robustStep_range G y yt _ de _ w _ n hr
  | false => exact Option.some.inj h ▸ hr

theorem grun_rw_range (G : GFns α) (y w de llasPow : List α) (robust : Bool) (n : α) (k it : ℕ)
    (st st' : GState α) (h : grun G y w de llasPow robust n k it st = some st')
    (hr : ∀ x ∈ st.2.1, 0 ≤ x ∧ x ≤ 1) : ∀ x ∈ st'.2.1, 0 ≤ x ∧ x ≤ 1 :=
  grun_invariant G y w de llasPow robust n (fun st => ∀ x ∈ st.2.1, 0 ≤ x ∧ x ≤ 1)
    (fun it st st' hr h => gstep_rw_range G y w de llasPow robust n it st st' h hr) k it st st' hr h

theorem gcvSelect_weights (G : GFns α) (y w llas : List α) (robust : Bool) (lopt : α) (rwts : List α)
    (h : gcvSelect G y w llas robust = some (lopt, rwts)) :
    ∃ rw, (∀ x ∈ rw, 0 ≤ x ∧ x ≤ 1) ∧ rwts = mul2 w rw := by
  rw [gcvSelect_unfold, Option.map_eq_some_iff] at h
  obtain ⟨st, hg, he⟩ := h
  simp only [Prod.mk.injEq] at he
  refine ⟨st.2.1, ?_, he.2.symm⟩
  exact grun_rw_range _ _ _ _ _ _ _ _ _ _ _ hg (by simp)

/-- the band of the robust kernel is a Whittaker curve at the reported λ whose weights are
    the validity weights damped by factors in [0,1] -/
theorem wcv_robust_is_weighted_curve (G : GFns α) (miss : α → Bool) (y llas : List α) (z : List α)
    (lopt : α) (h : wcv G miss y llas true = .ok z lopt) :
    ∃ rw, (∀ x ∈ rw, 0 ≤ x ∧ x ≤ 1) ∧
      z = ws2d (cleanOf miss y) lopt (mul2 (weightsOf miss y) rw) := by
  obtain ⟨_, rwts, hs, hz⟩ := wcv_ok G miss y llas true z lopt h
  obtain ⟨rw, hr, rfl⟩ := gcvSelect_weights G _ _ llas true lopt rwts hs
  exact ⟨rw, hr, hz⟩

theorem wcvp_robust_is_weighted_curve (G : GFns α) (miss : α → Bool) (y : List α) (p : α)
    (llas : List α) (z : List α) (lopt : α) (h : wcvp G miss y p llas true = .ok z lopt) :
    ∃ rw, (∀ x ∈ rw, 0 ≤ x ∧ x ≤ 1) ∧
      z = expectile (cleanOf miss y) (mul2 (weightsOf miss y) rw) lopt p := by
  obtain ⟨_, rwts, hs, hz⟩ := wcvp_ok G miss y p llas true z lopt h
  obtain ⟨rw, hr, rfl⟩ := gcvSelect_weights G _ _ llas true lopt rwts hs
  exact ⟨rw, hr, hz⟩

/-- the weights in force are between 0 and the validity weights, in particular they vanish
    on missing cells -/
theorem mul2_weights_range (miss : α → Bool) (y rw : List α) (hr : ∀ x ∈ rw, 0 ≤ x ∧ x ≤ 1) (i : ℕ) :
    0 ≤ fn (mul2 (weightsOf miss y) rw) i ∧
      fn (mul2 (weightsOf miss y) rw) i ≤ fn (weightsOf miss y) i ∧
      (∀ hi : i < y.length, miss y[i] = true → fn (mul2 (weightsOf miss y) rw) i = 0) := by
  rw [fn_mul2]
  have hw0 : 0 ≤ fn (weightsOf miss y) i := fn_forall _ (le_refl 0) (weightsOf_nonneg miss y) i
  have hr' : 0 ≤ fn rw i ∧ fn rw i ≤ 1 := fn_forall rw ⟨le_refl _, zero_le_one⟩ hr i
  refine ⟨mul_nonneg hw0 hr'.1, mul_le_of_le_one_right hw0 hr'.2, ?_⟩
  intro hi hm
  rw [fn_weightsOf miss y i hi, hm]; simp

/-! ### 5b. robust mode never degenerates

The repaired re-weighting step keeps the previous weights whenever fewer than two cells would
keep a positive weight.  Hence "at least two cells of `w · rw` are positive" is an invariant
of the loop; it holds initially (`rw` = ones, at least 5 valid cells), so the weights in
force at the final fit are inside the contract of C01 and the band is the unique minimiser
of the correspondingly weighted penalised least-squares functional at a grid λ. -/

theorem twoPos_weightsOf (miss : α → Bool) (y : List α) (hv : 2 ≤ countValid miss y) :
    TwoPos (weightsOf miss y) := by
  obtain ⟨i, k, hik, hk, h1, h2⟩ := exists_two_valid miss y hv
  refine ⟨i, k, hik, by simpa using hk, ?_, ?_⟩
  · rw [fn_weightsOf miss y i (by omega), h1]; simp
  · rw [fn_weightsOf miss y k hk, h2]; simp

/-- the invariant lifted through the loop: the final weights have two positive entries -/
theorem gcvSelect_weights_two_pos (G : GFns α) (y w llas : List α) (robust : Bool) (lopt : α)
    (rwts : List α) (hwl : w.length = y.length) (h2 : TwoPos w)
    (h : gcvSelect G y w llas robust = some (lopt, rwts)) : TwoPos rwts := by
  cases robust with
  | false =>
    rw [gcvSelect_nonrobust G y w llas hwl] at h
    cases h
    exact h2
  | true =>
    obtain ⟨st4, hg, _, hrw⟩ := gcvSelect_robust_some G y w llas lopt rwts h
    rw [hrw]
    exact grun_twoPos G (deigs G y.length) (llas.map G.pow10) (sumF w) 4 0 _ st4
      (twoPos_gstate0 G hwl h2) hg

/-- robust λ selection: the final weights are inside the contract of C01 at the reported λ -/
theorem gcvSelect_robust_inContract (G : GFns α) (y w llas : List α) (lopt : α) (rwts : List α)
    (hn : 4 ≤ y.length) (hwl : w.length = y.length) (hw : ∀ x ∈ w, 0 ≤ x) (h2 : TwoPos w)
    (hpow : ∀ l ∈ llas, 0 < G.pow10 l)
    (h : gcvSelect G y w llas true = some (lopt, rwts)) : InContract y rwts lopt := by
  have htp := gcvSelect_weights_two_pos G y w llas true lopt rwts hwl h2 h
  obtain ⟨st4, hg, _, hrw⟩ := gcvSelect_robust_some G y w llas lopt rwts h
  have hI := grun_rinv G (deigs G y.length) (llas.map G.pow10) (sumF w) hwl 4 0 _ st4
    (rinv_gstate0 G _ y) hg
  have hlpos : 0 < lopt :=
    List.forall_mem_map.2 hpow lopt (gcvSelect_robust_lopt G y w llas lopt rwts h)
  rw [hrw] at htp ⊢
  exact inContract_mul2 y w st4.2.1 lopt hn hwl hw hI.1 hI.2.1 hlpos htp

/-- ws2dwcv, robust = true: whenever the kernel returns a curve, the weights of the final
    fit are inside the contract (no hypothesis beyond a positive grid) -/
theorem wcv_robust_inContract (G : GFns α) (miss : α → Bool) (y llas : List α) (z : List α) (lopt : α)
    (hpow : ∀ l ∈ llas, 0 < G.pow10 l) (h : wcv G miss y llas true = .ok z lopt) :
    ∃ rw, (∀ x ∈ rw, 0 ≤ x ∧ x ≤ 1) ∧
      gcvSelect G (cleanOf miss y) (weightsOf miss y) llas true =
        some (lopt, mul2 (weightsOf miss y) rw) ∧
      z = ws2d (cleanOf miss y) lopt (mul2 (weightsOf miss y) rw) ∧
      InContract (cleanOf miss y) (mul2 (weightsOf miss y) rw) lopt := by
  obtain ⟨hc, rwts, hs, hz⟩ := wcv_ok G miss y llas true z lopt h
  obtain ⟨rw, hr, rfl⟩ := gcvSelect_weights G _ _ llas true lopt rwts hs
  have hn : 4 ≤ (cleanOf miss y).length := by
    have := countValid_le_length miss y; simp; omega
  exact ⟨rw, hr, hs, hz, gcvSelect_robust_inContract G _ _ llas lopt _ hn (by simp)
    (weightsOf_nonneg miss y) (twoPos_weightsOf miss y (by omega)) hpow hs⟩

/-- … hence the robust band's curve is a finite Whittaker curve at a grid λ: it has full
    length, solves the weighted normal equations, is their only solution, and is the unique
    minimiser of the weighted penalised least-squares functional -/
theorem wcv_robust_normal_eq (G : GFns α) (miss : α → Bool) (y llas : List α) (z : List α) (lopt : α)
    (hpow : ∀ l ∈ llas, 0 < G.pow10 l) (h : wcv G miss y llas true = .ok z lopt) :
    ∃ rw, (∀ x ∈ rw, 0 ≤ x ∧ x ≤ 1) ∧ lopt ∈ llas.map G.pow10 ∧ z.length = y.length ∧
      NormalEq y.length (fn (cleanOf miss y)) (fn (mul2 (weightsOf miss y) rw)) lopt (fn z) ∧
      (∀ z' : ℕ → α,
        NormalEq y.length (fn (cleanOf miss y)) (fn (mul2 (weightsOf miss y) rw)) lopt z' →
          ∀ i < y.length, z' i = fn z i) ∧
      (∀ z' : ℕ → α,
        PLS y.length (fn (cleanOf miss y)) (fn (mul2 (weightsOf miss y) rw)) lopt (fn z) ≤
          PLS y.length (fn (cleanOf miss y)) (fn (mul2 (weightsOf miss y) rw)) lopt z') ∧
      (∀ z' : ℕ → α,
        PLS y.length (fn (cleanOf miss y)) (fn (mul2 (weightsOf miss y) rw)) lopt z' ≤
          PLS y.length (fn (cleanOf miss y)) (fn (mul2 (weightsOf miss y) rw)) lopt (fn z) →
          ∀ i < y.length, z' i = fn z i) := by
  obtain ⟨rw, hr, _, rfl, hC⟩ := wcv_robust_inContract G miss y llas z lopt hpow h
  refine ⟨rw, hr, wcv_lopt_on_grid_robust G miss y llas _ lopt h, ?_⟩
  rw [← cleanOf_length miss y]
  exact ⟨ws2d_length _ _ _ hC.wlen, ws2d_normal_eq hC, ws2d_unique hC, ws2d_minimises hC,
    ws2d_minimiser_unique hC⟩

/-- ws2dwcvp, robust = true: the robust weights are inside the contract -/
theorem wcvp_robust_inContract (G : GFns α) (miss : α → Bool) (y : List α) (p : α) (llas : List α)
    (z : List α) (lopt : α) (hpow : ∀ l ∈ llas, 0 < G.pow10 l)
    (h : wcvp G miss y p llas true = .ok z lopt) :
    ∃ rw, (∀ x ∈ rw, 0 ≤ x ∧ x ≤ 1) ∧
      z = expectile (cleanOf miss y) (mul2 (weightsOf miss y) rw) lopt p ∧
      InContract (cleanOf miss y) (mul2 (weightsOf miss y) rw) lopt := by
  obtain ⟨hc, rwts, hs, hz⟩ := wcvp_ok G miss y p llas true z lopt h
  obtain ⟨rw, hr, rfl⟩ := gcvSelect_weights G _ _ llas true lopt rwts hs
  have hn : 4 ≤ (cleanOf miss y).length := by
    have := countValid_le_length miss y; simp; omega
  exact ⟨rw, hr, hz, gcvSelect_robust_inContract G _ _ llas lopt _ hn (by simp)
    (weightsOf_nonneg miss y) (twoPos_weightsOf miss y (by omega)) hpow hs⟩

/-- … and the asymmetric final stage on top of them (`0 < p < 1`): the band's curve is the
    Whittaker curve for the weights `asymW p (w · rw) yc zprev`, which are again inside the
    contract; it solves those normal equations and is their only solution -/
theorem wcvp_robust_normal_eq (G : GFns α) (miss : α → Bool) (y : List α) (p : α) (llas : List α)
    (z : List α) (lopt : α) (hpow : ∀ l ∈ llas, 0 < G.pow10 l) (hp0 : 0 < p) (hp1 : p < 1)
    (h : wcvp G miss y p llas true = .ok z lopt) :
    ∃ rw zprev, (∀ x ∈ rw, 0 ≤ x ∧ x ≤ 1) ∧ lopt ∈ llas.map G.pow10 ∧ z.length = y.length ∧
      zprev.length = y.length ∧
      InContract (cleanOf miss y)
        (asymW p (mul2 (weightsOf miss y) rw) (cleanOf miss y) zprev) lopt ∧
      z = ws2d (cleanOf miss y) lopt (asymW p (mul2 (weightsOf miss y) rw) (cleanOf miss y) zprev) ∧
      NormalEq y.length (fn (cleanOf miss y))
        (fn (asymW p (mul2 (weightsOf miss y) rw) (cleanOf miss y) zprev)) lopt (fn z) ∧
      (∀ z' : ℕ → α, NormalEq y.length (fn (cleanOf miss y))
        (fn (asymW p (mul2 (weightsOf miss y) rw) (cleanOf miss y) zprev)) lopt z' →
          ∀ i < y.length, z' i = fn z i) := by
  obtain ⟨rw, hr, rfl, hC⟩ := wcvp_robust_inContract G miss y p llas z lopt hpow h
  obtain ⟨zprev, hlen, hC', hze⟩ := expectile_eq_ws2d hC p hp0 hp1
  refine ⟨rw, zprev, hr, wcvp_lopt_on_grid_robust G miss y p llas _ lopt h, ?_⟩
  rw [← cleanOf_length miss y, hze]
  exact ⟨ws2d_length _ _ _ hC'.wlen, hlen, hC', rfl, ws2d_normal_eq hC', ws2d_unique hC'⟩

/-! ### 6. constant / linear series under the robust loop

With every valid cell on a straight line all residuals on valid cells are 0, hence the MAD is
0 in every iteration, the robust weights stay 1, and the final curve is the Whittaker curve
with the validity weights, i.e. the line (C06core.ws2d_affine).  No assumption on `G` is needed
for this; for the kernel to actually return `.ok` (a score must beat `big`) we assume
`0 < G.big`, `G.sqrtw 0 = 0` and a non-empty grid: then every score is 0 and the FIRST grid
value is reported. -/

theorem perfect_of_line (miss : α → Bool) (y : List α) (a b : α)
    (hline : ∀ i (hi : i < y.length), miss y[i] = false → y[i] = a + b * (i : α)) :
    ∀ i, fn (weightsOf miss y) i ≠ 0 → fn (cleanOf miss y) i = fn (lineList a b y.length) i := by
  intro i hi
  rw [cleanOf_on_line miss y a b hline i hi, fn_lineList a b _ i (weightsOf_ne_zero miss y i hi).1]

theorem fit_of_line (miss : α → Bool) (y : List α) (a b : α) (hc : 4 < countValid miss y)
    (hline : ∀ i (hi : i < y.length), miss y[i] = false → y[i] = a + b * (i : α)) (s : α) (hs : 0 < s) :
    ws2d (cleanOf miss y) s (weightsOf miss y) = lineList a b y.length := by
  have hn : 4 ≤ y.length := by have := countValid_le_length miss y; omega
  simpa using ws2d_eq_line (inContract_clean miss y s hn hs (by omega)) a b
    (cleanOf_on_line miss y a b hline)

theorem wcv_affine_robust (G : GFns α) (miss : α → Bool) (y llas : List α) (a b : α) (z : List α)
    (lopt : α) (hpow : ∀ l ∈ llas, 0 < G.pow10 l) (hmt : 0 ≤ G.madtol)
    (hline : ∀ i (hi : i < y.length), miss y[i] = false → y[i] = a + b * (i : α))
    (h : wcv G miss y llas true = .ok z lopt) :
    z = lineList a b y.length ∧
      gcvSelect G (cleanOf miss y) (weightsOf miss y) llas true = some (lopt, weightsOf miss y) := by
  obtain ⟨hc, rwts, hs, hz⟩ := wcv_ok G miss y llas true z lopt h
  obtain ⟨st4, hg, _, hrw⟩ := gcvSelect_robust_some G _ _ llas lopt rwts hs
  have hfit : ∀ s ∈ llas.map G.pow10, ws2d (cleanOf miss y) s (weightsOf miss y) = lineList a b y.length :=
    fun s hs => fit_of_line miss y a b hc hline s (List.forall_mem_map.2 hpow s hs)
  have hP := grun_perfInv G hmt (perfect_of_line miss y a b hline) (by simp)
    (deigs G (cleanOf miss y).length) (llas.map G.pow10) hfit (sumF (weightsOf miss y)) 4 0 _ st4
    (rinv_gstate0 G _ (cleanOf miss y)) (perfInv_gstate0 G _ _) hg
  have hw : rwts = weightsOf miss y := by
    rw [hrw, hP.1]; exact mul2_ones' _ _ (by simp)
  rw [hw] at hz hs
  exact ⟨by rw [hz]; exact hfit lopt (gcvSelect_robust_lopt G _ _ llas lopt _ hs), hs⟩

theorem wcv_affine_robust_ok (G : GFns α) (miss : α → Bool) (y : List α) (l0 : α) (ls : List α)
    (a b : α) (hc : 4 < countValid miss y) (hpow : ∀ l ∈ l0 :: ls, 0 < G.pow10 l)
    (hsq : G.sqrtw 0 = 0) (hbig : 0 < G.big) (hmt : 0 ≤ G.madtol)
    (hline : ∀ i (hi : i < y.length), miss y[i] = false → y[i] = a + b * (i : α)) :
    wcv G miss y (l0 :: ls) true = .ok (lineList a b y.length) (G.pow10 l0) := by
  have hfit : ∀ s ∈ G.pow10 l0 :: ls.map G.pow10,
      ws2d (cleanOf miss y) s (weightsOf miss y) = lineList a b y.length :=
    fun s hs => fit_of_line miss y a b hc hline s (List.forall_mem_map.2 hpow s hs)
  have hrun : grun G (cleanOf miss y) (weightsOf miss y) (deigs G (cleanOf miss y).length)
      (G.pow10 l0 :: ls.map G.pow10) true (sumF (weightsOf miss y)) 4 0
      (⟨G.big, nat 0, none⟩, (cleanOf miss y).map (fun _ => (nat 1 : α)), []) = _ :=
    grun_perfect G hmt (perfect_of_line miss y a b hline) hsq (by simp) _ _ _ hfit _ hbig
  rw [wcv_unfold, if_pos hc, gcvSelect_unfold]
  simp only [if_true, List.map_cons]
  rw [hrun]
  simp only [Option.map_some, outOf_some, List.getD_cons_succ, List.getD_cons_zero,
    mul2_ones' _ _ (weightsOf_length miss y |>.trans (cleanOf_length miss y).symm)]
  show GcvOut.ok (ws2d (cleanOf miss y) (G.pow10 l0) (weightsOf miss y)) (G.pow10 l0) = _
  rw [hfit _ (by simp)]

/-! ### non-vacuity -/

/-- a concrete `GFns ℚ` (the theorems hold for arbitrary ones) -/
def Gq : GFns ℚ := ⟨fun _ _ => -1, 1, fun x => x, fun x => x, fun x => x, 1000, 1, 1, 1 / 1000⟩

/-- hypothesis of `robustStep_range`: weights in [0,1] -/
example : ∀ x ∈ ([1, 0, 1 / 2] : List ℚ), 0 ≤ x ∧ x ≤ 1 := by norm_num

/-- `wcv … false = .ok z lopt` is satisfiable (five valid cells suffice) -/
example : ∃ z lopt, wcv Gq (fun x : ℚ => decide (x = -3000)) [1, 4, 2, 5, 3, 6] [0, 1] false = .ok z lopt := by
  rw [wcv_nonrobust_eq, if_pos (by norm_num [countValid, List.filter])]
  exact ⟨_, _, rfl⟩

/-- `wcv … true = .ok z lopt` is satisfiable: a series with a gap whose valid cells lie on
    1 + 2·i is returned as that line, with the first grid value reported -/
example : wcv Gq (fun x : ℚ => decide (x = -3000)) [1, 3, -3000, 7, 9, 11] [1, 2] true =
    .ok (lineList 1 2 6) 1 := by
  have := wcv_affine_robust_ok Gq (fun x : ℚ => decide (x = -3000)) [1, 3, -3000, 7, 9, 11] 1 [2] 1 2
    (by norm_num [countValid, List.filter])
    (by norm_num [Gq]) rfl (by norm_num [Gq])
    (by norm_num [Gq])
    (by
      intro i hi
      simp only [List.length_cons, List.length_nil] at hi
      interval_cases i <;> simp <;> norm_num)
  simpa [Gq] using this

end Hdc.C05
