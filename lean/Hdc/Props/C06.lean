import Hdc.Lemmas.SmoothGcvAffine
import Hdc.Lemmas.SmoothExpectile
import Mathlib.Tactic.NormNum
import Mathlib.Tactic.IntervalCases
import Hdc.Props.C03
import Hdc.Props.C04
import Hdc.Props.C05
/-
C06  Linear series, offsets, time reversal.

Formal statements proved in this file (α any linearly ordered field; `lineList a b n` = [a + b·i | i < n]).
The core `ws2d` is the LDLᵀ solve of the model, which is the penalised least-squares solution only inside
the contract of C01 (n ≥ 4, λ > 0, weights ≥ 0 with two positive entries); the hypotheses `4 ≤ |y|`,
`0 < λ` (resp. `0 ≤ λ`, `0 < pow10 _`) below are exactly what is needed to be inside it.

 1. straight lines
  curve_affine_of_weights        InContract y ww lam, ww = 0 on missing cells, valid cells on the line → ws2d y lam ww = the line
  curve_affine_of_weights_clean  the same for the cleaned data
  gu_affine        4 ≤ n, 0 < lam, 2 ≤ countValid, valid cells on a + b·i → gu miss y lam = some (lineList a b n)
  optv_affine      optv F miss y llas = some (z, lopt), 0 < lopt, 4 ≤ n, valid cells on the line → z = lineList a b n
  wcv_affine       wcv G miss y llas false = .ok z lopt, 0 < lopt, valid cells on the line → z = lineList a b n
  wcv_affine_of_contract   robust or not: if the final weights are inside the contract the curve is the line
                   (for robust = true the hypothesis always holds: wcv_affine_robust in section 4)
  expectile_affine InContract y w lam, 0<p<1, data on the line where w ≠ 0 → expectile y w lam p = lineList a b n
  pgu_affine / optvp_affine / wcvp_affine   the same for the asymmetric kernels
 2. offsets and reversal of the fixed-λ kernel
  (the unconditional `gu_shift`/`gu_reverse` of the task are FALSE in the model for n = 3 and for λ < 0:
   counterexamples are checked in the non-vacuity section)
  gu_shift         4 ≤ n, 0 ≤ lam → gu (fun x => miss (x − c)) (y.map (· + c)) lam = (gu miss y lam).map (·.map (· + c))
  gu_reverse       4 ≤ n, 0 ≤ lam → gu miss y.reverse lam = (gu miss y lam).map List.reverse
 3. V-curve
  fitSS_eq_sum / penSS_eq_sum    fitSS w y z = Σ (w_i (y_i − z_i))²,  penSS z = Σ_j (D2 z j)²
  fitSS_shift / penSS_shift / fitSS_reverse / penSS_reverse    fit and roughness are invariant
  optv_shift       4 ≤ n, 0 < pow10 → optv F (miss (· − c)) (y + c) llas = (optv F miss y llas).map (curve + c, same lopt)
  optv_reverse     4 ≤ n, 0 < pow10 → optv F miss y.reverse llas = (optv F miss y llas).map (curve reversed, same lopt)
                   (the grid `llas` is NOT reversed)
 4. GCV kernel under offsets (`G.sqrtw 0 = 0`, `0 < pow10` on the grid)
  wcv_shift_passthrough   pass-through is decided on the valid count only
  wcv_shift_nonrobust     wcv G miss y llas false = .ok z lopt, lopt ≠ 0 →
                            wcv G (miss (· − c)) (y + c) llas false = .ok (z + c) lopt
  wcv_shift_nonrobust'    some grid score beats `big` → wcv G (miss (· − c)) (y + c) llas false = shiftOut c (wcv G miss y llas false)
  robustWeightsOK         2 ≤ countValid → every robust weight vector in force leaves ≥ 2 positive weights (THEOREM, by the
                            guard of the repaired re-weighting step)
  wcv_shift_robust        wcv G (miss (· − c)) (y + c) llas true = shiftOut c (wcv G miss y llas true)   (no side condition:
                            the MAD threshold madtol·(1 + max − min) is shift invariant)
  wcv_affine_robust / wcvp_affine_robust   robust = true, valid cells on the line, positive grid → the curve is the line
 5. asymmetric kernels under offsets
  expectileEq_unique      0<p<1, λ>0, w ≥ 0 with two positive entries: the expectile equations have at most one solution
                          (they are the stationarity conditions of a strictly convex functional)
  expectile_fix_unique    list form: two full-length fixed points of "re-weight, re-fit" coincide
  expectile_shift_of_converged   both runs stopped early → expectile (y + c) w lam p = (expectile y w lam p) + c
  pgu_shift_partial       the same for ws2dpgu
  (the unconditional commutation is kept as a comment in section 5: it needs both runs to reach their fixed point)
-/
namespace Hdc.C06
open Hdc Hdc.C01 Hdc.Smooth

variable {α : Type} [Field α] [LinearOrder α] [IsStrictOrderedRing α]

/-! ### 1. straight lines are reproduced, gaps are filled on the same line -/

theorem curve_affine_of_weights (miss : α → Bool) (y ww : List α) (lam a b : α)
    (h : InContract y ww lam)
    (hsupp : ∀ i (hi : i < y.length), miss y[i] = true → fn ww i = 0)
    (hline : ∀ i (hi : i < y.length), miss y[i] = false → y[i] = a + b * (i : α)) :
    ws2d y lam ww = lineList a b y.length := by
  apply ws2d_eq_line h a b
  intro i hi
  have hl : i < y.length := by rw [← h.wlen]; exact fn_ne_zero_lt _ i hi
  rw [fn_of_lt _ i hl]
  apply hline i hl
  by_contra hm
  exact hi (hsupp i hl (by simpa using hm))

theorem curve_affine_of_weights_clean (miss : α → Bool) (y ww : List α) (lam a b : α)
    (h : InContract (cleanOf miss y) ww lam)
    (hsupp : ∀ i (hi : i < y.length), miss y[i] = true → fn ww i = 0)
    (hline : ∀ i (hi : i < y.length), miss y[i] = false → y[i] = a + b * (i : α)) :
    ws2d (cleanOf miss y) lam ww = lineList a b y.length := by
  have := ws2d_eq_line h a b (by
    intro i hi
    have hl : i < y.length := by
      have := fn_ne_zero_lt _ i hi
      rw [h.wlen] at this; simpa using this
    have hm : miss y[i] = false := by
      by_contra hm
      exact hi (hsupp i hl (by simpa using hm))
    rw [fn_cleanOf miss y i hl, hm]
    simpa using hline i hl hm)
  simpa using this

/-- the validity weights vanish on missing cells -/
theorem weightsOf_supp (miss : α → Bool) (y : List α) :
    ∀ i (hi : i < y.length), miss y[i] = true → fn (weightsOf miss y) i = 0 := by
  intro i hi hm
  rw [fn_weightsOf miss y i hi, hm]; simp

/-- weights inside the support of the validity weights vanish on missing cells -/
theorem supp_of_suppIn (miss : α → Bool) (y ww : List α) (hs : SuppIn ww (weightsOf miss y)) :
    ∀ i (hi : i < y.length), miss y[i] = true → fn ww i = 0 := by
  intro i hi hm
  by_contra h0
  exact hs i h0 (weightsOf_supp miss y i hi hm)

theorem gu_affine (miss : α → Bool) (y : List α) (lam a b : α) (hn : 4 ≤ y.length) (hlam : 0 < lam)
    (hv : 2 ≤ countValid miss y)
    (hline : ∀ i (hi : i < y.length), miss y[i] = false → y[i] = a + b * (i : α)) :
    gu miss y lam = some (lineList a b y.length) := by
  rw [C02.gu_eq_some miss y lam hlam.ne' hv,
    curve_affine_of_weights_clean miss y _ lam a b (inContract_clean miss y lam hn hlam hv)
      (weightsOf_supp miss y) hline]

theorem optv_affine (F : VFns α) (miss : α → Bool) (y llas : List α) (a b : α) (z : List α) (lopt : α)
    (h : optv F miss y llas = some (z, lopt)) (hl : 0 < lopt) (hn : 4 ≤ y.length)
    (hline : ∀ i (hi : i < y.length), miss y[i] = false → y[i] = a + b * (i : α)) :
    z = lineList a b y.length := by
  rw [C04.optv_eq_some_iff] at h
  obtain ⟨hc, _, rfl⟩ := h
  exact curve_affine_of_weights miss y _ lopt a b (inContract_raw miss y lopt hn hl (by omega))
    (weightsOf_supp miss y) hline

theorem wcv_affine (G : GFns α) (miss : α → Bool) (y llas : List α) (a b : α) (z : List α) (lopt : α)
    (h : wcv G miss y llas false = .ok z lopt) (hl : 0 < lopt)
    (hline : ∀ i (hi : i < y.length), miss y[i] = false → y[i] = a + b * (i : α)) :
    z = lineList a b y.length := by
  obtain ⟨hc, _, rfl⟩ := C05.wcv_nonrobust_ok G miss y llas z lopt h
  have hn : 4 ≤ y.length := by have := countValid_le_length miss y; omega
  exact curve_affine_of_weights_clean miss y _ lopt a b
    (inContract_clean miss y lopt hn hl (by omega)) (weightsOf_supp miss y) hline

/-- robust or not: whenever the weights in force at the final fit are inside the contract,
    the curve of a series whose valid cells lie on a line is that line -/
theorem wcv_affine_of_contract (G : GFns α) (miss : α → Bool) (y llas : List α) (robust : Bool)
    (a b : α) (z : List α) (lopt : α) (h : wcv G miss y llas robust = .ok z lopt)
    (hc : ∀ rw, (∀ x ∈ rw, 0 ≤ x ∧ x ≤ 1) → z = ws2d (cleanOf miss y) lopt (mul2 (weightsOf miss y) rw) →
      InContract (cleanOf miss y) (mul2 (weightsOf miss y) rw) lopt)
    (hline : ∀ i (hi : i < y.length), miss y[i] = false → y[i] = a + b * (i : α)) :
    z = lineList a b y.length := by
  obtain ⟨_, rwts, hs, hz⟩ := C05.wcv_ok G miss y llas robust z lopt h
  obtain ⟨rw, hr, rfl⟩ := C05.gcvSelect_weights G _ _ llas robust lopt rwts hs
  rw [hz]
  exact curve_affine_of_weights_clean miss y _ lopt a b (hc rw hr hz)
    (supp_of_suppIn miss y _ (suppIn_mul2 _ _)) hline

variable {y w : List α} {lam : α}

theorem expectile_affine (h : InContract y w lam) (p : α) (hp0 : 0 < p) (hp1 : p < 1) (a b : α)
    (hy : ∀ i, fn w i ≠ 0 → fn y i = a + b * (i : α)) :
    expectile y w lam p = lineList a b y.length := by
  unfold expectile
  apply ws2d_eq_line (C03.irls_inContract h p hp0 hp1 9 _ _ (by simp)) a b
  intro i hi
  exact hy i (irls_supp y w lam p 10 _ _ (suppIn_zerosLike y w) i hi)

theorem pgu_affine (miss : α → Bool) (y : List α) (lam p a b : α) (hn : 4 ≤ y.length) (hlam : 0 < lam)
    (hv : 2 ≤ countValid miss y) (hp0 : 0 < p) (hp1 : p < 1)
    (hline : ∀ i (hi : i < y.length), miss y[i] = false → y[i] = a + b * (i : α)) :
    pgu miss y lam p = some (lineList a b y.length) := by
  rw [C02.pgu_eq_some miss y lam p hlam.ne' hv]
  simpa using expectile_affine (inContract_clean miss y lam hn hlam hv) p hp0 hp1 a b
    (cleanOf_on_line miss y a b hline)

theorem optvp_affine (F : VFns α) (miss : α → Bool) (y : List α) (p : α) (llas : List α) (a b : α)
    (z : List α) (lopt : α) (h : optvp F miss y p llas = some (z, lopt)) (hl : 0 < lopt)
    (hn : 4 ≤ y.length) (hp0 : 0 < p) (hp1 : p < 1)
    (hline : ∀ i (hi : i < y.length), miss y[i] = false → y[i] = a + b * (i : α)) :
    z = lineList a b y.length := by
  have := C04.optvp_self_consistent F miss y p llas z lopt h hl.ne'
  have hv : 2 ≤ countValid miss y := by
    by_contra hc
    rw [(C02.pgu_passthrough_iff miss y lopt p).2 (Or.inr (by omega))] at this
    cases this
  rw [pgu_affine miss y lopt p a b hn hl hv hp0 hp1 hline] at this
  exact (Option.some.inj this).symm

theorem wcvp_affine (G : GFns α) (miss : α → Bool) (y : List α) (p : α) (llas : List α) (a b : α)
    (z : List α) (lopt : α) (h : wcvp G miss y p llas false = .ok z lopt) (hl : 0 < lopt)
    (hp0 : 0 < p) (hp1 : p < 1)
    (hline : ∀ i (hi : i < y.length), miss y[i] = false → y[i] = a + b * (i : α)) :
    z = lineList a b y.length := by
  have := C05.wcvp_self_consistent G miss y p llas z lopt h hl.ne'
  obtain ⟨hc, _, _⟩ := C05.wcvp_nonrobust_ok G miss y p llas z lopt h
  have hn : 4 ≤ y.length := by have := countValid_le_length miss y; omega
  rw [pgu_affine miss y lopt p a b hn hl (by omega) hp0 hp1 hline] at this
  exact (Option.some.inj this).symm

/-! ### 2. offsets and time reversal of ws2dgu -/

theorem gu_shift (miss : α → Bool) (y : List α) (lam c : α) (hn : 4 ≤ y.length) (hlam : 0 ≤ lam) :
    gu (fun x => miss (x - c)) (y.map (· + c)) lam = (gu miss y lam).map (·.map (· + c)) := by
  rw [gu, gu, guard_eq, guard_eq, countValid_shift, weightsOf_shift]
  split_ifs with h
  · rfl
  · rw [ws2d_shift_masked c (cleanOf_shift_masked miss y c) (SuppIn.refl _)
      (inContract_clean miss y lam hn (lt_of_le_of_ne hlam (Ne.symm (not_or.1 h).1)) (by omega))]
    rfl

theorem gu_reverse (miss : α → Bool) (y : List α) (lam : α) (hn : 4 ≤ y.length) (hlam : 0 ≤ lam) :
    gu miss y.reverse lam = (gu miss y lam).map List.reverse := by
  rw [gu, gu, guard_eq, guard_eq, countValid_reverse, weightsOf_reverse, cleanOf_reverse]
  split_ifs with h
  · rfl
  · rw [ws2d_reverse
      (inContract_clean miss y lam hn (lt_of_le_of_ne hlam (Ne.symm (not_or.1 h).1)) (by omega))]
    rfl

/-! ### 3. the V-curve: fit and roughness are invariant -/

/-- `fitSS w y z = Σ (w_i (y_i − z_i))²` -/
theorem fitSS_eq_sum (w y z : List α) (hw : w.length = y.length) (hz : z.length = y.length) :
    fitSS w y z = ∑ i ∈ Finset.range y.length, (fn w i * (fn y i - fn z i)) ^ 2 := by
  unfold fitSS
  rw [sumF_eq, sum_eq_finset, fitTerms_length, hw, hz, min_self, min_self]
  refine Finset.sum_congr rfl fun i hi => ?_
  have hi' := Finset.mem_range.1 hi
  exact fn_fitTerms w y z i (by omega) hi' (by omega)

/-- `penSS z = Σ (Δ² z)²`: the roughness term of `C01.PLS` -/
theorem penSS_eq_sum (z : List α) :
    penSS z = ∑ j ∈ Finset.range (z.length - 2), (D2 (fn z) j) ^ 2 := by
  unfold penSS
  rw [sumF_eq, sum_eq_finset, List.length_map, diffs_length, diffs_length,
    show z.length - 1 - 1 = z.length - 2 by omega]
  refine Finset.sum_congr rfl fun j hj => ?_
  have hj' := Finset.mem_range.1 hj
  rw [fn_map_of_lt _ _ _ (by rw [diffs_length, diffs_length]; omega), fn_diffs2 z j (by omega)]
  ring

theorem fitSS_shift (w y z : List α) (c : α) :
    fitSS w (y.map (· + c)) (z.map (· + c)) = fitSS w y z := by
  unfold fitSS; rw [fitTerms_shift]

theorem penSS_shift (z : List α) (c : α) : penSS (z.map (· + c)) = penSS z := by
  unfold penSS; rw [diffs_shift]

theorem fitSS_reverse (w y z : List α) (hw : w.length = y.length) (hz : z.length = y.length) :
    fitSS w.reverse y.reverse z.reverse = fitSS w y z := by
  rw [fitSS_eq_sum _ _ _ (by simpa using hw) (by simpa using hz), fitSS_eq_sum _ _ _ hw hz,
    List.length_reverse, ← Finset.sum_range_reflect]
  refine Finset.sum_congr rfl fun i hi => ?_
  have hi' := Finset.mem_range.1 hi
  rw [fn_reverse_of_lt w _ (by omega), fn_reverse_of_lt y _ (by omega),
    fn_reverse_of_lt z _ (by omega), hw, hz,
    show y.length - 1 - (y.length - 1 - i) = i by omega]

theorem penSS_reverse (z : List α) : penSS z.reverse = penSS z := by
  rw [penSS_eq_sum, penSS_eq_sum, List.length_reverse, ← Finset.sum_range_reflect]
  refine Finset.sum_congr rfl fun j hj => ?_
  have hj' := Finset.mem_range.1 hj
  simp only [D2]
  rw [fn_reverse_of_lt z _ (by omega), fn_reverse_of_lt z _ (by omega),
    fn_reverse_of_lt z _ (by omega),
    show z.length - 1 - (z.length - 2 - 1 - j) = j + 2 by omega,
    show z.length - 1 - (z.length - 2 - 1 - j + 1) = j + 1 by omega,
    show z.length - 1 - (z.length - 2 - 1 - j + 2) = j by omega]
  ring

theorem optv_shift (F : VFns α) (miss : α → Bool) (y llas : List α) (c : α) (hn : 4 ≤ y.length)
    (hpow : ∀ x, 0 < F.pow10 x) :
    optv F (fun x => miss (x - c)) (y.map (· + c)) llas =
      (optv F miss y llas).map fun r => (r.1.map (· + c), r.2) :=
  optv_congr F llas (·.map (· + c)) (countValid_shift miss y c) hpow
    (fun hc lam hl => by
      rw [weightsOf_shift, ws2d_shift (inContract_raw miss y lam hn hl (by omega)) c])
    (fun z _ => by rw [weightsOf_shift, fitSS_shift]) (fun z => penSS_shift z c)

theorem optv_reverse (F : VFns α) (miss : α → Bool) (y llas : List α) (hn : 4 ≤ y.length)
    (hpow : ∀ x, 0 < F.pow10 x) :
    optv F miss y.reverse llas = (optv F miss y llas).map fun r => (r.1.reverse, r.2) :=
  optv_congr F llas List.reverse (countValid_reverse miss y) hpow
    (fun hc lam hl => by
      rw [weightsOf_reverse, ws2d_reverse (inContract_raw miss y lam hn hl (by omega))])
    (fun z hz => by rw [weightsOf_reverse, fitSS_reverse _ _ _ (by simp) hz])
    penSS_reverse

/-! ### 4. the GCV kernel under offsets

Residuals `y − z` are invariant under the shift, so every score, every MAD and every robust
weight on a valid cell is unchanged; the λ grid sweep selects the same λ and the curve is
shifted.  `G.sqrtw 0 = 0` (i.e. `0 ** 0.5 = 0`) is needed because the cleaned data carry 0,
not `c`, on missing cells; there the residual is multiplied by `sqrtw 0`. -/

/-- the output with its curve shifted -/
def shiftOut (c : α) : GcvOut α → GcvOut α
  | .ok z l => .ok (z.map (· + c)) l
  | .passthrough => .passthrough
  | .unbound => .unbound

theorem wcv_shift_passthrough (G : GFns α) (miss : α → Bool) (y llas : List α) (c : α) (robust : Bool) :
    wcv G (fun x => miss (x - c)) (y.map (· + c)) llas robust = .passthrough ↔
      wcv G miss y llas robust = .passthrough := by
  rw [C02.wcv_passthrough_iff, C02.wcv_passthrough_iff, countValid_shift]

/-- robust = false: same λ, curve shifted (λ = 0 is reported only when no score beats `big`;
    then the final solve is outside the contract of the core) -/
theorem wcv_shift_nonrobust (G : GFns α) (miss : α → Bool) (y llas : List α) (c : α)
    (hpow : ∀ l ∈ llas, 0 < G.pow10 l) (hsq : G.sqrtw 0 = 0) (z : List α) (lopt : α)
    (h : wcv G miss y llas false = .ok z lopt) (h0 : lopt ≠ 0) :
    wcv G (fun x => miss (x - c)) (y.map (· + c)) llas false = .ok (z.map (· + c)) lopt := by
  obtain ⟨hc, hl, hz⟩ := C05.wcv_nonrobust_ok G miss y llas z lopt h
  have hn : 4 ≤ y.length := by have := countValid_le_length miss y; omega
  have hM := cleanOf_shift_masked miss y c
  have hC : ∀ s, 0 < s → InContract (cleanOf miss y) (weightsOf miss y) s :=
    fun s hs => inContract_clean miss y s hn hs (by omega)
  have hlpos : 0 < lopt := by
    rcases Smooth.gcvSweep_lam G (cleanOf miss y) (weightsOf miss y) (deigs G y.length)
      (llas.map G.pow10) ⟨G.big, nat 0, none⟩ with e | ⟨e, _⟩
    · exact absurd (by rw [hl, e]; exact nat_zero) h0
    · rw [hl]; exact List.forall_mem_map.2 hpow _ e
  rw [C05.wcv_nonrobust_eq, countValid_shift, weightsOf_shift, List.length_map, if_pos hc,
    ← shiftB_none c G.big (nat 0), gcvSweep_shift G c hM hsq _ _ _ (SuppIn.refl _)
      fun s hs => hC s (List.forall_mem_map.2 hpow s hs)]
  simp only [shiftB]
  rw [← hl, ws2d_shift_masked c hM (SuppIn.refl _) (hC lopt hlpos), hz]

/-- robust = false, whole-output form: if some grid score beats `big` (or fewer than 5 cells are
    valid) the output on the shifted data is the shifted output -/
theorem wcv_shift_nonrobust' (G : GFns α) (miss : α → Bool) (y llas : List α) (c : α)
    (hpow : ∀ l ∈ llas, 0 < G.pow10 l) (hsq : G.sqrtw 0 = 0)
    (hbeat : ∃ s ∈ llas.map G.pow10,
      (gcvScore G (cleanOf miss y) (weightsOf miss y) (deigs G y.length) s).1 < G.big) :
    wcv G (fun x => miss (x - c)) (y.map (· + c)) llas false = shiftOut c (wcv G miss y llas false) := by
  cases hw : wcv G miss y llas false with
  | passthrough => exact (wcv_shift_passthrough G miss y llas c false).2 hw
  | unbound =>
    rw [C05.wcv_nonrobust_eq] at hw
    split_ifs at hw
  | ok z lopt =>
    rcases C05.wcv_lopt_on_grid_nonrobust G miss y llas z lopt hw with ⟨hm, _⟩ | ⟨_, hno⟩
    · exact wcv_shift_nonrobust G miss y llas c hpow hsq z lopt hw
        (List.forall_mem_map.2 hpow lopt hm).ne'
    · obtain ⟨s, hs, hlt⟩ := hbeat
      exact absurd hlt (hno s hs)

/-- every robust weight vector in force (before each of the four iterations and at the final
    fit) leaves at least two cells with positive weight -/
def RobustWeightsOK (G : GFns α) (miss : α → Bool) (y llas : List α) : Prop :=
  ∀ j ≤ 4, ∀ st,
    grun G (cleanOf miss y) (weightsOf miss y) (deigs G (cleanOf miss y).length) (llas.map G.pow10)
      true (sumF (weightsOf miss y)) j 0 (gstate0 G (cleanOf miss y)) = some st →
    TwoPos (mul2 (weightsOf miss y) st.2.1)

/-- with the guard of the repaired re-weighting step this is a theorem: two valid cells suffice -/
theorem robustWeightsOK (G : GFns α) (miss : α → Bool) (y llas : List α) (hv : 2 ≤ countValid miss y) :
    RobustWeightsOK G miss y llas := by
  intro j _ st hst
  exact grun_twoPos G _ _ _ j 0 _ st
    (twoPos_gstate0 G (by simp) (C05.twoPos_weightsOf miss y hv)) hst

/-- robust = true: same outcome, same λ, curve shifted — no side condition on the run -/
theorem wcv_shift_robust (G : GFns α) (miss : α → Bool) (y llas : List α) (c : α)
    (hpow : ∀ l ∈ llas, 0 < G.pow10 l) (hsq : G.sqrtw 0 = 0) :
    wcv G (fun x => miss (x - c)) (y.map (· + c)) llas true = shiftOut c (wcv G miss y llas true) := by
  rw [wcv_unfold, wcv_unfold, countValid_shift, weightsOf_shift]
  split_ifs with hc
  · have hn : 4 ≤ (cleanOf miss y).length := by
      have := countValid_le_length miss y; simp; omega
    have hM := cleanOf_shift_masked miss y c
    have h2 := C05.twoPos_weightsOf miss y (by omega)
    rw [gcvSelect_shift_robust G c hM hsq llas hn (by simp) (weightsOf_nonneg miss y) hpow h2,
      outOf_shift c hM _ fun l rwts hs => ⟨by
        obtain ⟨rw, _, rfl⟩ := C05.gcvSelect_weights G _ _ llas true l rwts hs
        exact suppIn_mul2 _ _,
        C05.gcvSelect_robust_inContract G _ _ llas l rwts hn (by simp) (weightsOf_nonneg miss y) h2
          hpow hs⟩]
    cases gcvSelect G (cleanOf miss y) (weightsOf miss y) llas true <;> rfl
  · rfl

/-- robust = true, valid cells on a line: the curve is the line (no assumption on `G` beyond a
    positive grid; compare `C05.wcv_affine_robust`, which also identifies the final weights) -/
theorem wcv_affine_robust (G : GFns α) (miss : α → Bool) (y llas : List α) (a b : α) (z : List α)
    (lopt : α) (hpow : ∀ l ∈ llas, 0 < G.pow10 l)
    (hline : ∀ i (hi : i < y.length), miss y[i] = false → y[i] = a + b * (i : α))
    (h : wcv G miss y llas true = .ok z lopt) : z = lineList a b y.length := by
  obtain ⟨rw, _, _, hz, hC⟩ := C05.wcv_robust_inContract G miss y llas z lopt hpow h
  rw [hz]
  exact curve_affine_of_weights_clean miss y _ lopt a b hC
    (supp_of_suppIn miss y _ (suppIn_mul2 _ _)) hline

theorem wcvp_affine_robust (G : GFns α) (miss : α → Bool) (y : List α) (p : α) (llas : List α)
    (a b : α) (z : List α) (lopt : α) (hpow : ∀ l ∈ llas, 0 < G.pow10 l) (hp0 : 0 < p) (hp1 : p < 1)
    (hline : ∀ i (hi : i < y.length), miss y[i] = false → y[i] = a + b * (i : α))
    (h : wcvp G miss y p llas true = .ok z lopt) : z = lineList a b y.length := by
  obtain ⟨rw, _, hz, hC⟩ := C05.wcvp_robust_inContract G miss y p llas z lopt hpow h
  rw [hz]
  simpa using expectile_affine hC p hp0 hp1 a b
    fun i hi => cleanOf_on_line miss y a b hline i (suppIn_mul2 _ _ i hi)

/-! ### 5. the asymmetric kernels under offsets

The unconditional statement

    expectile (y.map (· + c)) w lam p = (expectile y w lam p).map (· + c)          (*)
    pgu (fun x => miss (x − c)) (y.map (· + c)) lam p = (pgu miss y lam p).map (·.map (· + c))

cannot be derived for the algorithm as written: the loop starts from the ZERO curve, the first
weights depend on the sign of `y_i − 0`, which a shift changes, so the two runs follow different
sequences of iterates, and the loop is cut after 10 passes whether or not it has converged.
What holds is: the expectile
equations have at most one solution (proved here, no hypothesis), the shifted solution solves
the shifted equations, hence if both runs reach their fixed point, (*) holds. -/

/-- uniqueness for the expectile equations, at the level of functions -/
theorem expectileEq_unique (n : ℕ) (yf wf : ℕ → α) (lam p : α) (hlam : 0 < lam) (hp0 : 0 < p)
    (hp1 : p < 1) (hw : ∀ i < n, 0 ≤ wf i) (a b : ℕ) (hab : a < b) (hb : b < n) (hwa : 0 < wf a)
    (hwb : 0 < wf b) (z z' : ℕ → α)
    (hz : NormalEq n yf (fun i => wf i * (if z i < yf i then p else 1 - p)) lam z)
    (hz' : NormalEq n yf (fun i => wf i * (if z' i < yf i then p else 1 - p)) lam z') :
    ∀ i < n, z i = z' i :=
  Smooth.expectileEq_unique n yf wf lam p hlam hp0 hp1 hw a b hab hb hwa hwb z z' hz hz'

/-- two full-length fixed points of "re-weight, re-fit" coincide -/
theorem expectile_fix_unique (h : InContract y w lam) (p : α) (hp0 : 0 < p) (hp1 : p < 1)
    (z z' : List α) (hz : z = ws2d y lam (asymW p w y z)) (hz' : z' = ws2d y lam (asymW p w y z'))
    (hl : z.length = y.length) (hl' : z'.length = y.length) : z = z' :=
  Smooth.expectile_fix_unique h p hp0 hp1 z z' hz hz' hl hl'

theorem expectile_shift_of_converged (h : InContract y w lam) (p : α) (hp0 : 0 < p) (hp1 : p < 1)
    (c : α)
    (hstop1 : ∃ j < 10, iter y w lam p (zerosLike y) (j + 1) = iter y w lam p (zerosLike y) j)
    (hstop2 : ∃ j < 10, iter (y.map (· + c)) w lam p (zerosLike (y.map (· + c))) (j + 1) =
      iter (y.map (· + c)) w lam p (zerosLike (y.map (· + c))) j) :
    expectile (y.map (· + c)) w lam p = (expectile y w lam p).map (· + c) := by
  have h' := h.map (· + c)
  have f1 := (C03.expectile_fixed_point h p hp0 hp1 hstop1).1
  have f2 := (C03.expectile_fixed_point h' p hp0 hp1 hstop2).1
  have l1 := expectile_length y w lam p h.wlen
  have l2 := expectile_length (y.map (· + c)) w lam p h'.wlen
  exact Smooth.expectile_fix_unique h' p hp0 hp1 _ _ f2
    (expectile_fix_shift h p hp0 hp1 c _ l1 f1) l2 (by simp [l1])

theorem pgu_shift_partial (miss : α → Bool) (y : List α) (lam p c : α) (hn : 4 ≤ y.length)
    (hlam : 0 < lam) (hp0 : 0 < p) (hp1 : p < 1)
    (hstop1 : ∃ j < 10,
      iter (cleanOf miss y) (weightsOf miss y) lam p (zerosLike (cleanOf miss y)) (j + 1) =
      iter (cleanOf miss y) (weightsOf miss y) lam p (zerosLike (cleanOf miss y)) j)
    (hstop2 : ∃ j < 10,
      iter (cleanOf (fun x => miss (x - c)) (y.map (· + c)))
        (weightsOf (fun x => miss (x - c)) (y.map (· + c))) lam p
        (zerosLike (cleanOf (fun x => miss (x - c)) (y.map (· + c)))) (j + 1) =
      iter (cleanOf (fun x => miss (x - c)) (y.map (· + c)))
        (weightsOf (fun x => miss (x - c)) (y.map (· + c))) lam p
        (zerosLike (cleanOf (fun x => miss (x - c)) (y.map (· + c)))) j) :
    pgu (fun x => miss (x - c)) (y.map (· + c)) lam p = (pgu miss y lam p).map (·.map (· + c)) := by
  rw [pgu, pgu, guard_eq, guard_eq, countValid_shift]
  split_ifs with h
  · rfl
  · have hM := cleanOf_shift_masked miss y c
    have hz : zerosLike (cleanOf (fun x => miss (x - c)) (y.map (· + c))) =
        zerosLike ((cleanOf miss y).map (· + c)) := zerosLike_congr _ _ (by simp)
    rw [weightsOf_shift, hz] at hstop2
    simp only [iter_masked hM] at hstop2
    rw [weightsOf_shift, expectile_masked hM,
      expectile_shift_of_converged (inContract_clean miss y lam hn hlam (by omega)) p hp0 hp1 c
        hstop1 hstop2]
    rfl

/-! ### non-vacuity -/

/-- a series with one gap whose valid cells lie on the line 1 + 2·i -/
def yq : List ℚ := [1, 3, -3000, 7, 9, 11]
def missq : ℚ → Bool := fun x => decide (x = -3000)

theorem yq_line : ∀ i (hi : i < yq.length), missq yq[i] = false → yq[i] = 1 + 2 * (i : ℚ) := by
  intro i hi
  simp only [yq, List.length_cons, List.length_nil] at hi
  interval_cases i <;> simp [yq, missq] <;> norm_num

theorem yq_count : countValid missq yq = 5 := by
  norm_num [countValid, List.filter, yq, missq]

/-- hypotheses of `gu_affine`, `pgu_affine`, `gu_shift`, `gu_reverse` -/
example : 4 ≤ yq.length ∧ (0 : ℚ) < 7 ∧ 2 ≤ countValid missq yq ∧ (0 : ℚ) < 1 / 10 ∧ (1 / 10 : ℚ) < 1 := by
  refine ⟨by decide, by norm_num, by rw [yq_count]; omega, by norm_num, by norm_num⟩

/-- … so the gap is filled on the line -/
example : gu missq yq 7 = some (lineList 1 2 6) :=
  gu_affine missq yq 7 1 2 (by decide) (by norm_num) (by rw [yq_count]; omega) yq_line

/-- the hypothesis `4 ≤ n` of `gu_shift` cannot be dropped: at n = 3 the core is not the
    penalised least-squares solve (its rows do not annihilate constants) -/
example : gu (fun x : ℚ => (fun _ => false) (x - 1)) (([0, 0, 0] : List ℚ).map (· + 1)) 1 ≠
    (gu (fun _ => false) ([0, 0, 0] : List ℚ) 1).map (·.map (· + 1)) := by decide +kernel

/-- the hypothesis `0 ≤ λ` of `gu_shift` cannot be dropped: at λ = −1 the first pivot is 0 -/
example : gu (fun x : ℚ => (fun _ => false) (x - 1)) (([0, 0, 0, 0] : List ℚ).map (· + 1)) (-1) ≠
    (gu (fun _ => false) ([0, 0, 0, 0] : List ℚ) (-1)).map (·.map (· + 1)) := by decide +kernel

/-- hypotheses of `optv_shift`, `optv_reverse`: a positive `pow10` -/
example : ∀ x, 0 < C04.Fq.pow10 x := fun _ => by simp [C04.Fq]

/-- hypotheses of `wcv_shift_robust` (and of `wcv_affine_robust_ok`) -/
example : RobustWeightsOK C05.Gq missq yq [1, 2] :=
  robustWeightsOK C05.Gq missq yq [1, 2] (by rw [yq_count]; omega)

example : ∀ l ∈ ([1, 2] : List ℚ), 0 < C05.Gq.pow10 l := by norm_num [C05.Gq]

example : C05.Gq.sqrtw 0 = 0 := rfl

/-- hypotheses of `expectile_shift_of_converged`: both runs stop early for data on a line -/
example : InContract (α := ℚ) [1, 3, 5, 7, 9] [1, 1, 0, 1, 1] 7 ∧
    (∃ j < 10, iter [1, 3, 5, 7, 9] [1, 1, 0, 1, 1] (7 : ℚ) (1 / 10) (zerosLike [1, 3, 5, 7, 9]) (j + 1) =
      iter [1, 3, 5, 7, 9] [1, 1, 0, 1, 1] (7 : ℚ) (1 / 10) (zerosLike [1, 3, 5, 7, 9]) j) := by
  have hc : InContract (α := ℚ) [1, 3, 5, 7, 9] [1, 1, 0, 1, 1] 7 :=
    { len := by decide
      wlen := by decide
      lam_pos := by norm_num
      w_nonneg := by norm_num
      two_pos := ⟨0, 1, by decide, by decide, by norm_num [fn], by norm_num [fn]⟩ }
  refine ⟨hc, C03.early_stop_of_line hc (1 / 10) (by norm_num) (by norm_num) 1 2 ?_⟩
  intro i hi
  have hl : i < 5 := by simpa using fn_ne_zero_lt _ i hi
  interval_cases i <;> norm_num [fn]

end Hdc.C06
