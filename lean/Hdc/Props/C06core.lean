import Hdc.Props.C01
import Mathlib.Algebra.BigOperators.Intervals
/-
Consequences of C01 used by other properties: the Whittaker core is insensitive to data
under zero weights, reproduces straight lines, and commutes with shifts, scalings and
reversal of the series.
-/
namespace Hdc.C01
open Finset

set_option linter.unusedSectionVars false

variable {α : Type} [Field α] [LinearOrder α] [IsStrictOrderedRing α]

/-! ### reading lists as functions -/

theorem fn_of_lt (l : List α) (i : ℕ) (h : i < l.length) : fn l i = l[i] := Ws2d.fnl_of_lt l i h

theorem fn_map_of_lt (f : α → α) (l : List α) (i : ℕ) (h : i < l.length) :
    fn (l.map f) i = f (fn l i) := Ws2d.fnl_map_of_lt f l i h

theorem fn_reverse_of_lt (l : List α) (i : ℕ) (h : i < l.length) :
    fn l.reverse i = fn l (l.length - 1 - i) := by
  rw [fn_of_lt _ i (by simpa using h), fn_of_lt _ _ (by omega)]; simp

theorem list_eq_of_fn (l l' : List α) (hl : l.length = l'.length)
    (h : ∀ i < l.length, fn l i = fn l' i) : l = l' := Ws2d.list_eq_of_fnl l l' hl h

/-! ### 6. data under zero weights is never looked at (unconditional) -/

theorem ws2d_congr_masked (y y' w : List α) (lam : α) (hlen : y'.length = y.length)
    (h : ∀ i, fn w i ≠ 0 → fn y i = fn y' i) : ws2d y lam w = ws2d y' lam w := by
  unfold ws2d
  congr 1
  rw [Ws2d.ws2dRows_eq, Ws2d.ws2dRows_eq, hlen]
  have hl : (w.zip y').length = (w.zip y).length := by simp [hlen]
  rw [hl]
  apply List.map_congr_left
  intro j _
  apply Ws2d.RS_congr
  intro k
  by_cases h0 : fn w k = 0
  · show fn w k * fn y k = fn w k * fn y' k
    rw [h0]; simp
  · show fn w k * fn y k = fn w k * fn y' k
    rw [h k h0]

/-! ### algebra of `DtD` -/

theorem DtD_affine (n : ℕ) (a b : α) (i : ℕ) : DtD n (fun k => a + b * (k : α)) i = 0 := by
  unfold DtD
  apply Finset.sum_eq_zero
  intro j _
  have : D2 (fun k : ℕ => a + b * (k : α)) j = 0 := by
    simp only [D2]; push_cast; ring
  rw [this, mul_zero]

theorem DtD_add_const (n : ℕ) (z : ℕ → α) (c : α) (i : ℕ) :
    DtD n (fun k => z k + c) i = DtD n z i := by
  simpa [DtD_eq] using Ws2d.dtd_mul_add n z 1 c i

theorem DtD_const_mul (n : ℕ) (z : ℕ → α) (a : α) (i : ℕ) :
    DtD n (fun k => a * z k) i = a * DtD n z i := by
  simpa [DtD_eq] using Ws2d.dtd_mul_add n z a 0 i

theorem Dmat_reflect (n j i : ℕ) (hj : j + 2 < n) (hi : i < n) :
    (Dmat j i : α) = Dmat (n - 3 - j) (n - 1 - i) := by
  unfold Dmat
  have e1 : (n - 1 - i = n - 3 - j) = (i = j + 2) := propext (by omega)
  have e2 : (n - 1 - i = n - 3 - j + 1) = (i = j + 1) := propext (by omega)
  have e3 : (n - 1 - i = n - 3 - j + 2) = (i = j) := propext (by omega)
  simp only [e1, e2, e3]
  -- the outer two conditions exclude each other and carry the same value
  by_cases h0 : i = j
  · subst h0; simp
  by_cases h2 : i = j + 2
  · subst h2; simp
  rw [if_neg h0, if_neg h2]
  split_ifs <;> rfl

theorem DtD_reflect (n : ℕ) (z : ℕ → α) (i : ℕ) (hi : i < n) :
    DtD n (fun k => z (n - 1 - k)) i = DtD n z (n - 1 - i) := by
  unfold DtD
  rw [← Finset.sum_range_reflect (fun j => Dmat j (n - 1 - i) * D2 z j) (n - 2)]
  apply Finset.sum_congr rfl
  intro j hj
  have hj' : j + 2 < n := by have := mem_range.1 hj; omega
  have e0 : n - 2 - 1 - j = n - 3 - j := by omega
  rw [e0, ← Dmat_reflect n j i hj' hi]
  congr 1
  simp only [D2]
  have i1 : n - 1 - (j + 1) = n - 3 - j + 1 := by omega
  have i2 : n - 1 - (j + 2) = n - 3 - j := by omega
  have i3 : n - 1 - j = n - 3 - j + 2 := by omega
  rw [i1, i2, i3]; ring

variable {y w : List α} {lam : α}

/-! ### 7. straight lines are reproduced (gap filling on the same line) -/

theorem ws2d_affine (h : InContract y w lam) (a b : α)
    (hy : ∀ i, fn w i ≠ 0 → fn y i = a + b * (i : α)) :
    ∀ i < y.length, fn (ws2d y lam w) i = a + b * (i : α) := by
  have hN : NormalEq y.length (fn y) (fn w) lam (fun k => a + b * (k : α)) := by
    intro i _
    rw [DtD_affine]
    by_cases h0 : fn w i = 0
    · rw [h0]; simp
    · rw [hy i h0]; simp
  intro i hi
  exact (ws2d_unique h _ hN i hi).symm

/-! ### 8. shift -/

theorem InContract.map (h : InContract y w lam) (f : α → α) : InContract (y.map f) w lam where
  len := by simpa using h.len
  wlen := by simpa using h.wlen
  lam_pos := h.lam_pos
  w_nonneg := h.w_nonneg
  two_pos := h.two_pos

theorem ws2d_shift (h : InContract y w lam) (c : α) :
    ws2d (y.map (· + c)) lam w = (ws2d y lam w).map (· + c) :=
  Ws2d.map_affine y w lam 1 c _ (fun t => by rw [one_mul]) h.wlen (ws2d_normal_eq h)
    (ws2d_unique (h.map _))

theorem ws2d_shift_fn (h : InContract y w lam) (c : α) :
    ∀ i < y.length, fn (ws2d (y.map (· + c)) lam w) i = fn (ws2d y lam w) i + c := by
  intro i hi
  rw [ws2d_shift h c, fn_map_of_lt _ _ _ (by rwa [ws2d_length _ _ _ h.wlen])]

/-! ### 10. scaling -/

theorem ws2d_scale (h : InContract y w lam) (a : α) :
    ws2d (y.map (a * ·)) lam w = (ws2d y lam w).map (a * ·) :=
  Ws2d.map_affine y w lam a 0 _ (fun _ => (add_zero _).symm) h.wlen (ws2d_normal_eq h)
    (ws2d_unique (h.map _))

theorem ws2d_scale_fn (h : InContract y w lam) (a : α) :
    ∀ i < y.length, fn (ws2d (y.map (a * ·)) lam w) i = a * fn (ws2d y lam w) i := by
  intro i hi
  rw [ws2d_scale h a, fn_map_of_lt _ _ _ (by rwa [ws2d_length _ _ _ h.wlen])]

/-! ### 9. reversal -/

theorem InContract.reverse (h : InContract y w lam) : InContract y.reverse w.reverse lam where
  len := by simpa using h.len
  wlen := by simpa using h.wlen
  lam_pos := h.lam_pos
  w_nonneg := fun x hx => h.w_nonneg x (List.mem_reverse.1 hx)
  two_pos := by
    obtain ⟨p, q, hpq, hq, hwp, hwq⟩ := h.two_pos
    refine ⟨w.length - 1 - q, w.length - 1 - p, by omega, by simp; omega, ?_, ?_⟩
    · rw [fn_reverse_of_lt _ _ (by omega)]
      have : w.length - 1 - (w.length - 1 - q) = q := by omega
      rwa [this]
    · rw [fn_reverse_of_lt _ _ (by omega)]
      have : w.length - 1 - (w.length - 1 - p) = p := by omega
      rwa [this]

theorem ws2d_reverse_fn (h : InContract y w lam) :
    ∀ i < y.length,
      fn (ws2d y.reverse lam w.reverse) i = fn (ws2d y lam w) (y.length - 1 - i) := by
  have h' := h.reverse
  have hN : NormalEq y.reverse.length (fn y.reverse) (fn w.reverse) lam
      (fun k => fn (ws2d y lam w) (y.length - 1 - k)) := by
    intro i hi
    have hi' : i < y.length := by simpa using hi
    rw [List.length_reverse, DtD_reflect _ _ _ hi', fn_reverse_of_lt _ _ hi',
      fn_reverse_of_lt _ _ (by rw [h.wlen]; exact hi'), h.wlen]
    exact ws2d_normal_eq h (y.length - 1 - i) (by omega)
  intro i hi
  exact (ws2d_unique h' _ hN i (by simpa using hi)).symm

theorem ws2d_reverse (h : InContract y w lam) :
    ws2d y.reverse lam w.reverse = (ws2d y lam w).reverse := by
  have l1 : (ws2d y.reverse lam w.reverse).length = y.length := by
    rw [ws2d_length _ _ _ (by simpa using h.wlen)]; simp
  have l2 : (ws2d y lam w).length = y.length := ws2d_length _ _ _ h.wlen
  apply list_eq_of_fn _ _ (by rw [l1, List.length_reverse, l2])
  intro i hi
  rw [l1] at hi
  rw [ws2d_reverse_fn h i hi, fn_reverse_of_lt _ _ (by rw [l2]; exact hi), l2]

end Hdc.C01
