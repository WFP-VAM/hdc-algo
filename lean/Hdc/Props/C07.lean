import Hdc.Lemmas.SpiBasic
import Hdc.Lemmas.SpiFit
import Hdc.Lemmas.SpiExample
import Mathlib.Tactic.NormNum
/-
C07  SPI equals the gamma-MLE / zero-mixture / normal-quantile definition.
     (The special functions log, sqrt, digamma-root, gammainc, ndtri are the parameters `GamFns`;
      the carrier is any linearly ordered field.)

FORMAL STATEMENTS (all proved below, namespace `Hdc.C07`)

 1. gammastd_refines_spec   gammastd F x nodata cs ce = SpiSpec F x nodata cs ce
      where SpiSpec is the declarative definition: a cell is `some (ndtri (p0 + (1-p0)·gammainc a (v/b)))` iff the series is
      `Fittable` and the cell is valid (≠ nodata, ≥ 0), else `none`; p0 = #zeros/#valid; (a, b) from the positive cells with
      index in [cs, ce) by Thom's estimate and the root of `log a − digamma a − s` in [0.6·a_est, 1.4·a_est]; b = mean / a.
    gammastd_all_nodata_iff  (corollary) all four "all nodata" exits, as an iff with ¬Fittable (for a series with a valid cell)
    gammafit_scale_ne_zero   β = 0 never happens on its own (the `beta == 0` test of the source is implied by `alpha == 0`)
 2. gammafit_positive_only  gammafit F x = gammafit F (x.filter (0 < ·))
    gammafit_perm           invariant under permutation of the positive entries
    gammafit_window         gammafit F ((x.drop cs).take (ce − cs)) = fitSpec F x cs ce   (sums over {k | cs ≤ k < ce ∧ 0 < x[k]})
    gammafit_window_congr   two series that agree on the indices cs ≤ k < ce give the same fit
 3. gammafit_scale_of_root  (gammafit F x).1 ≠ 0 → (gammafit F x).1 * (gammafit F x).2 = mean of the positive entries
    gammafit_shape_is_root  (gammafit F x).1 ≠ 0 → it is the value `F.root (0.6 a_est) (1.4 a_est) s`
 4. Brent (f arbitrary; invariants `TopInv` = top of the loop body, `MidInv` = after re-bracketing):
    brentq_no_sign_change      0 < f xa · f xb → brentq = 0
    brentq_endpoint_roots      f xa = 0 → xa ;  f xa ≠ 0 → f xb = 0 → xb
    brentq_enters_loop         f xa · f xb < 0 → brentq = brentLoop … init  ∧  TopInv f init
    brentBracket_inv           sign change between (xpre,xcur) or (xblk,xcur) ⇒ after: fblk·fcur ≤ 0 ∧ |fcur| ≤ |fblk|
    brentBracket_midInv        TopInv f s → MidInv f (brentBracket s)
    brentStep_inl / brentStep_inr  what the two exits of one pass return
    brentStep_inv              TopInv f s → brentStep … s = .inr s' → TopInv f s'
    brentLoop_returns_bracketed, brentq_returns_bracketed
                               the returned r always has a y with f y · f r ≤ 0, and either `Converged` (f r = 0, or such a y with
                               |y − r|/2 < delta(r)) or the loop used up its `maxiter` passes (`RunsOut`)
-/
set_option linter.unusedSectionVars false
namespace Hdc.C07
open Hdc.Spi Finset

variable {α : Type} [Field α] [LinearOrder α] [IsStrictOrderedRing α]

/-! ## Specification (written without reference to the program) -/

/-- a cell takes part: it is not the nodata marker and not negative -/
def Valid (nodata v : α) : Prop := v ≠ nodata ∧ 0 ≤ v

/-- number of valid cells / of valid cells that are zero -/
def nValid (x : List α) (nodata : α) : ℕ := (x.filter fun v => v ≠ nodata ∧ 0 ≤ v).length
def nZero (x : List α) (nodata : α) : ℕ := (x.filter fun v => v ≠ nodata ∧ v = 0).length

/-- probability of zero -/
def zeroProb (x : List α) (nodata : α) : α := (nZero x nodata : α) / (nValid x nodata : α)

/-- the calibration cells: positive cells with index in `[cs, ce)` -/
def calCells (x : List α) (cs ce : ℕ) : Finset ℕ :=
  (Finset.range x.length).filter fun k => cs ≤ k ∧ k < ce ∧ 0 < x.getD k 0

/-- their mean -/
def calMean (x : List α) (cs ce : ℕ) : α :=
  (∑ k ∈ calCells x cs ce, x.getD k 0) / ((calCells x cs ce).card : α)

/-- `s = log(mean) − mean(log)` -/
def calS (F : GamFns α) (x : List α) (cs ce : ℕ) : α :=
  F.log (calMean x cs ce) - (∑ k ∈ calCells x cs ce, F.log (x.getD k 0)) / ((calCells x cs ce).card : α)

/-- Thom's estimate of the shape -/
def thom (F : GamFns α) (s : α) : α := (3 - s + F.sqrt ((s - 3) ^ 2 + 24 * s)) / (12 * s)

/-- the MLE shape: root of `log a − digamma a − s` in `[(1 − 0.4)·a_est, (1 + 0.4)·a_est]` (0 = none) -/
def shapeOf (F : GamFns α) (s : α) : α :=
  F.root (thom F s * (1 - F.c04)) (thom F s * (1 + F.c04)) s

def calShape (F : GamFns α) (x : List α) (cs ce : ℕ) : α := shapeOf F (calS F x cs ce)
def calScale (F : GamFns α) (x : List α) (cs ce : ℕ) : α := calMean x cs ce / calShape F x cs ce

/-- the fit as `gammafit` reports it: `(0,0)` = not fittable -/
def fitSpec (F : GamFns α) (x : List α) (cs ce : ℕ) : α × α :=
  if (calCells x cs ce).card = 0 ∨ calS F x cs ce = 0 ∨ calShape F x cs ce = 0 then (0, 0)
  else (calShape F x cs ce, calScale F x cs ce)

/-- the series can be standardised -/
def Fittable (F : GamFns α) (x : List α) (nodata : α) (cs ce : ℕ) : Prop :=
  nValid x nodata ≠ 0 ∧ ¬ F.c09 < zeroProb x nodata ∧ (calCells x cs ce).card ≠ 0 ∧
    calS F x cs ce ≠ 0 ∧ calShape F x cs ce ≠ 0

instance (F : GamFns α) (x : List α) (nodata : α) (cs ce : ℕ) :
    Decidable (Fittable F x nodata cs ce) := by unfold Fittable; infer_instance

/-- the standardised value of a valid observation `v` -/
def spiValue (F : GamFns α) (x : List α) (nodata : α) (cs ce : ℕ) (v : α) : α :=
  F.ndtri (zeroProb x nodata +
    (1 - zeroProb x nodata) * F.gammainc (calShape F x cs ce) (v / calScale F x cs ce))

/-- the SPI of a series, declaratively -/
def SpiSpec (F : GamFns α) (x : List α) (nodata : α) (cs ce : ℕ) : List (Option α) :=
  x.map fun v =>
    if Fittable F x nodata cs ce ∧ v ≠ nodata ∧ 0 ≤ v then some (spiValue F x nodata cs ce v) else none

/-! ## Bridges between the model-side counts / sums and the specification -/

theorem calCells_eq (x : List α) (cs ce : ℕ) : calCells x cs ce = winIdx x cs ce := rfl

theorem nValid_eq (x : List α) (nodata : α) : cntValid x nodata = nValid x nodata := by
  unfold cntValid nValid; rw [List.countP_eq_length_filter]

theorem nZero_eq (x : List α) (nodata : α) : cntZero x nodata = nZero x nodata := by
  unfold cntZero nZero; rw [List.countP_eq_length_filter]

theorem calMean_eq (x : List α) (cs ce : ℕ) :
    lmean (positives (slice x cs ce)) = calMean x cs ce := by
  rw [lmean_slice]; rfl

theorem calS_eq (F : GamFns α) (x : List α) (cs ce : ℕ) :
    lS F (positives (slice x cs ce)) = calS F x cs ce := by
  rw [lS_slice]; rfl

theorem shapeOf_eq (F : GamFns α) (s : α) : lRoot F s = shapeOf F s := by
  unfold lRoot shapeOf lAest thom; rw [pow_two]

/-! ## 2. what the fit depends on -/

/-- only the positive entries matter -/
theorem gammafit_positive_only (F : GamFns α) (x : List α) :
    gammafit F x = gammafit F (x.filter fun v => 0 < v) :=
  gammafit_positives F x

/-- … and not their order -/
theorem gammafit_perm (F : GamFns α) (x y : List α)
    (h : (x.filter fun v => 0 < v).Perm (y.filter fun v => 0 < v)) :
    gammafit F x = gammafit F y :=
  Spi.gammafit_perm F x y h

/-- the fit over the slice `x[cs:ce]` uses exactly the cells with `cs ≤ index < ce` -/
theorem gammafit_window (F : GamFns α) (x : List α) (cs ce : ℕ) :
    gammafit F ((x.drop cs).take (ce - cs)) = fitSpec F x cs ce := by
  have hcases := gammafit_cases F (slice x cs ce)
  rw [slice_positives_length, calS_eq, calMean_eq, shapeOf_eq, ← calCells_eq] at hcases
  unfold fitSpec calScale calShape
  rcases hcases with ⟨hc, hfit⟩ | ⟨h1, h2, h3, hfit⟩
  · rw [if_pos hc]; exact hfit
  · rw [if_neg (by rintro (h | h | h) <;> contradiction)]; exact hfit

/-- series that agree inside the window have the same fit -/
theorem gammafit_window_congr (F : GamFns α) (x y : List α) (cs ce : ℕ)
    (h : ∀ k, cs ≤ k → k < ce → x[k]? = y[k]?) :
    gammafit F ((x.drop cs).take (ce - cs)) = gammafit F ((y.drop cs).take (ce - cs)) := by
  congr 1
  apply List.ext_getElem?
  intro i
  rw [List.getElem?_take, List.getElem?_take]
  split_ifs with hi
  · rw [List.getElem?_drop, List.getElem?_drop]
    exact h _ (by omega) (by omega)
  · rfl

/-! ## 3. the MLE mean equation -/

/-- when a shape is found, shape · scale = mean of the positive entries -/
theorem gammafit_scale_of_root (F : GamFns α) (x : List α) (ha : (gammafit F x).1 ≠ 0) :
    (gammafit F x).1 * (gammafit F x).2 =
      (x.filter fun v => 0 < v).sum / ((x.filter fun v => 0 < v).length : α) ∧
    (gammafit F x).2 = (x.filter fun v => 0 < v).sum / ((x.filter fun v => 0 < v).length : α)
      / (gammafit F x).1 := by
  rcases gammafit_cases F x with ⟨_, hfit⟩ | ⟨h1, h2, h3, hfit⟩
  · rw [hfit] at ha; exact absurd rfl ha
  · rw [hfit]
    simp only
    refine ⟨?_, rfl⟩
    rw [mul_div_cancel₀ _ h3]; rfl

/-- … and the shape is the value returned by the root finder on Thom's bracket -/
theorem gammafit_shape_is_root (F : GamFns α) (x : List α) (cs ce : ℕ)
    (ha : (gammafit F ((x.drop cs).take (ce - cs))).1 ≠ 0) :
    (gammafit F ((x.drop cs).take (ce - cs))).1 = shapeOf F (calS F x cs ce) ∧
    (gammafit F ((x.drop cs).take (ce - cs))).2 = calMean x cs ce / shapeOf F (calS F x cs ce) := by
  rw [gammafit_window] at ha ⊢
  unfold fitSpec at ha ⊢
  split_ifs at ha ⊢ with hc
  · exact absurd rfl ha
  · exact ⟨rfl, rfl⟩

/-- the mean of the calibration cells is positive, hence the scale never vanishes on its own -/
theorem calMean_pos (x : List α) (cs ce : ℕ) (h : (calCells x cs ce).card ≠ 0) :
    0 < calMean x cs ce := by
  rw [← calMean_eq]
  apply lmean_positives_pos
  rw [slice_positives_length]; exact h

theorem gammafit_scale_ne_zero (F : GamFns α) (x : List α) (ha : (gammafit F x).1 ≠ 0) :
    (gammafit F x).2 ≠ 0 := by
  rcases gammafit_cases F x with ⟨_, hfit⟩ | ⟨h1, h2, h3, hfit⟩
  · rw [hfit] at ha; exact absurd rfl ha
  · rw [hfit]
    exact div_ne_zero (ne_of_gt (lmean_positives_pos x h1)) h3

/-! ## 1. the kernel computes the specification -/

theorem gammastd_refines_spec (F : GamFns α) (x : List α) (nodata : α) (cs ce : ℕ) :
    gammastd F x nodata cs ce = SpiSpec F x nodata cs ce := by
  rw [gammastd_eq, nValid_eq, nZero_eq, show slice x cs ce = (x.drop cs).take (ce - cs) from rfl, gammafit_window]
  unfold SpiSpec fitSpec
  by_cases hf : Fittable F x nodata cs ce
  · obtain ⟨h1, h2, h3, h4, h5⟩ := hf
    unfold zeroProb at h2
    have hb : calScale F x cs ce ≠ 0 := div_ne_zero (calMean_pos x cs ce h3).ne' h5
    rw [if_neg h1, if_neg h2, if_neg (not_or.2 ⟨h3, not_or.2 ⟨h4, h5⟩⟩), if_neg (not_or.2 ⟨h5, hb⟩)]
    apply List.map_congr_left
    intro v _
    by_cases hv1 : v = nodata
    · rw [if_pos hv1, if_neg (by rintro ⟨_, h, _⟩; exact h hv1)]
    rw [if_neg hv1]
    by_cases hv2 : v < 0
    · rw [if_pos hv2, if_neg (by rintro ⟨_, _, h⟩; exact not_le.2 hv2 h)]
    · rw [if_neg hv2, if_pos ⟨⟨h1, h2, h3, h4, h5⟩, hv1, not_lt.1 hv2⟩]
      rfl
  · -- every exit of the kernel yields the all-nodata series, and so does the specification
    refine Eq.trans ?_ (List.map_congr_left fun v _ => (if_neg fun h => hf h.1).symm)
    split_ifs with c1 c2 c3 c4 c4
    · rfl
    · rfl
    · rfl
    · exact absurd (Or.inl rfl) c4
    · rfl
    · exact absurd ⟨c1, c2, fun h => c3 (Or.inl h), fun h => c3 (Or.inr (Or.inl h)), fun h => c3 (Or.inr (Or.inr h))⟩ hf

/-- cell form -/
theorem gammastd_cell (F : GamFns α) (x : List α) (nodata : α) (cs ce : ℕ) (k : ℕ)
    (hk : k < x.length) :
    (gammastd F x nodata cs ce)[k]? =
      some (if Fittable F x nodata cs ce ∧ x[k] ≠ nodata ∧ 0 ≤ x[k]
        then some (spiValue F x nodata cs ce x[k]) else none) := by
  rw [gammastd_refines_spec]
  unfold SpiSpec
  rw [List.getElem?_map, List.getElem?_eq_getElem hk]; rfl

/-- a series with a valid cell count has a valid cell -/
theorem exists_valid_of_nValid_ne_zero (x : List α) (nodata : α) (h : nValid x nodata ≠ 0) :
    ∃ v ∈ x, v ≠ nodata ∧ 0 ≤ v := by
  obtain ⟨v, hv⟩ := List.exists_mem_of_length_pos (Nat.pos_of_ne_zero h)
  obtain ⟨hm, hp⟩ := List.mem_filter.1 hv
  exact ⟨v, hm, by simpa using hp⟩

/-- the four "all nodata" exits (no valid cell; p0 > 0.9; no positive calibration cell or s = 0;
    no root) are exactly the failures of `Fittable` -/
theorem gammastd_all_nodata_iff (F : GamFns α) (x : List α) (nodata : α) (cs ce : ℕ) :
    (∀ c ∈ gammastd F x nodata cs ce, c = none) ↔ ¬ Fittable F x nodata cs ce := by
  rw [gammastd_refines_spec]
  unfold SpiSpec
  constructor
  · intro h hf
    obtain ⟨v, hv, hv1, hv2⟩ := exists_valid_of_nValid_ne_zero x nodata hf.1
    have := h _ (List.mem_map.mpr ⟨v, hv, rfl⟩)
    rw [if_pos ⟨hf, hv1, hv2⟩] at this
    simp at this
  · intro hf c hc
    obtain ⟨v, _, rfl⟩ := List.mem_map.mp hc
    rw [if_neg (fun h => hf h.1)]

/-! ## 4. Brent's root finder (`brentq`) -/

/-- the state the loop starts from -/
def brentInit (f : α → α) (xa xb : α) : BState α := ⟨xa, xb, 0, f xa, f xb, 0, 0, 0⟩

/-- invariant at the top of the loop body: the cached values are values of `f`, and there is a
    sign change either between `xpre` and `xcur` (strict) or between `xblk` and `xcur` -/
def TopInv (f : α → α) (s : BState α) : Prop :=
  s.fpre = f s.xpre ∧ s.fcur = f s.xcur ∧
    (s.fpre * s.fcur < 0 ∨ (s.fblk = f s.xblk ∧ s.fblk * s.fcur ≤ 0))

/-- invariant after re-bracketing: `xblk`, `xcur` bracket a sign change and `xcur` is the better
    of the two -/
def MidInv (f : α → α) (s : BState α) : Prop :=
  s.fpre = f s.xpre ∧ s.fcur = f s.xcur ∧ s.fblk = f s.xblk ∧
    s.fblk * s.fcur ≤ 0 ∧ |s.fcur| ≤ |s.fblk|

/-- the tolerance used at the point `x` -/
def brentDelta (xtol rtol x : α) : α := (xtol + rtol * |x|) / 2

/-- the converged exit: `r` is a root, or a sign change of `f` lies within `2·delta` of `r` -/
def Converged (f : α → α) (xtol rtol r : α) : Prop :=
  f r = 0 ∨ ∃ y, f y * f r ≤ 0 ∧ |y - r| / 2 < brentDelta xtol rtol r

/-- the loop uses up `k` iterations without reaching the converged exit -/
def RunsOut (f : α → α) (xtol rtol : α) : ℕ → BState α → Prop
  | 0, _ => True
  | k + 1, s => ∃ s', brentStep f xtol rtol s = .inr s' ∧ RunsOut f xtol rtol k s'

theorem brentq_no_sign_change (f : α → α) (xtol rtol : α) (maxiter : ℕ) (xa xb : α)
    (h : 0 < f xa * f xb) : brentq f xtol rtol maxiter xa xb = 0 := by
  unfold brentq
  simp only [nat_zero]
  rw [if_pos h]

theorem brentq_endpoint_roots (f : α → α) (xtol rtol : α) (maxiter : ℕ) (xa xb : α) :
    (f xa = 0 → brentq f xtol rtol maxiter xa xb = xa) ∧
    (f xa ≠ 0 → f xb = 0 → brentq f xtol rtol maxiter xa xb = xb) := by
  unfold brentq
  simp only [nat_zero, eqv_iff]
  constructor
  · intro h
    rw [if_neg (by rw [h, zero_mul]; exact lt_irrefl 0), if_pos h]
  · intro ha hb
    rw [if_neg (by rw [hb, mul_zero]; exact lt_irrefl 0), if_neg ha, if_pos hb]

/-- otherwise the loop is entered, from a state that satisfies the invariant -/
theorem brentq_enters_loop (f : α → α) (xtol rtol : α) (maxiter : ℕ) (xa xb : α)
    (h : f xa * f xb < 0) :
    brentq f xtol rtol maxiter xa xb = brentLoop f xtol rtol maxiter (brentInit f xa xb) ∧
    TopInv f (brentInit f xa xb) := by
  have ha := left_ne_zero_of_mul h.ne
  have hb := right_ne_zero_of_mul h.ne
  constructor
  · unfold brentq brentInit
    simp only [nat_zero, eqv_iff]
    rw [if_neg (not_lt.mpr (le_of_lt h)), if_neg ha, if_neg hb]
  · exact ⟨rfl, rfl, Or.inl h⟩

/-- re-bracketing, sign part only (no reference to `f`) -/
theorem brentBracket_inv (s : BState α)
    (h : s.fpre * s.fcur < 0 ∨ s.fblk * s.fcur ≤ 0) :
    (brentBracket s).fblk * (brentBracket s).fcur ≤ 0 ∧
    |(brentBracket s).fcur| ≤ |(brentBracket s).fblk| := by
  unfold brentBracket
  simp only [nat_zero, absv_eq]
  split_ifs with h1 h2 h2
  · exact ⟨by rw [mul_comm]; exact h1.le, h2.le⟩
  · exact ⟨h1.le, not_lt.mp h2⟩
  · exact ⟨by rw [mul_comm]; exact h.resolve_left h1, h2.le⟩
  · exact ⟨h.resolve_left h1, not_lt.mp h2⟩

/-- re-bracketing establishes the mid-loop invariant -/
theorem brentBracket_midInv (f : α → α) (s : BState α) (h : TopInv f s) :
    MidInv f (brentBracket s) := by
  obtain ⟨hp, hc, hs⟩ := h
  have hsign := brentBracket_inv s (hs.imp id And.right)
  unfold brentBracket at hsign ⊢
  simp only [nat_zero, absv_eq] at hsign ⊢
  -- the four outcomes: `xblk := xpre` or not, then `xcur` and `xblk` swapped or not
  split_ifs at hsign ⊢ with h1 h2 h2
  · exact ⟨hc, hp, hc, hsign⟩
  · exact ⟨hp, hc, hp, hsign⟩
  · exact ⟨hc, (hs.resolve_left h1).1, hc, hsign⟩
  · exact ⟨hp, hc, (hs.resolve_left h1).1, hsign⟩

theorem brentChoose_fields (s : BState α) (d b : α) :
    (brentChoose s d b).xpre = s.xpre ∧ (brentChoose s d b).xcur = s.xcur ∧
    (brentChoose s d b).xblk = s.xblk ∧ (brentChoose s d b).fpre = s.fpre ∧
    (brentChoose s d b).fcur = s.fcur ∧ (brentChoose s d b).fblk = s.fblk := by
  unfold brentChoose
  split_ifs <;> exact ⟨rfl, rfl, rfl, rfl, rfl, rfl⟩

/-- the converged exit of one pass -/
theorem brentStep_inl (f : α → α) (xtol rtol : α) (s : BState α) (x : α)
    (h : brentStep f xtol rtol s = .inl x) :
    x = (brentBracket s).xcur ∧
    ((brentBracket s).fcur = 0 ∨
      |(brentBracket s).xblk - x| / 2 < brentDelta xtol rtol x) := by
  unfold brentStep at h
  simp only [nat_zero, absv_eq, eqv_iff] at h
  split_ifs at h with hc
  · have hx : (brentBracket s).xcur = x := by injection h
    subst hx
    refine ⟨rfl, hc.imp id (fun h => ?_)⟩
    simpa [brentDelta, nat_eq, abs_div] using h

/-- the continuing exit of one pass -/
theorem brentStep_inr (f : α → α) (xtol rtol : α) (s s' : BState α)
    (h : brentStep f xtol rtol s = .inr s') :
    (brentBracket s).fcur ≠ 0 ∧
    s'.xpre = (brentBracket s).xcur ∧ s'.fpre = (brentBracket s).fcur ∧
    s'.xblk = (brentBracket s).xblk ∧ s'.fblk = (brentBracket s).fblk ∧
    s'.fcur = f s'.xcur := by
  unfold brentStep at h
  simp only [nat_zero, absv_eq, eqv_iff] at h
  split at h
  · cases h
  · next hc =>
    have hs := Sum.inr.inj h
    have hne : (brentBracket s).fcur ≠ 0 := fun h0 => hc (Or.inl h0)
    obtain ⟨_, h2, h3, _, h5, h6⟩ := brentChoose_fields (brentBracket s)
      ((xtol + rtol * |(brentBracket s).xcur|) / nat 2)
      (((brentBracket s).xblk - (brentBracket s).xcur) / nat 2)
    rw [← hs]
    exact ⟨hne, h2, h5, h3, h6, rfl⟩

/-- the loop invariant is preserved by a continuing pass -/
theorem brentStep_inv (f : α → α) (xtol rtol : α) (s s' : BState α) (hinv : TopInv f s)
    (h : brentStep f xtol rtol s = .inr s') : TopInv f s' := by
  obtain ⟨hne, h1, h2, h3, h4, h5⟩ := brentStep_inr f xtol rtol s s' h
  obtain ⟨_, mc, mb, msign, _⟩ := brentBracket_midInv f s hinv
  refine ⟨by rw [h2, h1, mc], h5, ?_⟩
  rw [h2, h4, h3]
  by_cases hB : (brentBracket s).fblk * s'.fcur ≤ 0
  · exact Or.inr ⟨mb, hB⟩
  · left
    have hBN := not_le.mp hB
    have hBC : (brentBracket s).fblk * (brentBracket s).fcur < 0 :=
      lt_of_le_of_ne msign (mul_ne_zero (left_ne_zero_of_mul hBN.ne') hne)
    -- (blk·cur)·(blk·new) < 0 reads blk²·(cur·new) < 0
    refine neg_of_mul_neg_right (a := (brentBracket s).fblk * (brentBracket s).fblk) ?_ (mul_self_nonneg _)
    calc _ = ((brentBracket s).fblk * (brentBracket s).fcur) * ((brentBracket s).fblk * s'.fcur) := by ring
      _ < 0 := mul_neg_of_neg_of_pos hBC hBN

/-- a state satisfying the invariant always carries a sign change next to `xcur` -/
theorem topInv_bracketed (f : α → α) (s : BState α) (h : TopInv f s) :
    ∃ y, f y * f s.xcur ≤ 0 := by
  obtain ⟨hp, hc, hs | ⟨hb, hs⟩⟩ := h
  · exact ⟨s.xpre, by rw [← hp, ← hc]; exact le_of_lt hs⟩
  · exact ⟨s.xblk, by rw [← hb, ← hc]; exact hs⟩

/-- the loop: from a state satisfying the invariant, the returned value always has a sign change
    of `f` next to it, and it either comes from the converged exit (root, or sign change within
    `2·delta`) or the iteration budget was used up -/
theorem brentLoop_returns_bracketed (f : α → α) (xtol rtol : α) :
    ∀ (k : ℕ) (s : BState α), TopInv f s →
      (∃ y, f y * f (brentLoop f xtol rtol k s) ≤ 0) ∧
      (Converged f xtol rtol (brentLoop f xtol rtol k s) ∨ RunsOut f xtol rtol k s)
  | 0, s, h => by
    unfold brentLoop
    exact ⟨topInv_bracketed f s h, Or.inr trivial⟩
  | k + 1, s, h => by
    unfold brentLoop
    cases hstep : brentStep f xtol rtol s with
    | inl x =>
      simp only
      obtain ⟨hx, hconv⟩ := brentStep_inl f xtol rtol s x hstep
      obtain ⟨_, mc, mb, msign, _⟩ := brentBracket_midInv f s h
      have hsign : f (brentBracket s).xblk * f x ≤ 0 := by rw [hx, ← mb, ← mc]; exact msign
      refine ⟨⟨_, hsign⟩, Or.inl ?_⟩
      rcases hconv with h0 | hd
      · left; rw [hx, ← mc]; exact h0
      · right; exact ⟨_, hsign, hd⟩
    | inr s' =>
      simp only
      have hinv' := brentStep_inv f xtol rtol s s' h hstep
      obtain ⟨h1, h2⟩ := brentLoop_returns_bracketed f xtol rtol k s' hinv'
      exact ⟨h1, h2.imp id (fun hr => ⟨s', hstep, hr⟩)⟩

/-- `brentq` on a bracket with a sign change: the returned value has a sign change of `f` next to
    it; and it is a root, or a sign change lies within `2·delta` of it, unless `maxiter` passes
    were not enough -/
theorem brentq_returns_bracketed (f : α → α) (xtol rtol : α) (maxiter : ℕ) (xa xb : α)
    (h : f xa * f xb ≤ 0) :
    (∃ y, f y * f (brentq f xtol rtol maxiter xa xb) ≤ 0) ∧
    (Converged f xtol rtol (brentq f xtol rtol maxiter xa xb) ∨
      RunsOut f xtol rtol maxiter (brentInit f xa xb)) := by
  by_cases ha : f xa = 0
  · rw [(brentq_endpoint_roots f xtol rtol maxiter xa xb).1 ha]
    exact ⟨⟨xa, by rw [ha, zero_mul]⟩, Or.inl (Or.inl ha)⟩
  · by_cases hb : f xb = 0
    · rw [(brentq_endpoint_roots f xtol rtol maxiter xa xb).2 ha hb]
      exact ⟨⟨xb, by rw [hb, zero_mul]⟩, Or.inl (Or.inl hb)⟩
    · have hlt : f xa * f xb < 0 := lt_of_le_of_ne h (mul_ne_zero ha hb)
      obtain ⟨heq, hinv⟩ := brentq_enters_loop f xtol rtol maxiter xa xb hlt
      rw [heq]
      exact brentLoop_returns_bracketed f xtol rtol maxiter _ hinv

/-! ## Non-vacuity -/

example : gammastd Fex xex (-9999) 0 5 = [some 1, some (7/3), some (1/3), none, none] := by
  decide +kernel
example : Fittable Fex xex (-9999) 0 5 := by decide +kernel
example : SpiSpec Fex xex (-9999) 0 5 = [some 1, some (7/3), some (1/3), none, none] := by
  decide +kernel
example : fitSpec Fex xex 0 5 = (2, 1) := by decide +kernel
example : gammafit Fex xex = (2, 1) := by decide +kernel
/-- the window matters: calibrating on `[0,1)` only sees the cell `1`, for which `s = 0` -/
example : gammastd Fex xex (-9999) 0 1 = [none, none, none, none, none] := by decide +kernel
/-- p0 = 1 > 0.9 -/
example : gammastd Fex [0, 0, 0] (-9999) 0 3 = [none, none, none] := by decide +kernel
example : ¬ Fittable Fex [0, 0, 0] (-9999) 0 3 := by decide +kernel

/-! ## Non-vacuity (Brent) -/

example : brentq (fun x : ℚ => x - 1) (1/1000) (1/1000) 100 0 3 = 1 := by decide +kernel
/-- no sign change on the bracket -/
example : brentq (fun x : ℚ => x * x + 2) (1/1000) (1/1000) 100 0 3 = 0 := by decide +kernel
/-- the invariant's hypothesis is satisfiable: `x² − 2` changes sign on `[0, 3]` -/
example : TopInv (fun x : ℚ => x * x - 2) (brentInit (fun x : ℚ => x * x - 2) 0 3) :=
  (brentq_enters_loop (fun x : ℚ => x * x - 2) (1/1000) (1/1000) 100 0 3 (by norm_num)).2
/-- with a budget of 2 passes the loop runs out on that problem -/
example : brentq (fun x : ℚ => x * x - 2) (1/1000) (1/1000) 2 0 3 = 11 / 6 := by decide +kernel

end Hdc.C07
