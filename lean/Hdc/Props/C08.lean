import Hdc.Props.C07
import Mathlib.Order.Monotone.Basic
import Mathlib.Tactic.Linarith
/-
C08  SPI preserves ordering, saturates, never crashes.

FORMAL STATEMENTS (all proved below, namespace `Hdc.C08`)

 hypotheses on the special functions, always explicit:
     hG : ∀ a, Monotone (F.gammainc a)      hN : Monotone F.ndtri      hroot : ∀ xa xb s, 0 ≤ F.root xa xb s
 1. zeroProb_bounds        0 ≤ p0 ≤ 1  (derived, no hypothesis)
    calScale_pos           Fittable ∧ hroot → 0 < shape ∧ 0 < scale
    spiValue_monotone      Fittable → v ≤ w → spiValue v ≤ spiValue w
    gammastd_monotone      cells i, j both `some`: x_i ≤ x_j → value_i ≤ value_j
    gammastd_equal_inputs  x_i = x_j → cell_i = cell_j   (no hypothesis on F at all)
 2. spiScale_eq_clip       spiScale lo hi k v = min hi (max lo (v·k))   (for lo ≤ hi)
    spiScale_range         lo ≤ hi → lo ≤ spiScale lo hi k v ≤ hi
    spiScale_monotone      0 ≤ k → Monotone (spiScale lo hi k)
    spiCell_monotone       Monotone rnd, 0 ≤ k → v ≤ w → spiCell … (some v) ≤ spiCell … (some w)
    spiCell_range          Monotone rnd, lo ≤ hi → rnd lo ≤ spiCell … (some v) ≤ rnd hi   (saturation, no wrap)
    spi_index_monotone     end to end: the stored index is a non-decreasing function of the observation
 3. gammastd_length, gammastd_total (every cell is defined),
    gammastd_nodata_negative (nodata / negative cells are `none` in every branch),
    gammastd_valid_some (in a fittable series every valid cell is `some`),
    gammastd_unfittable (no valid cell, p0 > 0.9, no positive cell in the window, s = 0 or root = 0 → every cell `none`)
-/
set_option linter.unusedSectionVars false
namespace Hdc.C08
open Hdc.Spi Hdc.C07 Finset

variable {α : Type} [Field α] [LinearOrder α] [IsStrictOrderedRing α]

/-! ## Specification-side definitions -/

/-- saturation of `t` to the interval `[lo, hi]` -/
def clip (lo hi t : α) : α := min hi (max lo t)

/-! ## 2. scaling, saturation, rounding -/

theorem spiScale_eq_clip (lo hi k v : α) : spiScale lo hi k v = clip lo hi (v * k) := by
  unfold spiScale clip
  simp only
  split_ifs with h1 h2 h2
  · rw [max_eq_left h1.le, min_eq_left h2.le]
  · rw [max_eq_left h1.le, min_eq_right (not_lt.1 h2)]
  · rw [max_eq_right (not_lt.1 h1), min_eq_left h2.le]
  · rw [max_eq_right (not_lt.1 h1), min_eq_right (not_lt.1 h2)]

theorem spiScale_range (lo hi k v : α) (h : lo ≤ hi) :
    lo ≤ spiScale lo hi k v ∧ spiScale lo hi k v ≤ hi := by
  rw [spiScale_eq_clip]
  unfold clip
  exact ⟨le_min h (le_max_left _ _), min_le_left _ _⟩

theorem spiScale_monotone (lo hi k : α) (hk : 0 ≤ k) : Monotone (spiScale lo hi k) := by
  intro v w hvw
  rw [spiScale_eq_clip, spiScale_eq_clip]
  unfold clip
  exact min_le_min (le_refl _) (max_le_max (le_refl _) (mul_le_mul_of_nonneg_right hvw hk))

theorem spiCell_monotone (rnd : α → α) (hr : Monotone rnd) (lo hi k nodata : α) (hk : 0 ≤ k)
    (v w : α) (hvw : v ≤ w) :
    spiCell rnd lo hi k nodata (some v) ≤ spiCell rnd lo hi k nodata (some w) := by
  unfold spiCell
  exact hr (spiScale_monotone lo hi k hk hvw)

/-- saturation: the stored value never leaves `[rnd lo, rnd hi]` (= `[lo, hi]` when the limits
    are fixed points of the rounding, as the integers −32768 and 32767 are) -/
theorem spiCell_range (rnd : α → α) (hr : Monotone rnd) (lo hi k nodata : α) (h : lo ≤ hi) (v : α) :
    rnd lo ≤ spiCell rnd lo hi k nodata (some v) ∧ spiCell rnd lo hi k nodata (some v) ≤ rnd hi := by
  unfold spiCell
  exact ⟨hr (spiScale_range lo hi k v h).1, hr (spiScale_range lo hi k v h).2⟩

theorem spiCell_range' (rnd : α → α) (hr : Monotone rnd) (lo hi k nodata : α) (h : lo ≤ hi)
    (hlo : rnd lo = lo) (hhi : rnd hi = hi) (v : α) :
    lo ≤ spiCell rnd lo hi k nodata (some v) ∧ spiCell rnd lo hi k nodata (some v) ≤ hi := by
  have := spiCell_range rnd hr lo hi k nodata h v
  rw [hlo, hhi] at this; exact this

theorem spiCell_none (rnd : α → α) (lo hi k nodata : α) :
    spiCell rnd lo hi k nodata none = nodata := rfl

/-! ## 1. order preservation of the standardisation -/

theorem nZero_le_nValid (x : List α) (nodata : α) : nZero x nodata ≤ nValid x nodata := by
  unfold nZero nValid
  rw [← List.countP_eq_length_filter, ← List.countP_eq_length_filter]
  apply List.countP_mono_left
  intro v _ hv
  simp only [decide_eq_true_eq] at hv ⊢
  exact ⟨hv.1, le_of_eq hv.2.symm⟩

/-- the probability of zero is a probability -/
theorem zeroProb_bounds (x : List α) (nodata : α) :
    0 ≤ zeroProb x nodata ∧ zeroProb x nodata ≤ 1 := by
  unfold zeroProb
  have h1 : (0 : α) ≤ (nZero x nodata : α) := Nat.cast_nonneg _
  have h2 : (0 : α) ≤ (nValid x nodata : α) := Nat.cast_nonneg _
  have h3 : (nZero x nodata : α) ≤ (nValid x nodata : α) := by
    exact_mod_cast nZero_le_nValid x nodata
  exact ⟨div_nonneg h1 h2, div_le_one_of_le₀ h3 h2⟩

theorem calScale_pos (F : GamFns α) (hroot : ∀ xa xb s, 0 ≤ F.root xa xb s) (x : List α)
    (nodata : α) (cs ce : ℕ) (hf : Fittable F x nodata cs ce) :
    0 < calShape F x cs ce ∧ 0 < calScale F x cs ce := by
  have ha : 0 < calShape F x cs ce :=
    lt_of_le_of_ne (by unfold calShape shapeOf; exact hroot _ _ _) (Ne.symm hf.2.2.2.2)
  exact ⟨ha, div_pos (calMean_pos x cs ce hf.2.2.1) ha⟩

theorem spiValue_monotone (F : GamFns α) (hG : ∀ a, Monotone (F.gammainc a)) (hN : Monotone F.ndtri)
    (hroot : ∀ xa xb s, 0 ≤ F.root xa xb s) (x : List α) (nodata : α) (cs ce : ℕ)
    (hf : Fittable F x nodata cs ce) : Monotone (spiValue F x nodata cs ce) := by
  intro v w hvw
  unfold spiValue
  apply hN
  have hb := (calScale_pos F hroot x nodata cs ce hf).2
  have hp := (zeroProb_bounds x nodata).2
  have hdiv : v / calScale F x cs ce ≤ w / calScale F x cs ce :=
    div_le_div_of_nonneg_right hvw (le_of_lt hb)
  have hg := hG (calShape F x cs ce) hdiv
  have h1 : 0 ≤ 1 - zeroProb x nodata := by linarith
  have := mul_le_mul_of_nonneg_left hg h1
  linarith

/-- what a `some` cell tells -/
theorem cell_some (F : GamFns α) (x : List α) (nodata : α) (cs ce : ℕ) (i : ℕ) (hi : i < x.length)
    (v : α) (h : (gammastd F x nodata cs ce)[i]? = some (some v)) :
    Fittable F x nodata cs ce ∧ x[i] ≠ nodata ∧ 0 ≤ x[i] ∧ v = spiValue F x nodata cs ce x[i] := by
  rw [gammastd_cell F x nodata cs ce i hi] at h
  split_ifs at h with hc
  · simp only [Option.some.injEq] at h
    exact ⟨hc.1, hc.2.1, hc.2.2, h.symm⟩
  · simp at h

/-- within one series the standardised value is a non-decreasing function of the observation -/
theorem gammastd_monotone (F : GamFns α) (hG : ∀ a, Monotone (F.gammainc a)) (hN : Monotone F.ndtri)
    (hroot : ∀ xa xb s, 0 ≤ F.root xa xb s) (x : List α) (nodata : α) (cs ce : ℕ)
    (i j : ℕ) (hi : i < x.length) (hj : j < x.length) (vi vj : α)
    (hvi : (gammastd F x nodata cs ce)[i]? = some (some vi))
    (hvj : (gammastd F x nodata cs ce)[j]? = some (some vj))
    (hle : x[i] ≤ x[j]) : vi ≤ vj := by
  obtain ⟨hf, _, _, rfl⟩ := cell_some F x nodata cs ce i hi vi hvi
  obtain ⟨_, _, _, rfl⟩ := cell_some F x nodata cs ce j hj vj hvj
  exact spiValue_monotone F hG hN hroot x nodata cs ce hf hle

/-- equal observations get equal cells (whatever the special functions are) -/
theorem gammastd_equal_inputs (F : GamFns α) (x : List α) (nodata : α) (cs ce : ℕ)
    (i j : ℕ) (hi : i < x.length) (hj : j < x.length) (heq : x[i] = x[j]) :
    (gammastd F x nodata cs ce)[i]? = (gammastd F x nodata cs ce)[j]? := by
  rw [gammastd_cell F x nodata cs ce i hi, gammastd_cell F x nodata cs ce j hj, heq]

/-- end to end: the stored int16 index is a non-decreasing function of the observation -/
theorem spi_index_monotone (F : GamFns α) (hG : ∀ a, Monotone (F.gammainc a))
    (hN : Monotone F.ndtri) (hroot : ∀ xa xb s, 0 ≤ F.root xa xb s) (rnd : α → α)
    (hr : Monotone rnd) (lo hi k nd16 : α) (hk : 0 ≤ k) (x : List α) (nodata : α) (cs ce : ℕ)
    (i j : ℕ) (hil : i < x.length) (hjl : j < x.length) (vi vj : α)
    (hvi : (gammastd F x nodata cs ce)[i]? = some (some vi))
    (hvj : (gammastd F x nodata cs ce)[j]? = some (some vj))
    (hle : x[i] ≤ x[j]) :
    spiCell rnd lo hi k nd16 (some vi) ≤ spiCell rnd lo hi k nd16 (some vj) :=
  spiCell_monotone rnd hr lo hi k nd16 hk vi vj
    (gammastd_monotone F hG hN hroot x nodata cs ce i j hil hjl vi vj hvi hvj hle)

/-! ## 3. totality -/

theorem gammastd_length (F : GamFns α) (x : List α) (nodata : α) (cs ce : ℕ) :
    (gammastd F x nodata cs ce).length = x.length :=
  Spi.gammastd_length F x nodata cs ce

/-- every cell of the output is defined, whatever the input -/
theorem gammastd_total (F : GamFns α) (x : List α) (nodata : α) (cs ce : ℕ) (k : ℕ)
    (hk : k < x.length) : ∃ c, (gammastd F x nodata cs ce)[k]? = some c :=
  ⟨_, gammastd_cell F x nodata cs ce k hk⟩

/-- nodata cells and negative cells are `none` in every branch -/
theorem gammastd_nodata_negative (F : GamFns α) (x : List α) (nodata : α) (cs ce : ℕ) (k : ℕ)
    (hk : k < x.length) (h : x[k] = nodata ∨ x[k] < 0) :
    (gammastd F x nodata cs ce)[k]? = some none := by
  rw [gammastd_cell F x nodata cs ce k hk, if_neg]
  rintro ⟨_, h1, h2⟩
  rcases h with h | h
  · exact h1 h
  · exact absurd h (not_lt.mpr h2)

/-- in a fittable series every valid cell gets a value -/
theorem gammastd_valid_some (F : GamFns α) (x : List α) (nodata : α) (cs ce : ℕ) (k : ℕ)
    (hk : k < x.length) (hf : Fittable F x nodata cs ce) (h1 : x[k] ≠ nodata) (h2 : 0 ≤ x[k]) :
    (gammastd F x nodata cs ce)[k]? = some (some (spiValue F x nodata cs ce x[k])) := by
  rw [gammastd_cell F x nodata cs ce k hk, if_pos ⟨hf, h1, h2⟩]

/-- the unfittable cases: every cell is `none` -/
theorem gammastd_unfittable (F : GamFns α) (x : List α) (nodata : α) (cs ce : ℕ)
    (h : nValid x nodata = 0 ∨ F.c09 < zeroProb x nodata ∨ (calCells x cs ce).card = 0 ∨
      calS F x cs ce = 0 ∨ calShape F x cs ce = 0) :
    ∀ c ∈ gammastd F x nodata cs ce, c = none := by
  rw [gammastd_all_nodata_iff]
  rintro ⟨h1, h2, h3, h4, h5⟩
  rcases h with h | h | h | h | h <;> contradiction

/-- "no positive value in the window" in elementary terms -/
theorem calCells_card_eq_zero_iff (x : List α) (cs ce : ℕ) :
    (calCells x cs ce).card = 0 ↔ ∀ k (hk : k < x.length), cs ≤ k → k < ce → ¬ 0 < x[k] := by
  rw [Finset.card_eq_zero]
  unfold calCells
  rw [Finset.filter_eq_empty_iff]
  have hget : ∀ k (hk : k < x.length), x.getD k 0 = x[k] := fun k hk => by
    rw [List.getD_eq_getElem?_getD, List.getElem?_eq_getElem hk]
    rfl
  exact ⟨fun h k hk h1 h2 h3 => h (Finset.mem_range.2 hk) ⟨h1, h2, hget k hk ▸ h3⟩,
    fun h k hk ⟨h1, h2, h3⟩ => h k (Finset.mem_range.1 hk) h1 h2 (hget k _ ▸ h3)⟩

/-! ## Non-vacuity -/

/-- the hypotheses on the special functions are satisfiable … -/
example : (∀ a, Monotone (Fex.gammainc a)) ∧ Monotone Fex.ndtri ∧ ∀ xa xb s, 0 ≤ Fex.root xa xb s :=
  ⟨fun _ _ _ h => h, fun _ _ h => h, fun _ _ _ => by simp [Fex]⟩
/-- … on a series that is fittable and has several `some` cells -/
example : Fittable Fex xex (-9999) 0 5 := by decide +kernel
example : gammastd Fex xex (-9999) 0 5 = [some 1, some (7/3), some (1/3), none, none] := by
  decide +kernel
example : spiScale (-32768 : ℚ) 32767 1000 40 = 32767 := by decide +kernel
example : spiScale (-32768 : ℚ) 32767 1000 (-40) = -32768 := by decide +kernel
example : spiScale (-32768 : ℚ) 32767 1000 (3/2) = 1500 := by decide +kernel

end Hdc.C08
