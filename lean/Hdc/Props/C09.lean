import Hdc.Lemmas.SpiBasic
import Hdc.Lemmas.SpiSearch
import Hdc.Lemmas.SpiGroup
import Hdc.Lemmas.SpiExample
import Mathlib.Data.Int.Order.Basic
import Mathlib.Data.Finset.Card
import Mathlib.Data.Finset.Range
/-
C09  The SPI calibration window is the set of steps with begin ≤ t ≤ end (both ends inclusive),
     and grouped SPI is ungrouped SPI of each group's sub-series under that group's window.

FORMAL STATEMENTS (all proved below, namespace `Hdc.C09`)

 1. searchLeft_spec / searchRight_spec   on a sorted list, `searchLeft a v` = #{x ∈ a | x < v}, it is ≤ length,
      every index below it holds an entry < v and every index from it on an entry ≥ v (`right`: ≤ v / > v)
 2. window_exact       (i,j) = calIndices time b e, k < length :  i ≤ k < j  ↔  b ≤ time[k] ≤ e
    calIndices_diff    j − i = number of steps with b ≤ t ≤ e   (0 for reversed / empty windows)
 3. spiWindow_spec     spiWindow time b e = error if fewer than 2 steps lie in the window, else ok (calIndices …)
    spiWindow_error_iff, spiWindow_error_iff_four (the four source checks), spiWindow_ok (j − i ≥ 2, j ≤ length, exactness),
    spiWindow_reversed, spiWindowGrp_error_iff, spiWindowGrp_error_iff_of_pos, spiWindowGrp_ok
 4. spiAttrs_spec      for an accepted window the attributes are time[i], time[j−1]; these are the first and last step inside
 5. toLinspace_spec    keys strictly ascending, same members as x, idx[i] < #keys, keys[idx[i]] = x[i], idx[i] = idx[j] ↔ x[i] = x[j];
    toLinspace_partition_indep (any two labelings with the same partition give the same idx-partition),
    toLinspace_order_iso (an order-preserving respelling gives the same idx)
 6. gatherGrp_eq_subSeries, scatterGrp_cell, gatherGrp_scatterGrp, scatterGrp_gatherGrp,
    gammastdGrp_decomposes (list form), gammastdGrp_cell (cell form), gammastdGrp_written_iff
 7. gammastdGrp_relabel, gammastdGrp_single_group
 8. cal_indices_fit_int16, calIndicesGrp_fit_int16
-/
set_option linter.unusedSectionVars false
set_option linter.unusedSimpArgs false
namespace Hdc.C09
open Hdc.Spi

/-! ## Specification-side definitions (nothing below mentions the program) -/

/-- ascending (non-strict) -/
def Ascending {β : Type} [LE β] (l : List β) : Prop := l.Pairwise (· ≤ ·)

/-- the steps of the axis that lie in the closed window `[b, e]` -/
def windowSteps (time : List Int) (b e : Int) : List Int :=
  time.filter fun t => b ≤ t ∧ t ≤ e

/-- the sub-series `x[groups == g]`, by position -/
def subSeries {β : Type} (xx : List β) (groups : List ℕ) (g : ℕ) : List β :=
  (List.range xx.length).filterMap fun p => if groups[p]? = some g then xx[p]? else none

/-- number of earlier cells that carry the same label as cell `p` -/
def placeInGroup (groups : List ℕ) (p : ℕ) : ℕ :=
  ((List.range p).filter fun q => groups[q]? = groups[p]?).length

/-- default bounds of the accessor: first / last step -/
def beginOf (time : List Int) (b : Option Int) : Int := b.getD (time.headD 0)
def endOf (time : List Int) (e : Option Int) : Int := e.getD (time.getLastD 0)

/-! ## 1. searchsorted -/

section search
variable {β : Type} [LinearOrder β]

theorem searchLeft_spec (a : List β) (v : β) (h : Ascending a) :
    Py.searchLeft a v = (a.filter fun x => x < v).length ∧
    Py.searchLeft a v ≤ a.length ∧
    (∀ k (hk : k < a.length), k < Py.searchLeft a v → a[k] < v) ∧
    (∀ k (hk : k < a.length), Py.searchLeft a v ≤ k → v ≤ a[k]) := by
  exact ⟨by rw [searchLeft_eq_countP a v h, List.countP_eq_length_filter], searchLeft_le_length a v,
    fun k hk => (lt_searchLeft_iff a v h k hk).1,
    fun k hk hle => not_lt.1 fun hc => Nat.not_lt.2 hle ((lt_searchLeft_iff a v h k hk).2 hc)⟩

theorem searchRight_spec (a : List β) (v : β) (h : Ascending a) :
    Py.searchRight a v = (a.filter fun x => x ≤ v).length ∧
    Py.searchRight a v ≤ a.length ∧
    (∀ k (hk : k < a.length), k < Py.searchRight a v → a[k] ≤ v) ∧
    (∀ k (hk : k < a.length), Py.searchRight a v ≤ k → v < a[k]) := by
  exact ⟨by rw [searchRight_eq_countP a v h, List.countP_eq_length_filter], searchRight_le_length a v,
    fun k hk => (lt_searchRight_iff a v h k hk).1,
    fun k hk hle => not_le.1 fun hc => Nat.not_lt.2 hle ((lt_searchRight_iff a v h k hk).2 hc)⟩

end search

/-! ## 2. the window is exact, both ends inclusive -/

theorem window_exact (time : List Int) (h : Ascending time) (b e : Int) (k : ℕ)
    (hk : k < time.length) :
    ((calIndices time b e).1 ≤ k ∧ k < (calIndices time b e).2) ↔ (b ≤ time[k] ∧ time[k] ≤ e) := by
  unfold calIndices
  simp only
  rw [lt_searchRight_iff time e h k hk, ← not_lt, lt_searchLeft_iff time b h k hk, not_lt]

theorem countP_split (l : List Int) (b e : Int) (hbe : b ≤ e) :
    l.countP (fun t => decide (t ≤ e)) =
      l.countP (fun t => decide (t < b)) + l.countP (fun t => decide (b ≤ t ∧ t ≤ e)) := by
  induction l with
  | nil => simp
  | cons x l ih =>
    simp only [List.countP_cons, ih]
    by_cases h1 : x ≤ e <;> by_cases h2 : x < b <;> by_cases h3 : b ≤ x <;>
      simp [h1, h2, h3] <;> omega

/-- the width of the slice is the number of steps in the closed window; reversed (`e < b`) and
    empty windows give width 0 -/
theorem calIndices_diff (time : List Int) (h : Ascending time) (b e : Int) :
    (calIndices time b e).2 - (calIndices time b e).1 = (windowSteps time b e).length := by
  unfold calIndices windowSteps
  simp only
  rw [searchLeft_eq_countP time b h, searchRight_eq_countP time e h, ← List.countP_eq_length_filter]
  by_cases hbe : b ≤ e
  · rw [countP_split time b e hbe]; omega
  · have h0 : time.countP (fun t => decide (b ≤ t ∧ t ≤ e)) = 0 := by
      rw [List.countP_eq_zero]; intro t _; simp; omega
    have hle : time.countP (fun t => decide (t ≤ e)) ≤ time.countP (fun t => decide (t < b)) := by
      apply List.countP_mono_left
      intro t _ ht
      simp only [decide_eq_true_eq] at ht ⊢; omega
    rw [h0]; omega

theorem windowSteps_length_zero (l : List Int) (b e : Int) (h : ∀ t ∈ l, t < b ∨ e < t) :
    (windowSteps l b e).length = 0 := by
  unfold windowSteps
  rw [← List.countP_eq_length_filter, List.countP_eq_zero]
  intro x hx
  have := h x hx
  simp only [decide_eq_true_eq]; omega

theorem calIndices_le_of_reversed (time : List Int) (h : Ascending time) (b e : Int)
    (hbe : e < b) : (calIndices time b e).2 ≤ (calIndices time b e).1 := by
  have := calIndices_diff time h b e
  have h0 := windowSteps_length_zero time b e fun t _ => by omega
  omega

/-! ## 8. (needed early) the indices fit the sub-series -/

theorem cal_indices_fit_int16 (time : List Int) (b e : Int) :
    (calIndices time b e).1 ≤ time.length ∧ (calIndices time b e).2 ≤ time.length :=
  ⟨searchLeft_le_length time b, searchRight_le_length time e⟩

/-! ## 3. validation of the window -/

theorem le_getLast_of_asc (time : List Int) (h : Ascending time) (tl : Int)
    (hl : time.getLast? = some tl) : ∀ t ∈ time, t ≤ tl := by
  obtain ⟨ys, rfl⟩ := List.getLast?_eq_some_iff.mp hl
  intro t ht
  rw [Ascending, List.pairwise_append] at h
  rcases List.mem_append.mp ht with ht | ht
  · exact h.2.2 t ht tl (by simp)
  · have : t = tl := by simpa using ht
    omega

theorem head_le_of_asc (time : List Int) (h : Ascending time) (t0 : Int)
    (h0 : time.head? = some t0) : ∀ t ∈ time, t0 ≤ t := by
  cases time with
  | nil => simp at h0
  | cons x xs =>
    obtain rfl : x = t0 := by simpa using h0
    exact List.forall_mem_cons.2 ⟨le_refl _, (List.pairwise_cons.1 h).1⟩

theorem spiWindow_spec (time : List Int) (h : Ascending time) (b e : Option Int) :
    spiWindow time b e =
      if (windowSteps time (beginOf time b) (endOf time e)).length < 2 then .error .valueError
      else .ok (calIndices time (beginOf time b) (endOf time e)) := by
  cases time with
  | nil => simp [spiWindow, windowSteps]
  | cons t ts =>
    simp only [spiWindow, List.getLastD_eq_getLast?, List.getLast?_cons, Option.getD_some, List.head?_cons, beginOf, endOf,
      List.headD_cons]
    have hd := calIndices_diff (t :: ts) h (b.getD t) (e.getD (ts.getLast?.getD t))
    have hw0 : (ts.getLast?.getD t < b.getD t ∨ e.getD (ts.getLast?.getD t) < t) →
        (windowSteps (t :: ts) (b.getD t) (e.getD (ts.getLast?.getD t))).length = 0 := by
      intro hc
      apply windowSteps_length_zero
      intro x hx
      have h1 := le_getLast_of_asc _ h _ List.getLast?_cons x hx
      have h2 := head_le_of_asc _ h t rfl x hx
      omega
    generalize calIndices (t :: ts) _ _ = ij at *
    obtain ⟨i, j⟩ := ij
    simp only at hd ⊢
    split_ifs <;> first | rfl | (exfalso; omega)

/-- rejection ⇔ fewer than two steps inside the closed window -/
theorem spiWindow_error_iff (time : List Int) (h : Ascending time) (b e : Option Int) :
    spiWindow time b e = .error .valueError ↔
      (windowSteps time (beginOf time b) (endOf time e)).length < 2 := by
  rw [spiWindow_spec time h b e]
  split_ifs with hc <;> simp [hc]

/-- the four checks of the source, and why they collapse -/
theorem spiWindow_error_iff_four (time : List Int) (h : Ascending time) (b e : Int) :
    spiWindow time (some b) (some e) = .error .valueError ↔
      time = [] ∨ (windowSteps time b e).length < 2 ∨
        (∃ tl, time.getLast? = some tl ∧ tl < b) ∨ (∃ t0, time.head? = some t0 ∧ e < t0) := by
  rw [spiWindow_error_iff time h]
  simp only [beginOf, endOf, Option.getD_some]
  refine ⟨fun hc => Or.inr (Or.inl hc), ?_⟩
  rintro (rfl | hc | ⟨tl, hl, hlt⟩ | ⟨t0, h0, hlt⟩)
  · simp [windowSteps]
  · exact hc
  · exact (windowSteps_length_zero time b e fun x hx =>
      Or.inl (lt_of_le_of_lt (le_getLast_of_asc _ h tl hl x hx) hlt)).trans_lt Nat.zero_lt_two
  · exact (windowSteps_length_zero time b e fun x hx =>
      Or.inr (lt_of_lt_of_le hlt (head_le_of_asc _ h t0 h0 x hx))).trans_lt Nat.zero_lt_two

/-- a reversed window (`end < begin`) is always rejected -/
theorem spiWindow_reversed (time : List Int) (h : Ascending time) (b e : Int) (hbe : e < b) :
    spiWindow time (some b) (some e) = .error .valueError := by
  rw [spiWindow_error_iff time h]
  simp only [beginOf, endOf, Option.getD_some]
  exact (windowSteps_length_zero time b e fun x _ => by omega).trans_lt Nat.zero_lt_two

/-- an accepted window: at least two steps, inside the axis, and exact -/
theorem spiWindow_ok (time : List Int) (h : Ascending time) (b e : Option Int) (i j : ℕ)
    (hok : spiWindow time b e = .ok (i, j)) :
    (i, j) = calIndices time (beginOf time b) (endOf time e) ∧
    2 ≤ j - i ∧ j ≤ time.length ∧
    j - i = (windowSteps time (beginOf time b) (endOf time e)).length ∧
    ∀ k (hk : k < time.length),
      (i ≤ k ∧ k < j) ↔ (beginOf time b ≤ time[k] ∧ time[k] ≤ endOf time e) := by
  rw [spiWindow_spec time h b e] at hok
  split_ifs at hok with hc
  have heq : calIndices time (beginOf time b) (endOf time e) = (i, j) := by
    simpa using hok
  have hd := calIndices_diff time h (beginOf time b) (endOf time e)
  have hfit := cal_indices_fit_int16 time (beginOf time b) (endOf time e)
  have hex := window_exact time h (beginOf time b) (endOf time e)
  rw [heq] at hd hfit hex
  simp only at hd hfit hex
  exact ⟨heq.symm, by omega, hfit.2, hd, hex⟩

/-! ## 6a. sub-series and place in group, by position -/

theorem gatherGrp_eq_subSeries {β : Type} (g : ℕ) : ∀ (xx : List β) (groups : List ℕ),
    gatherGrp xx groups g = subSeries xx groups g
  | [], groups => by simp [subSeries]
  | x :: xs, [] => by simp [subSeries]
  | x :: xs, k :: ks => by
    rw [gatherGrp_cons, gatherGrp_eq_subSeries g xs ks]
    unfold subSeries
    simp only [List.length_cons, List.range_succ_eq_map, List.filterMap_cons, List.filterMap_map]
    by_cases hk : k = g <;> simp [hk, Function.comp_def]

theorem rankIn_eq_filter_range (groups : List ℕ) (g : ℕ) : ∀ p, p ≤ groups.length →
    rankIn groups g p = ((List.range p).filter fun q => groups[q]? = some g).length
  | 0, _ => by simp [rankIn]
  | p + 1, hp => by
    have hp' : p < groups.length := hp
    have ih := rankIn_eq_filter_range groups g p (Nat.le_of_lt hp')
    unfold rankIn at ih ⊢
    rw [List.take_add_one, List.count_append, ih, List.range_succ, List.filter_append,
      List.length_append, List.getElem?_eq_getElem hp']
    by_cases hg : groups[p] = g <;> simp [hg, List.getElem?_eq_getElem hp']

theorem rankIn_eq_placeInGroup (groups : List ℕ) (p : ℕ) (hp : p < groups.length) :
    rankIn groups groups[p] p = placeInGroup groups p := by
  rw [rankIn_eq_filter_range groups _ p (Nat.le_of_lt hp)]
  unfold placeInGroup
  rw [List.getElem?_eq_getElem hp]

/-! ## 3b. validation of the window, grouped -/

theorem subSeries_ascending (time : List Int) (h : Ascending time) (groups : List ℕ) (g : ℕ) :
    Ascending (subSeries time groups g) := by
  rw [← gatherGrp_eq_subSeries]
  exact List.Pairwise.sublist (gatherGrp_sublist g groups time) h

theorem calIndicesGrp_eq (time : List Int) (groups : List ℕ) (n : ℕ) (b e : Int) :
    calIndicesGrp time groups n b e =
      (List.range n).map fun g => calIndices (subSeries time groups g) b e := by
  unfold calIndicesGrp
  apply List.map_congr_left
  intro g _
  rw [← gatherGrp_eq_subSeries]
  rfl

theorem spiWindowGrp_cases (time : List Int) (h : Ascending time) (groups : List ℕ) (n : ℕ)
    (b e : Option Int) :
    ((time = [] ∨ time.getLastD 0 < beginOf time b ∨ endOf time e < time.headD 0 ∨
          ∃ g, g < n ∧ (windowSteps (subSeries time groups g) (beginOf time b) (endOf time e)).length < 2) →
      spiWindowGrp time groups n b e = .error .valueError) ∧
    (¬ (time = [] ∨ time.getLastD 0 < beginOf time b ∨ endOf time e < time.headD 0 ∨
          ∃ g, g < n ∧ (windowSteps (subSeries time groups g) (beginOf time b) (endOf time e)).length < 2) →
      spiWindowGrp time groups n b e = .ok ((List.range n).map fun g =>
        calIndices (subSeries time groups g) (beginOf time b) (endOf time e))) := by
  cases time with
  | nil => simp [spiWindowGrp]
  | cons t ts =>
    simp only [spiWindowGrp, List.getLastD_eq_getLast?, List.getLast?_cons, Option.getD_some, List.head?_cons,
      calIndicesGrp_eq, beginOf, endOf, List.headD_cons, reduceCtorEq, false_or]
    generalize ts.getLast?.getD t = tl
    have key := fun g => calIndices_diff _ (subSeries_ascending _ h groups g) (b.getD t) (e.getD tl)
    simp only [List.any_map, List.any_eq_true, List.mem_range, Function.comp_apply, decide_eq_true_eq]
    -- both table tests say that some group's window is narrower than 2 (`key`)
    constructor
    · intro hc
      split_ifs with c1 c2 c3 c4
      · rfl
      · rfl
      · rfl
      · rfl
      · rcases hc with hc | hc | ⟨g, hg, hw⟩
        · contradiction
        · contradiction
        · exact absurd ⟨g, hg, by have := key g; omega⟩ c4
    · intro hn
      rw [if_neg fun hh => hn (Or.inl hh), if_neg fun hh => hn (Or.inr (Or.inl hh)),
        if_neg fun ⟨g, hg, hw⟩ => hn (Or.inr (Or.inr ⟨g, hg, by have := key g; omega⟩)),
        if_neg fun ⟨g, hg, hw⟩ => hn (Or.inr (Or.inr ⟨g, hg, by have := key g; omega⟩))]

/-- the rejection condition of the grouped accessor -/
def GrpReject (time : List Int) (groups : List ℕ) (n : ℕ) (b e : Option Int) : Prop :=
  time = [] ∨ time.getLastD 0 < beginOf time b ∨ endOf time e < time.headD 0 ∨
    ∃ g, g < n ∧ (windowSteps (subSeries time groups g) (beginOf time b) (endOf time e)).length < 2

theorem spiWindowGrp_error_iff (time : List Int) (h : Ascending time) (groups : List ℕ) (n : ℕ)
    (b e : Option Int) :
    spiWindowGrp time groups n b e = .error .valueError ↔ GrpReject time groups n b e := by
  have := spiWindowGrp_cases time h groups n b e
  constructor
  · intro he
    by_contra hc
    rw [this.2 hc] at he
    cases he
  · exact this.1

theorem mem_subSeries {β : Type} (xx : List β) (groups : List ℕ) (g : ℕ) (v : β)
    (hv : v ∈ subSeries xx groups g) : v ∈ xx := by
  rw [← gatherGrp_eq_subSeries] at hv
  exact (gatherGrp_sublist g groups xx).subset hv

/-- with at least one group the global checks are subsumed: rejection ⇔ some group has fewer
    than two steps inside the window -/
theorem spiWindowGrp_error_iff_of_pos (time : List Int) (h : Ascending time) (groups : List ℕ)
    (n : ℕ) (hn : 0 < n) (b e : Option Int) :
    spiWindowGrp time groups n b e = .error .valueError ↔
      ∃ g, g < n ∧
        (windowSteps (subSeries time groups g) (beginOf time b) (endOf time e)).length < 2 := by
  rw [spiWindowGrp_error_iff time h]
  refine ⟨?_, fun hc => Or.inr (Or.inr (Or.inr hc))⟩
  -- a window that holds no step of the axis holds none of group 0
  have hout : (∀ t ∈ time, t < beginOf time b ∨ endOf time e < t) → ∃ g, g < n ∧
      (windowSteps (subSeries time groups g) (beginOf time b) (endOf time e)).length < 2 := fun hall =>
    ⟨0, hn, (windowSteps_length_zero _ _ _ fun t ht => hall t (mem_subSeries _ _ _ _ ht)).trans_lt Nat.zero_lt_two⟩
  rintro (rfl | hc | hc | hc)
  · exact hout (by simp)
  · refine hout fun t ht => Or.inl ?_
    obtain ⟨x, xs, rfl⟩ := List.exists_cons_of_ne_nil (List.ne_nil_of_mem ht)
    have := le_getLast_of_asc _ h _ List.getLast?_cons t ht
    simp only [List.getLastD_eq_getLast?, List.getLast?_cons, Option.getD_some] at hc
    omega
  · refine hout fun t ht => Or.inr ?_
    obtain ⟨x, xs, rfl⟩ := List.exists_cons_of_ne_nil (List.ne_nil_of_mem ht)
    have := head_le_of_asc _ h x rfl t ht
    simp only [List.headD_cons] at hc
    omega
  · exact hc

/-- an accepted grouped window: one slice per group, each with at least two steps, inside the
    group's sub-axis, and exact on it -/
theorem spiWindowGrp_ok (time : List Int) (h : Ascending time) (groups : List ℕ) (n : ℕ)
    (b e : Option Int) (ws : List (ℕ × ℕ)) (hok : spiWindowGrp time groups n b e = .ok ws) :
    ws.length = n ∧ ∀ g, g < n → ∃ i j, ws[g]? = some (i, j) ∧
      (i, j) = calIndices (subSeries time groups g) (beginOf time b) (endOf time e) ∧
      2 ≤ j - i ∧ j ≤ (subSeries time groups g).length ∧
      ∀ k (hk : k < (subSeries time groups g).length),
        (i ≤ k ∧ k < j) ↔
          (beginOf time b ≤ (subSeries time groups g)[k] ∧ (subSeries time groups g)[k] ≤ endOf time e) := by
  have hc := spiWindowGrp_cases time h groups n b e
  by_cases hr : GrpReject time groups n b e
  · rw [hc.1 hr] at hok
    cases hok
  obtain rfl := Except.ok.inj ((hc.2 hr).symm.trans hok)
  refine ⟨by simp, fun g hg => ?_⟩
  have hsub := subSeries_ascending time h groups g
  have hd := calIndices_diff _ hsub (beginOf time b) (endOf time e)
  have : ¬ (windowSteps (subSeries time groups g) (beginOf time b) (endOf time e)).length < 2 :=
    fun hh => hr (Or.inr (Or.inr (Or.inr ⟨g, hg, hh⟩)))
  exact ⟨(calIndices _ _ _).1, (calIndices _ _ _).2, by rw [List.getElem?_map, List.getElem?_range hg]; rfl, rfl, by omega,
    (cal_indices_fit_int16 _ _ _).2, window_exact _ hsub _ _⟩

/-! ## 4. recorded attributes -/

theorem spiAttrs_eq (time : List Int) (h : Ascending time) (b e : Int) :
    spiAttrs time b e =
      (time[(calIndices time b e).1]?,
       if (calIndices time b e).2 = 0 then none else time[(calIndices time b e).2 - 1]?) := by
  unfold spiAttrs calIndices
  have h1 : (time.filter fun t => decide (b ≤ t)) = time.drop (Py.searchLeft time b) := by
    unfold Py.searchLeft
    rw [← filter_not_eq_drop_of_sorted _ (downClosed_lt b) time h]
    exact List.filter_congr fun x _ => by simp only [← not_lt, decide_not]
  have h2 : (time.filter fun t => decide (t ≤ e)) = time.take (Py.searchRight time e) := by
    unfold Py.searchRight
    rw [← filter_eq_take_of_sorted _ (downClosed_le e) time h]
    exact List.filter_congr fun x _ => by simp only [← not_lt, decide_not]
  rw [h1, h2, List.head?_drop, List.getLast?_take]
  simp only
  split_ifs with hc
  · rfl
  · have hle := searchRight_le_length time e
    have : Py.searchRight time e - 1 < time.length := by omega
    rw [List.getElem?_eq_getElem this]; rfl

/-- for an accepted window the recorded attributes are `time[i]` and `time[j-1]`, and these are
    the first and the last step inside the window -/
theorem spiAttrs_spec (time : List Int) (h : Ascending time) (b e : Int) (i j : ℕ)
    (hok : spiWindow time (some b) (some e) = .ok (i, j)) :
    ∃ (hi : i < time.length) (hj : j - 1 < time.length),
      spiAttrs time b e = (some time[i], some time[j - 1]) ∧
      (b ≤ time[i] ∧ time[i] ≤ e) ∧ (b ≤ time[j - 1] ∧ time[j - 1] ≤ e) ∧
      ∀ k (hk : k < time.length), b ≤ time[k] → time[k] ≤ e → i ≤ k ∧ k ≤ j - 1 := by
  obtain ⟨heq, h2, hj, _, hex⟩ := spiWindow_ok time h (some b) (some e) i j hok
  simp only [beginOf, endOf, Option.getD_some] at heq hex
  have hi : i < time.length := by omega
  have hj' : j - 1 < time.length := by omega
  refine ⟨hi, hj', ?_, (hex i hi).mp (by omega), (hex (j - 1) hj').mp (by omega), ?_⟩
  · rw [spiAttrs_eq time h, ← heq]
    simp only
    rw [if_neg (by omega), List.getElem?_eq_getElem hi, List.getElem?_eq_getElem hj']
  · intro k hk hb he
    have := (hex k hk).mpr ⟨hb, he⟩
    omega

/-! ## 5. label linearisation -/

section linspace
variable {β : Type} [LinearOrder β]

theorem toLinspace_keys_sorted (x : List β) : (toLinspace x).2.Pairwise (· < ·) :=
  unique_sorted x

theorem toLinspace_keys_mem (x : List β) (v : β) : v ∈ (toLinspace x).2 ↔ v ∈ x :=
  mem_unique v x

theorem toLinspace_idx_length (x : List β) : (toLinspace x).1.length = x.length := by
  simp [toLinspace]

theorem toLinspace_idx_getElem (x : List β) (i : ℕ) (hi : i < x.length) :
    (toLinspace x).1[i]'(by rw [toLinspace_idx_length]; exact hi) =
      Py.searchLeft (toLinspace x).2 x[i] := by
  simp [toLinspace]

/-- the index of a label points at that label among the keys -/
theorem toLinspace_keys_idx (x : List β) (i : ℕ) (hi : i < x.length) :
    ∃ (hk : (toLinspace x).1[i]'(by rw [toLinspace_idx_length]; exact hi) < (toLinspace x).2.length),
      (toLinspace x).2[(toLinspace x).1[i]'(by rw [toLinspace_idx_length]; exact hi)] = x[i] := by
  obtain ⟨hlt, heq⟩ := searchLeft_unique_spec x x[i] (List.getElem_mem hi)
  have hidx := toLinspace_idx_getElem x i hi
  refine ⟨by rw [hidx]; exact hlt, ?_⟩
  simp only [hidx]
  exact heq

/-- equal indices ⇔ equal labels: the partition induced by `idx` is that of the labels -/
theorem toLinspace_idx_eq_iff (x : List β) (i j : ℕ) (hi : i < x.length) (hj : j < x.length) :
    (toLinspace x).1[i]'(by rw [toLinspace_idx_length]; exact hi) =
      (toLinspace x).1[j]'(by rw [toLinspace_idx_length]; exact hj) ↔ x[i] = x[j] := by
  constructor
  · intro h
    obtain ⟨hki, hi'⟩ := toLinspace_keys_idx x i hi
    obtain ⟨hkj, hj'⟩ := toLinspace_keys_idx x j hj
    rw [← hi', ← hj']
    simp only [h]
  · intro h
    rw [toLinspace_idx_getElem x i hi, toLinspace_idx_getElem x j hj, h]

theorem toLinspace_spec (x : List β) :
    (toLinspace x).2.Pairwise (· < ·) ∧ (∀ v, v ∈ (toLinspace x).2 ↔ v ∈ x) ∧
    (toLinspace x).1.length = x.length ∧
    (∀ i (hi : i < x.length),
      ∃ (hk : (toLinspace x).1[i]'(by rw [toLinspace_idx_length]; exact hi) < (toLinspace x).2.length),
        (toLinspace x).2[(toLinspace x).1[i]'(by rw [toLinspace_idx_length]; exact hi)] = x[i]) ∧
    (∀ i j (hi : i < x.length) (hj : j < x.length),
      (toLinspace x).1[i]'(by rw [toLinspace_idx_length]; exact hi) =
        (toLinspace x).1[j]'(by rw [toLinspace_idx_length]; exact hj) ↔ x[i] = x[j]) :=
  ⟨toLinspace_keys_sorted x, toLinspace_keys_mem x, toLinspace_idx_length x,
    toLinspace_keys_idx x, toLinspace_idx_eq_iff x⟩

/-- the partition does not depend on the label type, spelling or order: two labelings (over any
    two linear orders) that agree on which cells are equal induce the same index partition -/
theorem toLinspace_partition_indep {γ : Type} [LinearOrder γ] (x : List β) (y : List γ)
    (hlen : x.length = y.length)
    (hsame : ∀ i j (hi : i < x.length) (hj : j < x.length),
      x[i] = x[j] ↔ y[i]'(hlen ▸ hi) = y[j]'(hlen ▸ hj))
    (i j : ℕ) (hi : i < x.length) (hj : j < x.length) :
    (toLinspace x).1[i]'(by rw [toLinspace_idx_length]; exact hi) =
        (toLinspace x).1[j]'(by rw [toLinspace_idx_length]; exact hj) ↔
      (toLinspace y).1[i]'(by rw [toLinspace_idx_length]; exact hlen ▸ hi) =
        (toLinspace y).1[j]'(by rw [toLinspace_idx_length]; exact hlen ▸ hj) := by
  rw [toLinspace_idx_eq_iff x i j hi hj, toLinspace_idx_eq_iff y i j (hlen ▸ hi) (hlen ▸ hj)]
  exact hsame i j hi hj


theorem insertUniq_map {γ : Type} [LinearOrder γ] (f : β → γ) (hf : ∀ a b, f a < f b ↔ a < b)
    (a : β) (l : List β) : Py.insertUniq (f a) (l.map f) = (Py.insertUniq a l).map f := by
  induction l with
  | nil => simp [Py.insertUniq]
  | cons c cs ih =>
    simp only [List.map_cons, Py.insertUniq, hf]
    split_ifs <;> simp [ih]

theorem unique_map {γ : Type} [LinearOrder γ] (f : β → γ) (hf : ∀ a b, f a < f b ↔ a < b)
    (l : List β) : Py.unique (l.map f) = (Py.unique l).map f := by
  induction l with
  | nil => simp [Py.unique]
  | cons c cs ih =>
    have h1 : Py.unique (c :: cs) = Py.insertUniq c (Py.unique cs) := rfl
    have h2 : Py.unique ((c :: cs).map f) = Py.insertUniq (f c) (Py.unique (cs.map f)) := rfl
    rw [h1, h2, ih, insertUniq_map f hf]

theorem searchLeft_map {γ : Type} [LinearOrder γ] (f : β → γ) (hf : ∀ a b, f a < f b ↔ a < b)
    (l : List β) (v : β) : Py.searchLeft (l.map f) (f v) = Py.searchLeft l v := by
  unfold Py.searchLeft
  induction l with
  | nil => simp
  | cons c cs ih =>
    simp only [List.map_cons, List.takeWhile_cons, hf]
    split_ifs <;> simp [ih]

/-- an order-preserving respelling of the labels yields the same indices (and the respelt keys) -/
theorem toLinspace_order_iso {γ : Type} [LinearOrder γ] (f : β → γ)
    (hf : ∀ a b, f a < f b ↔ a < b) (x : List β) :
    toLinspace (x.map f) = ((toLinspace x).1, (toLinspace x).2.map f) := by
  unfold toLinspace
  simp only [unique_map f hf, List.map_map, Prod.mk.injEq, and_true]
  apply List.map_congr_left
  intro v _
  simp [searchLeft_map f hf]

end linspace

/-! ## 6. gather / scatter and the decomposition of grouped SPI -/

section grouping
variable {β : Type}

/-- `yy[groups == g] = vals`: the cells of group `g` receive the values in order (while there
    are values), every other cell keeps its content; the length is unchanged -/
theorem scatterGrp_cell (g : ℕ) (groups : List ℕ) (vals : List β) (out : List (Option β))
    (p : ℕ) (hp : p < out.length) :
    (scatterGrp g groups vals out).length = out.length ∧
    (scatterGrp g groups vals out)[p]? =
      if groups[p]? = some g then
        (match vals[placeInGroup groups p]? with
         | some v => some (some v)
         | none => out[p]?)
      else out[p]? := by
  refine ⟨scatterGrp_length g groups vals out, ?_⟩
  rw [scatterGrp_getElem? g groups vals out p hp]
  by_cases hg : groups[p]? = some g
  · have hpl : p < groups.length := by
      by_contra hc
      rw [List.getElem?_eq_none (Nat.le_of_not_lt hc)] at hg; simp at hg
    have hgp : groups[p] = g := by
      rw [List.getElem?_eq_getElem hpl] at hg; simpa using hg
    rw [if_pos hg, if_pos hg, ← rankIn_eq_placeInGroup groups p hpl, hgp]
    cases vals[rankIn groups g p]? <;> rfl
  · simp [hg]

/-- scatter ∘ gather round trip, gather side: what was scattered is what is gathered -/
theorem gatherGrp_scatterGrp (g : ℕ) (groups : List ℕ) (vals : List β) (out : List (Option β))
    (ho : out.length = groups.length) (hv : vals.length = groups.count g) :
    subSeries (scatterGrp g groups vals out) groups g = vals.map some ∧
    ∀ g', g' ≠ g → subSeries (scatterGrp g groups vals out) groups g' = subSeries out groups g' := by
  refine ⟨?_, ?_⟩
  · rw [← gatherGrp_eq_subSeries]; exact gatherGrp_scatterGrp_eq g groups vals out ho hv
  · intro g' hg'
    rw [← gatherGrp_eq_subSeries, ← gatherGrp_eq_subSeries]
    exact gatherGrp_scatterGrp_ne g' g (fun h => hg' h.symm) groups vals out

/-- scatter ∘ gather round trip, scatter side: writing a group's own cells back is the identity -/
theorem scatterGrp_gatherGrp (g : ℕ) (groups : List ℕ) (xx : List β) :
    scatterGrp g groups (subSeries xx groups g) (xx.map some) = xx.map some := by
  rw [← gatherGrp_eq_subSeries]; exact scatterGrp_gatherGrp_eq g groups xx

end grouping

section grouped
variable {α : Type} [Add α] [Sub α] [Mul α] [Div α] [Neg α] [NatCast α] [LT α] [DecidableLT α]

/-- SPI of the sub-series of group `g` under that group's window -/
def groupSpi (F : GamFns α) (xx : List α) (groups : List ℕ) (nodata : α) (cal : List (ℕ × ℕ))
    (g : ℕ) : List (Option α) :=
  gammastd F (subSeries xx groups g) nodata (cal.getD g (0, 0)).1 (cal.getD g (0, 0)).2

theorem grpResult_eq_groupSpi (F : GamFns α) (xx : List α) (groups : List ℕ) (nodata : α)
    (cal : List (ℕ × ℕ)) (g : ℕ) :
    grpResult F xx groups nodata cal g = groupSpi F xx groups nodata cal g := by
  unfold grpResult groupSpi; rw [gatherGrp_eq_subSeries]

/-- grouped SPI = ungrouped SPI of each group's sub-series under that group's window, in order -/
theorem gammastdGrp_decomposes (F : GamFns α) (xx : List α) (groups : List ℕ) (n : ℕ) (nodata : α)
    (cal : List (ℕ × ℕ)) (hlen : groups.length = xx.length) (g : ℕ) (hg : g < n) :
    subSeries (gammastdGrp F xx groups n nodata cal) groups g =
      (groupSpi F xx groups nodata cal g).map some := by
  rw [← gatherGrp_eq_subSeries, ← grpResult_eq_groupSpi]
  exact gatherGrp_gammastdGrp F xx groups n nodata cal hlen g hg

/-- the same cell by cell: a cell whose label is `g < numGroups` holds the SPI value at its place
    in the group's sub-series; a cell with any other label is never written -/
theorem gammastdGrp_cell (F : GamFns α) (xx : List α) (groups : List ℕ) (n : ℕ) (nodata : α)
    (cal : List (ℕ × ℕ)) (hlen : groups.length = xx.length) (p : ℕ) (hp : p < xx.length) :
    (gammastdGrp F xx groups n nodata cal).length = xx.length ∧
    (groups[p]'(hlen ▸ hp) < n →
      ∃ (hr : placeInGroup groups p <
          (groupSpi F xx groups nodata cal (groups[p]'(hlen ▸ hp))).length),
        (gammastdGrp F xx groups n nodata cal)[p]? =
          some (some ((groupSpi F xx groups nodata cal (groups[p]'(hlen ▸ hp)))[placeInGroup groups p]))) ∧
    (¬ groups[p]'(hlen ▸ hp) < n → (gammastdGrp F xx groups n nodata cal)[p]? = some none) := by
  have hpl : p < groups.length := hlen ▸ hp
  have hcell := gammastdGrp_getElem? F xx groups n nodata cal p hp
  rw [List.getElem?_eq_getElem hpl] at hcell
  simp only at hcell
  refine ⟨gammastdGrp_length F xx groups n nodata cal, ?_, ?_⟩
  · intro hg
    rw [if_pos hg] at hcell
    have hr : rankIn groups groups[p] p < (grpResult F xx groups nodata cal groups[p]).length := by
      unfold grpResult
      rw [gammastd_length]
      exact rankIn_lt_gatherGrp_length _ groups xx p hp (List.getElem?_eq_getElem hpl)
    rw [rankIn_eq_placeInGroup groups p hpl, grpResult_eq_groupSpi] at hr
    refine ⟨hr, ?_⟩
    rw [hcell, rankIn_eq_placeInGroup groups p hpl, grpResult_eq_groupSpi,
      List.getElem?_eq_getElem hr]
  · intro hg
    rw [if_neg hg] at hcell
    exact hcell

/-- every cell is written (no outer `none`) iff every label is `< numGroups` -/
theorem gammastdGrp_written_iff (F : GamFns α) (xx : List α) (groups : List ℕ) (n : ℕ) (nodata : α)
    (cal : List (ℕ × ℕ)) (hlen : groups.length = xx.length) :
    (∀ c ∈ gammastdGrp F xx groups n nodata cal, c ≠ none) ↔ ∀ k ∈ groups, k < n := by
  constructor
  · intro h k hk
    obtain ⟨p, hp, rfl⟩ := List.getElem_of_mem hk
    have hp' : p < xx.length := hlen ▸ hp
    by_contra hc
    have := (gammastdGrp_cell F xx groups n nodata cal hlen p hp').2.2 hc
    have hm := List.mem_of_getElem? this
    exact h none hm rfl
  · intro h c hc
    obtain ⟨p, hp, rfl⟩ := List.getElem_of_mem hc
    have hp' : p < xx.length := by rwa [gammastdGrp_length] at hp
    obtain ⟨hr, hcell⟩ := (gammastdGrp_cell F xx groups n nodata cal hlen p hp').2.1
      (h _ (List.getElem_mem _))
    rw [List.getElem?_eq_getElem hp] at hcell
    intro hnone
    rw [hnone] at hcell
    simp at hcell

end grouped

/-! ## 7, 8. relabelling, single group, index range -/

section relabel
variable {α : Type} [Add α] [Sub α] [Mul α] [Div α] [Neg α] [NatCast α] [LT α] [DecidableLT α]

/-- an injective map of `0..n-1` into itself is a permutation of it: nothing else lands inside -/
theorem perm_of_injective (σ : ℕ → ℕ) (hinj : Function.Injective σ) (n : ℕ)
    (hσ : ∀ g, g < n → σ g < n) (g : ℕ) : σ g < n ↔ g < n := by
  refine ⟨fun hg => ?_, hσ g⟩
  -- `σ` maps `range n` into itself injectively, hence onto
  have heq : (Finset.range n).image σ = Finset.range n :=
    Finset.eq_of_subset_of_card_le
      (Finset.image_subset_iff.2 fun x hx => Finset.mem_range.2 (hσ x (Finset.mem_range.1 hx)))
      (Finset.card_image_of_injective _ hinj).ge
  obtain ⟨x, hx, hxg⟩ := Finset.mem_image.1 (heq ▸ Finset.mem_range.2 hg)
  exact hinj hxg ▸ Finset.mem_range.1 hx

/-- the result does not depend on how the groups are numbered: renumber the labels by a
    permutation `σ` of `0..numGroups-1` and permute the windows accordingly -/
theorem gammastdGrp_relabel (F : GamFns α) (xx : List α) (groups : List ℕ) (n : ℕ) (nodata : α)
    (cal cal' : List (ℕ × ℕ)) (σ : ℕ → ℕ) (hinj : Function.Injective σ)
    (hσ : ∀ g, g < n → σ g < n)
    (hcal : ∀ g, g < n → cal'.getD (σ g) (0, 0) = cal.getD g (0, 0)) :
    gammastdGrp F xx (groups.map σ) n nodata cal' = gammastdGrp F xx groups n nodata cal := by
  apply List.ext_getElem?
  intro p
  by_cases hp : p < xx.length
  · rw [gammastdGrp_getElem? F xx _ n nodata cal' p hp, gammastdGrp_getElem? F xx _ n nodata cal p hp,
      List.getElem?_map]
    cases hgp : groups[p]? with
    | none => simp
    | some g =>
      simp only [Option.map_some]
      by_cases hg : g < n
      · have hg' : σ g < n := hσ g hg
        rw [if_pos hg, if_pos hg']
        unfold grpResult
        rw [gatherGrp_map_inj σ hinj, rankIn_map_inj σ hinj, hcal g hg]
      · have hg' : ¬ σ g < n := fun h => hg ((perm_of_injective σ hinj n hσ g).mp h)
        rw [if_neg hg, if_neg hg']
  · rw [List.getElem?_eq_none, List.getElem?_eq_none]
    all_goals rw [gammastdGrp_length]; exact not_lt.1 hp

/-- one group: the grouped kernel is the ungrouped one -/
theorem gammastdGrp_single_group (F : GamFns α) (xx : List α) (groups : List ℕ) (nodata : α)
    (cal : List (ℕ × ℕ)) (hlen : groups.length = xx.length) (hall : ∀ k ∈ groups, k = 0) :
    gammastdGrp F xx groups 1 nodata cal =
      (gammastd F xx nodata (cal.getD 0 (0, 0)).1 (cal.getD 0 (0, 0)).2).map some := by
  rw [gammastdGrp_succ, gammastdGrp_zero]
  unfold grpResult
  rw [gatherGrp_all 0 groups xx hlen hall]
  apply scatterGrp_all 0 groups _ _ (by simp [hlen]) (by simp [gammastd_length]) hall

end relabel

/-- the per-group slice indices never exceed the length of the group's sub-axis, which itself is
    at most the length of the axis (so they fit `int16` whenever the axis has ≤ 32767 steps) -/
theorem calIndicesGrp_fit_int16 (time : List Int) (groups : List ℕ) (n : ℕ) (b e : Int) (g : ℕ)
    (hg : g < n) :
    ∃ i j, (calIndicesGrp time groups n b e)[g]? = some (i, j) ∧
      i ≤ (subSeries time groups g).length ∧ j ≤ (subSeries time groups g).length ∧
      (subSeries time groups g).length ≤ time.length := by
  rw [calIndicesGrp_eq]
  refine ⟨_, _, by simp [hg], (cal_indices_fit_int16 _ b e).1, (cal_indices_fit_int16 _ b e).2, ?_⟩
  rw [← gatherGrp_eq_subSeries]; exact gatherGrp_length_le g groups time

/-- … hence within the int16 range for any axis of at most 32767 steps -/
theorem cal_indices_int16_range (time : List Int) (b e : Int) (hlen : time.length ≤ 32767) :
    ((calIndices time b e).1 : Int) ≤ 32767 ∧ ((calIndices time b e).2 : Int) ≤ 32767 := by
  have := cal_indices_fit_int16 time b e
  omega

/-! ## Non-vacuity: the hypotheses are satisfiable and the statements bite on concrete data -/

example : Ascending ([1, 3, 5, 7, 9] : List Int) := by unfold Ascending; decide
example : calIndices [1, 3, 5, 7, 9] 3 7 = (1, 4) := by decide
example : windowSteps [1, 3, 5, 7, 9] 3 7 = [3, 5, 7] := by decide
example : spiWindow [1, 3, 5, 7, 9] (some 3) (some 7) = .ok (1, 4) := by decide
example : spiWindow [1, 3, 5, 7, 9] none none = .ok (0, 5) := by decide
example : spiWindow [1, 3, 5, 7, 9] (some 7) (some 3) = .error .valueError := by decide
example : spiWindow [1, 3, 5, 7, 9] (some 4) (some 6) = .error .valueError := by decide
example : spiWindow [1, 3, 5, 7, 9] (some 10) (some 12) = .error .valueError := by decide
example : spiAttrs [1, 3, 5, 7, 9] 2 8 = (some 3, some 7) := by decide
example : spiWindowGrp [1, 2, 3, 4, 5, 6] [0, 1, 0, 1, 0, 1] 2 (some 1) (some 6) = .ok [(0, 3), (0, 3)] := by
  decide
example : spiWindowGrp [1, 2, 3, 4, 5, 6] [0, 1, 0, 1, 0, 1] 2 (some 1) (some 3) = .error .valueError := by
  decide
example : toLinspace ([30, 10, 30, 20] : List Int) = ([2, 0, 2, 1], [10, 20, 30]) := by decide
example : subSeries [10, 11, 12, 13, 14] [0, 1, 0, 1, 0] 1 = [11, 13] := by decide
example : placeInGroup [0, 1, 0, 1, 0] 4 = 2 := by decide
example : scatterGrp 1 [0, 1, 0, 1, 0] [7, 8] [none, none, none, none, none]
    = [none, some 7, none, some 8, none] := by decide
example : gammastdGrp Fex [1, 5, 3, 7, 0, 0] [0, 1, 0, 1, 0, 1] 2 (-9999) [(0, 3), (0, 3)]
    = [some (some 1), some (some (13/9)), some (some (7/3)), some (some (17/9)), some (some (1/3)),
       some (some (1/3))] := by
  decide +kernel
example : gammastd Fex (subSeries [1, 5, 3, 7, 0, 0] [0, 1, 0, 1, 0, 1] 1) (-9999) 0 3
    = [some (13/9), some (17/9), some (1/3)] := by
  decide +kernel
/-- a label outside `0..numGroups-1` is never written -/
example : gammastdGrp Fex [1, 5, 3] [0, 7, 0] 1 (-9999) [(0, 2)] = [some (some 1), none, some (some 3)] := by
  decide +kernel

end Hdc.C09
