import Hdc.Lemmas.StatsMK
import Hdc.Lemmas.StatsSlope
import Mathlib.Tactic.NormNum
/-
C10  Mann-Kendall trend test and Theil-Sen slope (`mann_kendall_trend_1d`).

Formal statements proved in this file (α any linearly ordered field; `F : MKFns α`;
`g : α → α`; spec definitions `sgn`, `S`, `Srec`, `tieCorr`, `Var18`, `Zscore`, `pValue`,
`pairSlopes` below are written without reference to the model):

  1. mkS_def       mkS x = S x,  S x = Σ_{j<n} Σ_{i<j} sgn (x_j − x_i)
     mkS_def_rec   mkS x = Srec x   (recursion on the list)
  2. mkTau_def     mkTau (1/2) x Int.cast = S x / (n (n−1) / 2)           (every n; 0/0 = 0 for n ≤ 1)
  3. mkVar18_def   mkVar18 x = Var18 x = n(n−1)(2n+5) − Σ_{u ∈ x.toFinset} t_u (t_u−1)(2 t_u+5),
                   t_u = x.count u    (both branches of the model)
     mkVar18_noTies        x.Nodup → mkVar18 x = n(n−1)(2n+5)
     tieSizes_length_iff   the model's shortcut test is exactly `x.Nodup`
  4. mkS_strictMono      StrictMono g → mkS (x.map g) = mkS x
     mkVar18_strictMono  StrictMono g → mkVar18 (x.map g) = mkVar18 x
     mkS_strictAnti      StrictAnti g → mkS (x.map g) = − mkS x;   mkVar18_strictAnti: Var unchanged
     mkS_neg, mkVar18_neg   the instance g = negation
     mkS_reverse         mkS x.reverse = − mkS x;   mkVar18_reverse: mkVar18 x.reverse = mkVar18 x
     mkTrend_strictMono  tau, p, trend unchanged under strictly increasing maps
     mkTrend_strictAnti  tau, trend change sign, p unchanged under strictly decreasing maps
     mkTrend_reverse     tau, trend change sign, p unchanged under reversal of the series
     mkTrend_flip        the common core: S ↦ −S with n, Var fixed   (needs ofInt (−s) = −ofInt s)
     mkTrend_neg, mkTrend_reverse_all, mkTrend_affine   all four outputs incl. the slope
  5. mkZ_spec, mkZ_cases   continuity correction: (S−1)/sqrt v, (S+1)/sqrt v, 0
     mkP_value           p = 2 (1 − ½(1 + erf(|z| sqrt ½)))
     mkP_flag            h ↔ zcrit < |z|
     mkP_flag_iff_lt_alpha   h ↔ p < alpha, under: 0 < half, 0 < sqrt half, StrictMono erf,
                         2 (1 − half (1 + erf (zcrit · sqrt half))) = alpha
     trendOf_spec        trend = sgn z if h else 0
     mkTrend_spec        all four outputs of `mkTrend` expressed by the specification
  6. slopesFrom_spec     slopesFrom 0 x = pairSlopes x  (all (x_j − x_i)/(j − i), i < j)
     slopesFrom_length   n(n−1)/2 slopes
     sensSlope_smul      sensSlope (x.map (a * ·)) = a * sensSlope x  for EVERY a
     sensSlope_scale     the case a > 0;   sensSlope_neg;   sensSlope_shift;   sensSlope_reverse
     median_spec         middle order statistic / mean of the two middle ones, for any ascending
                         rearrangement `s` of the data (exists_sorted_perm: there is one)
     median_half         at least half of the entries are ≤ median, at least half are ≥ median

Remarks on the model: the index argument of `slopesFrom` is never used (`Stats.slopesFrom_index`);
`median []` is 0 (NumPy: nan) and `mkTau` is 0 for n ≤ 1 (NumPy: nan) because `x / 0 = 0` in a field —
those inputs are outside the contract of the source.
-/
namespace Hdc.C10
open Finset Hdc.Stats

set_option linter.unusedSectionVars false

variable {α : Type} [Field α] [LinearOrder α] [IsStrictOrderedRing α]

/-! ### Specification (independent of the model code) -/

def sgn (a : α) : Int := if 0 < a then 1 else if a < 0 then -1 else 0

/-- the Mann-Kendall statistic: sum of the signs of all forward differences -/
def S (x : List α) : Int :=
  ∑ j ∈ range x.length, ∑ i ∈ range j, sgn (x.getD j 0 - x.getD i 0)

def Srec : List α → Int
  | [] => 0
  | x :: xs => (xs.map fun v => sgn (v - x)).sum + Srec xs

/-- tie correction of a group of `t` equal values -/
def tieCorr (t : ℕ) : Int := (t : Int) * ((t : Int) - 1) * (2 * (t : Int) + 5)

/-- 18 · Var(S) with tie correction; the sum runs over the distinct values of `x` -/
def Var18 (x : List α) : Int :=
  (x.length : Int) * ((x.length : Int) - 1) * (2 * (x.length : Int) + 5)
    - ∑ u ∈ x.toFinset, tieCorr (x.count u)

/-- Z score with continuity correction -/
def Zscore (sqrt : α → α) (s : Int) (v : α) : α :=
  if 0 < s then ((s : α) - 1) / sqrt v else if s < 0 then ((s : α) + 1) / sqrt v else 0

/-- two-sided p value from the error function -/
def pValue (sqrt erf : α → α) (z : α) : α := 2 * (1 - (1 / 2) * (1 + erf (|z| * sqrt (1 / 2))))

/-- all divided differences `(x_j − x_i)/(j − i)`, `i < j` -/
def pairSlopes (x : List α) : List α :=
  (List.range x.length).flatMap fun i =>
    (List.range (x.length - 1 - i)).map fun k => (x.getD (i + k + 1) 0 - x.getD i 0) / ((k : α) + 1)

/-! ### 1. the statistic S -/

theorem sgn_sub (a b : α) : sgn (b - a) = sgnLt a b := by
  unfold sgn sgnLt
  simp only [sub_pos, sub_neg]

theorem mkS_def (x : List α) : mkS x = S x := by
  unfold S
  simp only [sgn_sub]
  induction x with
  | nil => simp [mkS_nil]
  | cons a xs ih =>
    rw [mkS_cons, List.length_cons]
    simp only [Finset.sum_range_succ', List.getD_cons_succ, List.getD_cons_zero, Finset.range_zero,
      Finset.sum_empty, add_zero, Finset.sum_add_distrib]
    rw [← ih, ← sum_map_eq_sum_range xs (fun v => sgnLt a v) 0, sum_sgnLt]

theorem mkS_def_rec (x : List α) : mkS x = Srec x := by
  induction x with
  | nil => rfl
  | cons a xs ih =>
    rw [mkS_cons, ih, Srec, ← sum_sgnLt]
    simp only [sgn_sub]
    ring

/-! ### 2. tau -/

theorem mkTau_def (x : List α) :
    mkTau (1 / 2 : α) x Int.cast = (S x : α) / ((x.length : α) * ((x.length : α) - 1) / 2) := by
  unfold mkTau
  rw [mkS_def, nat_eq, nat_eq]
  rcases Nat.eq_zero_or_pos x.length with h | h
  · rw [h]; simp
  · rw [Nat.cast_sub h, Nat.cast_one]
    congr 1; ring

/-! ### 3. the variance -/

theorem tieCorr_eq (t : ℕ) : tieCorr t = tieTerm t := rfl

theorem mkVar18_def (x : List α) : mkVar18 x = Var18 x := mkVar18_eq x

theorem Var18_noTies (x : List α) (h : x.Nodup) :
    Var18 x = (x.length : Int) * ((x.length : Int) - 1) * (2 * (x.length : Int) + 5) := by
  rw [← mkVar18_def, mkVar18_eq, sum_tieTerm_nodup x h, sub_zero]

theorem mkVar18_noTies (x : List α) (h : x.Nodup) :
    mkVar18 x = (x.length : Int) * ((x.length : Int) - 1) * (2 * (x.length : Int) + 5) := by
  rw [mkVar18_def, Var18_noTies x h]

/-- the model's shortcut test "as many tie groups as data" is exactly "no ties" -/
theorem tieSizes_length_iff (x : List α) : (tieSizes x).length = x.length ↔ x.Nodup := by
  constructor
  · exact nodup_of_length_tieSizes x
  · intro h
    rw [length_tieSizes, List.toFinset_card_of_nodup h]

/-! ### 4. invariances -/

theorem mkS_strictMono (g : α → α) (hg : StrictMono g) (x : List α) : mkS (x.map g) = mkS x := by
  unfold mkS; rw [mkCounts_map_strictMono g hg]

theorem mkVar18_strictMono (g : α → α) (hg : StrictMono g) (x : List α) :
    mkVar18 (x.map g) = mkVar18 x :=
  mkVar18_map_injective g hg.injective x

theorem mkS_strictAnti (g : α → α) (hg : StrictAnti g) (x : List α) : mkS (x.map g) = - mkS x := by
  unfold mkS; rw [mkCounts_map_strictAnti g hg]; ring

theorem mkVar18_strictAnti (g : α → α) (hg : StrictAnti g) (x : List α) :
    mkVar18 (x.map g) = mkVar18 x :=
  mkVar18_map_injective g hg.injective x

theorem strictAnti_neg : StrictAnti (Neg.neg : α → α) := fun _ _ h => neg_lt_neg h

theorem mkS_neg (x : List α) : mkS (x.map Neg.neg) = - mkS x := mkS_strictAnti _ strictAnti_neg x

theorem mkVar18_neg (x : List α) : mkVar18 (x.map Neg.neg) = mkVar18 x :=
  mkVar18_strictAnti _ strictAnti_neg x

theorem mkS_reverse (x : List α) : mkS x.reverse = - mkS x := by
  unfold mkS; rw [mkCounts_reverse]; ring

theorem mkVar18_reverse (x : List α) : mkVar18 x.reverse = mkVar18 x := by
  simp only [mkVar18_eq, List.length_reverse, List.toFinset_reverse, List.count_reverse]

/-- the Z score depends on the data only through `S` and `Var` -/
theorem zOf_eq_of (F : MKFns α) (x y : List α) (hs : mkS y = mkS x) (hv : mkVar18 y = mkVar18 x) :
    zOf F y = zOf F x := by
  unfold zOf; rw [hs, hv]

theorem zOf_neg_of (F : MKFns α) (hodd : ∀ s, F.ofInt (-s) = - F.ofInt s) (x y : List α)
    (hs : mkS y = - mkS x) (hv : mkVar18 y = mkVar18 x) : zOf F y = - zOf F x := by
  unfold zOf; rw [hs, hv, mkZ_neg F hodd]

/-- tau, p and the trend flag are invariant under strictly increasing transformations -/
theorem mkTrend_strictMono (F : MKFns α) (g : α → α) (hg : StrictMono g) (x : List α) :
    (mkTrend F (x.map g)).1 = (mkTrend F x).1 ∧
    (mkTrend F (x.map g)).2.1 = (mkTrend F x).2.1 ∧
    (mkTrend F (x.map g)).2.2.2 = (mkTrend F x).2.2.2 := by
  have hz := zOf_eq_of F x (x.map g) (mkS_strictMono g hg x) (mkVar18_strictMono g hg x)
  refine ⟨?_, ?_, ?_⟩
  · rw [mkTrend_tau, mkTrend_tau, mkTau, mkTau, List.length_map, mkS_strictMono g hg]
  · rw [mkTrend_p, mkTrend_p, hz]
  · rw [mkTrend_trend, mkTrend_trend, hz]

/-- what happens whenever `S` changes sign while `n` and `Var` stay -/
theorem mkTrend_flip (F : MKFns α) (hodd : ∀ s, F.ofInt (-s) = - F.ofInt s) (x y : List α)
    (hl : y.length = x.length) (hs : mkS y = - mkS x) (hv : mkVar18 y = mkVar18 x) :
    (mkTrend F y).1 = - (mkTrend F x).1 ∧
    (mkTrend F y).2.1 = (mkTrend F x).2.1 ∧
    (mkTrend F y).2.2.2 = - (mkTrend F x).2.2.2 := by
  have hz := zOf_neg_of F hodd x y hs hv
  refine ⟨?_, ?_, ?_⟩
  · rw [mkTrend_tau, mkTrend_tau, mkTau, mkTau, hl, hs, hodd, neg_div]
  · rw [mkTrend_p, mkTrend_p, hz, mkP_neg]
  · rw [mkTrend_trend, mkTrend_trend, hz, mkP_neg, trendOf_neg]

/-- under strictly decreasing transformations tau and the trend change sign, p is unchanged -/
theorem mkTrend_strictAnti (F : MKFns α) (hodd : ∀ s, F.ofInt (-s) = - F.ofInt s)
    (g : α → α) (hg : StrictAnti g) (x : List α) :
    (mkTrend F (x.map g)).1 = - (mkTrend F x).1 ∧
    (mkTrend F (x.map g)).2.1 = (mkTrend F x).2.1 ∧
    (mkTrend F (x.map g)).2.2.2 = - (mkTrend F x).2.2.2 :=
  mkTrend_flip F hodd x _ (List.length_map _) (mkS_strictAnti g hg x) (mkVar18_strictAnti g hg x)

/-- reversal of the series: tau and the trend change sign, p is unchanged -/
theorem mkTrend_reverse (F : MKFns α) (hodd : ∀ s, F.ofInt (-s) = - F.ofInt s) (x : List α) :
    (mkTrend F x.reverse).1 = - (mkTrend F x).1 ∧
    (mkTrend F x.reverse).2.1 = (mkTrend F x).2.1 ∧
    (mkTrend F x.reverse).2.2.2 = - (mkTrend F x).2.2.2 :=
  mkTrend_flip F hodd x _ (List.length_reverse) (mkS_reverse x) (mkVar18_reverse x)

/-! ### 5. Z score, p value, decision flag -/

theorem mkZ_spec (F : MKFns α) (hof : ∀ s, F.ofInt s = (s : α)) (s : Int) (v : α) :
    mkZ F s v = Zscore F.sqrt s v := by
  unfold mkZ Zscore
  rw [hof, hof, nat_zero]
  push_cast
  rfl

/-- the three cases of the continuity correction spelled out -/
theorem mkZ_cases (F : MKFns α) (hof : ∀ s, F.ofInt s = (s : α)) (s : Int) (v : α) :
    (0 < s → mkZ F s v = ((s : α) - 1) / F.sqrt v) ∧
    (s < 0 → mkZ F s v = ((s : α) + 1) / F.sqrt v) ∧
    (s = 0 → mkZ F s v = 0) := by
  rw [mkZ_spec F hof]
  unfold Zscore
  refine ⟨fun h => by rw [if_pos h], fun h => ?_, fun h => by subst h; simp⟩
  rw [if_neg (by omega), if_pos h]

theorem mkP_value (F : MKFns α) (hh : F.half = 1 / 2) (z : α) :
    (mkP F z).1 = pValue F.sqrt F.erf z := by
  rw [mkP_eq, hh, pValue]

theorem mkP_flag (F : MKFns α) (z : α) : (mkP F z).2 = true ↔ F.zcrit < |z| := by
  rw [mkP_eq, decide_eq_true_eq]

/-- the flag is the test `p < alpha` when `erf` is strictly increasing and `zcrit` is the point
    where the p value equals `alpha` -/
theorem mkP_flag_iff_lt_alpha (F : MKFns α) (alpha : α) (hhalf : 0 < F.half)
    (hsq : 0 < F.sqrt F.half) (herf : StrictMono F.erf)
    (hcrit : 2 * (1 - F.half * (1 + F.erf (F.zcrit * F.sqrt F.half))) = alpha) (z : α) :
    (mkP F z).2 = true ↔ (mkP F z).1 < alpha := by
  rw [mkP_flag, mkP_eq, ← hcrit]
  dsimp only
  rw [← mul_lt_mul_iff_of_pos_right hsq, ← herf.lt_iff_lt, ← mul_lt_mul_iff_of_pos_left hhalf]
  constructor <;> intro h <;> linarith

theorem trendOf_spec (F : MKFns α) (z : α) :
    trendOf (mkP F z).2 z = if F.zcrit < |z| then sgn z else 0 := by
  simp only [trendOf_eq, mkP_flag, ← sgn_sub, sub_zero]

/-! ### 6. Theil-Sen slope -/

theorem slopesFrom_spec (x : List α) : slopesFrom 0 x = pairSlopes x :=
  slopesFrom_eq_pairSlopesL 0 x

theorem slopesFrom_length (i : ℕ) (x : List α) :
    (slopesFrom i x).length = x.length * (x.length - 1) / 2 :=
  Stats.slopesFrom_length i x

/-- the slope is homogeneous (for every factor, in particular for `a > 0`) -/
theorem sensSlope_smul (a : α) (x : List α) : sensSlope (x.map (a * ·)) = a * sensSlope x := by
  unfold sensSlope
  rw [slopesFrom_map (a * ·) (a * ·) fun v x k => by ring, median_map_mul]

theorem sensSlope_scale (a : α) (_ha : 0 < a) (x : List α) :
    sensSlope (x.map (a * ·)) = a * sensSlope x := sensSlope_smul a x

theorem sensSlope_neg (x : List α) : sensSlope (x.map Neg.neg) = - sensSlope x := by
  unfold sensSlope
  rw [slopesFrom_map Neg.neg Neg.neg fun v x k => by ring, median_map_neg]

theorem sensSlope_shift (c : α) (x : List α) : sensSlope (x.map (· + c)) = sensSlope x := by
  unfold sensSlope
  rw [slopesFrom_map (· + c) id fun v x k => by simp, List.map_id]

/-- reversing the series changes the sign of the slope -/
theorem sensSlope_reverse (x : List α) : sensSlope x.reverse = - sensSlope x := by
  unfold sensSlope
  rw [median_eq_of_perm _ _ (slopesFrom_reverse 0 x), median_map_neg]

/-- `median` is the middle order statistic (odd length) resp. the mean of the two middle
    ones (even length); `s` is any ascending rearrangement of the data -/
theorem median_spec (l s : List α) (hp : s.Perm l) (hs : s.Pairwise (· ≤ ·)) :
    (l.length % 2 = 1 → median l = s.getD (l.length / 2) 0) ∧
    (l.length % 2 = 0 →
      median l = (s.getD (l.length / 2 - 1) 0 + s.getD (l.length / 2) 0) / 2) := by
  rw [median_of_sorted l s hp hs]
  refine ⟨fun h => by rw [if_pos h], fun h => by rw [if_neg (by omega)]⟩

/-- an ascending rearrangement exists (so `median_spec` is not vacuous) -/
theorem exists_sorted_perm (l : List α) : ∃ s : List α, s.Perm l ∧ s.Pairwise (· ≤ ·) :=
  ⟨sortL l, sortL_perm l, sortL_pairwise l⟩

/-- at least half of the entries are `≤` the median and at least half are `≥` it -/
theorem median_half (l : List α) (hl : l ≠ []) :
    l.length ≤ 2 * (l.filter fun v => decide (v ≤ median l)).length ∧
    l.length ≤ 2 * (l.filter fun v => decide (median l ≤ v)).length := by
  have hn : 0 < (sortL l).length := by rw [sortL_length]; exact List.length_pos_iff.2 hl
  obtain ⟨h1, h2⟩ := mid_bounds (sortL l) (sortL_pairwise l) hn
  have c1 := countP_le_of_getElem_le _ (sortL_pairwise l) _ (by omega) _ h1
  have c2 := countP_ge_of_le_getElem _ (sortL_pairwise l) _ (by omega) _ h2
  rw [← List.countP_eq_length_filter, ← List.countP_eq_length_filter,
    ← (sortL_perm l).countP_eq, ← (sortL_perm l).countP_eq, median_eq_mid, ← sortL_length l]
  constructor <;> omega

/-! ### the whole function -/

/-- all four outputs of `mkTrend` in terms of the specification -/
theorem mkTrend_spec (F : MKFns α) (hh : F.half = 1 / 2) (hof : ∀ s, F.ofInt s = (s : α))
    (x : List α) :
    mkTrend F x =
      ( (S x : α) / ((x.length : α) * ((x.length : α) - 1) / 2),
        pValue F.sqrt F.erf (Zscore F.sqrt (S x) ((Var18 x : α) / 18)),
        median (pairSlopes x),
        if F.zcrit < |Zscore F.sqrt (S x) ((Var18 x : α) / 18)|
          then sgn (Zscore F.sqrt (S x) ((Var18 x : α) / 18)) else 0 ) := by
  have hz : zOf F x = Zscore F.sqrt (S x) ((Var18 x : α) / 18) := by
    unfold zOf
    rw [mkZ_spec F hof, mkS_def, mkVar18_def, hof]
    simp [nat]
  have hfun : F.ofInt = Int.cast := funext hof
  refine Prod.ext ?_ (Prod.ext ?_ (Prod.ext ?_ ?_))
  · rw [mkTrend_tau, hh, hfun, mkTau_def]
  · rw [mkTrend_p, mkP_value F hh, hz]
  · rw [mkTrend_slope]; unfold sensSlope; rw [slopesFrom_spec]
  · rw [mkTrend_trend, trendOf_spec, hz]

/-- negating the data: tau, slope and trend change sign, p is unchanged -/
theorem mkTrend_neg (F : MKFns α) (hodd : ∀ s, F.ofInt (-s) = - F.ofInt s) (x : List α) :
    (mkTrend F (x.map Neg.neg)).1 = - (mkTrend F x).1 ∧
    (mkTrend F (x.map Neg.neg)).2.1 = (mkTrend F x).2.1 ∧
    (mkTrend F (x.map Neg.neg)).2.2.1 = - (mkTrend F x).2.2.1 ∧
    (mkTrend F (x.map Neg.neg)).2.2.2 = - (mkTrend F x).2.2.2 := by
  obtain ⟨h1, h2, h3⟩ := mkTrend_strictAnti F hodd _ strictAnti_neg x
  exact ⟨h1, h2, by rw [mkTrend_slope, mkTrend_slope, sensSlope_neg], h3⟩

/-- reversal, all four outputs: tau, slope and trend change sign, p is unchanged -/
theorem mkTrend_reverse_all (F : MKFns α) (hodd : ∀ s, F.ofInt (-s) = - F.ofInt s) (x : List α) :
    (mkTrend F x.reverse).1 = - (mkTrend F x).1 ∧
    (mkTrend F x.reverse).2.1 = (mkTrend F x).2.1 ∧
    (mkTrend F x.reverse).2.2.1 = - (mkTrend F x).2.2.1 ∧
    (mkTrend F x.reverse).2.2.2 = - (mkTrend F x).2.2.2 := by
  obtain ⟨h1, h2, h3⟩ := mkTrend_reverse F hodd x
  exact ⟨h1, h2, by rw [mkTrend_slope, mkTrend_slope, sensSlope_reverse], h3⟩

/-- positive affine maps `v ↦ a v + b`, `a > 0`: tau, p, trend unchanged, slope scaled by `a` -/
theorem mkTrend_affine (F : MKFns α) (a b : α) (ha : 0 < a) (x : List α) :
    (mkTrend F (x.map fun v => a * v + b)).1 = (mkTrend F x).1 ∧
    (mkTrend F (x.map fun v => a * v + b)).2.1 = (mkTrend F x).2.1 ∧
    (mkTrend F (x.map fun v => a * v + b)).2.2.1 = a * (mkTrend F x).2.2.1 ∧
    (mkTrend F (x.map fun v => a * v + b)).2.2.2 = (mkTrend F x).2.2.2 := by
  obtain ⟨h1, h2, h3⟩ := mkTrend_strictMono F _ ((strictMono_mul_left_of_pos ha).add_const b) x
  refine ⟨h1, h2, ?_, h3⟩
  rw [mkTrend_slope, mkTrend_slope]
  have : (x.map fun v => a * v + b) = (x.map (a * ·)).map (· + b) := by
    rw [List.map_map]; rfl
  rw [this, sensSlope_shift, sensSlope_smul]

/-! ### Non-vacuity: concrete rational inputs -/

/-- a series with one tie group: S = 5, 18·Var = 5·4·15 − 2·1·9 = 282 -/
example : mkS ([1, 3, 2, 5, 3] : List ℚ) = 5 := by decide
example : S ([1, 3, 2, 5, 3] : List ℚ) = 5 := by rw [← mkS_def]; decide
example : mkVar18 ([1, 3, 2, 5, 3] : List ℚ) = 282 := by decide
example : Var18 ([1, 3, 2, 5, 3] : List ℚ) = 282 := by rw [← mkVar18_def]; decide
/-- without ties the model takes the shortcut branch; the general formula agrees -/
example : mkVar18 ([1, 3, 2, 5] : List ℚ) = 4 * 3 * 13 := by decide
example : ([1, 3, 2, 5] : List ℚ).Nodup := by decide

/-- hypotheses of the invariance theorems are satisfiable -/
example : StrictMono (fun v : ℚ => 2 * v + 1) := fun a b h => by simp only; linarith
example : StrictAnti (fun v : ℚ => 7 - 3 * v) := fun a b h => by simp only; linarith
example : ∀ s : Int, ((-s : Int) : ℚ) = -(s : ℚ) := fun s => by push_cast; rfl

/-- a (toy) instance of the hypotheses of `mkP_flag_iff_lt_alpha` / `mkTrend_spec` -/
def toyFns : MKFns ℚ := ⟨fun _ => 1, id, 1 / 2, 1, Int.cast⟩
example : 0 < toyFns.half ∧ 0 < toyFns.sqrt toyFns.half ∧ StrictMono toyFns.erf ∧
    2 * (1 - toyFns.half * (1 + toyFns.erf (toyFns.zcrit * toyFns.sqrt toyFns.half))) = (0 : ℚ) ∧
    toyFns.half = 1 / 2 ∧ (∀ s, toyFns.ofInt s = (s : ℚ)) := by
  refine ⟨by norm_num [toyFns], by norm_num [toyFns], fun a b h => h, by norm_num [toyFns], rfl,
    fun s => rfl⟩

/-- slopes and their median on a concrete series -/
example : slopesFrom 0 ([0, 2, 4, 12] : List ℚ) = [2, 2, 4, 2, 5, 8] := by
  norm_num [slopesFrom, List.zipIdx, nat]
example : sensSlope ([0, 2, 4, 12] : List ℚ) = 3 := by
  have h : slopesFrom 0 ([0, 2, 4, 12] : List ℚ) = [2, 2, 4, 2, 5, 8] := by
    norm_num [slopesFrom, List.zipIdx, nat]
  unfold sensSlope
  rw [h, (median_spec ([2, 2, 4, 2, 5, 8] : List ℚ) [2, 2, 2, 4, 5, 8] (by decide) (by decide)).2
    (by decide)]
  norm_num
example : median ([3, 1, 2] : List ℚ) = 2 :=
  (median_spec [3, 1, 2] [1, 2, 3] (by decide) (by decide)).1 (by decide)

end Hdc.C10
