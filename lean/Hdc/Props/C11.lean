import Hdc.Gen.Dekad
import Hdc.Lemmas.PyDate
import Hdc.Lemmas.Dekad
import Hdc.Lemmas.DekadStr
import Hdc.Lemmas.PyDateOrd
import Hdc.Lemmas.DekadCover
/-
C11  Dekad calendar arithmetic — theorems about the GENERATED model `Hdc.Gen.Dekad`
(translated from `hdc/algo/dekad.py` on every run; a Dekad object is its raw integer
`raw = 36*year + 3*(month-1) + (idx-1)`), over the hand model `Hdc.PyDate` of CPython's `datetime`.

Notation
  ValidDate y m d := 1 ≤ y ≤ 9999 ∧ 1 ≤ m ≤ 12 ∧ 1 ≤ d ≤ daysInMonth y m      (Hdc.PyDate.ValidDate)
  InRange r       := 36 ≤ r < 360000            (dekads of the years 1..9999)  (Hdc.C11.InRange)
  startOrd r      := ymd2ord (year r) (month r) (day r)                         (Hdc.C11.startOrd)
  startUs r       := startOrd r * usPerDay                                      (Hdc.C11.startUs)
  len r           := if idx r ≤ 2 then 10 else daysInMonth (year r) (month r) - 20   (Hdc.C11.len)

Formal statements (all fully proved; no sorry / axiom / native_decide)

1 fields
  year_ofDate, month_ofDate   ValidDate y m d → year (ofDate y m d) = y,  month (ofDate y m d) = m
  idx_ofDate                  ValidDate y m d → idx (ofDate y m d) = if d ≤ 10 then 1 else if d ≤ 20 then 2 else 3
  day_ofDate                  ValidDate y m d → day (ofDate y m d) = if d ≤ 10 then 1 else if d ≤ 20 then 11 else 21
  day_ofDate_mem              ValidDate y m d → day (ofDate y m d) = 1 ∨ … = 11 ∨ … = 21
  day_ofDate_le               ValidDate y m d → day (ofDate y m d) ≤ d ∧ d < day (ofDate y m d) + (len (ofDate y m d))
  yidx_bounds                 ∀ r, 1 ≤ yidx r ∧ yidx r ≤ 36
  yidx_month_idx              ∀ r, yidx r = 3 * (month r - 1) + idx r
  raw_decomp                  ∀ r, raw r = 36 * year r + 3 * (month r - 1) + (idx r - 1)
  month_bounds, idx_bounds    ∀ r, 1 ≤ month r ≤ 12,  1 ≤ idx r ≤ 3
  day_idx                     ∀ r, day r = 10 * (idx r - 1) + 1
  ofDate_inRange              ValidDate y m d → InRange (ofDate y m d)
2 dates
  start_date_ok               InRange r → start_date r = .ok ⟨ymd2ord (year r) (month r) (day r), 0⟩
  end_date_ok                 InRange r → InRange (r+1) → end_date r = .ok ⟨startOrd (r+1) - 1, usPerDay - 1⟩
  end_date_abuts              InRange r → InRange (r+1) → ∃ e s, end_date r = .ok e ∧ start_date (r+1) = .ok s ∧ e.totalUs + 1 = s.totalUs
  end_date_last               end_date 359999 = .error .valueError      (datetime(10000,1,1) raises ValueError)
  ndays_last                  ndays 359999 = .error .valueError
  start_date_out_of_range     r < 36 ∨ 360000 ≤ r → start_date r = .error .valueError
3 membership
  start_le_instant            ValidDate y m d → 0 ≤ us → ∃ s, start_date (ofDate y m d) = .ok s ∧ s.totalUs ≤ (⟨ymd2ord y m d, us⟩ : DateTime).totalUs
  instant_le_end              ValidDate y m d → us < usPerDay → InRange (ofDate y m d + 1) →
                                ∃ e s, end_date (ofDate y m d) = .ok e ∧ start_date (ofDate y m d + 1) = .ok s ∧ t.totalUs ≤ e.totalUs ∧ t.totalUs < s.totalUs
  instant_lt_next_pure        ValidDate y m d → us < usPerDay → t.totalUs < startUs (ofDate y m d + 1)       (also for the last dekad)
  dekad_unique                ValidDate y m d → 0 ≤ us < usPerDay → InRange r' → InRange (r'+1) → start_date r' = .ok s → start_date (r'+1) = .ok s' →
                                s.totalUs ≤ t.totalUs → t.totalUs < s'.totalUs → r' = ofDate y m d
  start_le_instant_pure       ValidDate y m d → 0 ≤ us → startUs (ofDate y m d) ≤ t.totalUs
  dekad_unique_pure           the same with startUs r' ≤ t.totalUs < startUs (r'+1), for every integer r'
  dekad_of_datetime           t : DateTime, 1 ≤ t.ord ≤ maxOrdinal, 0 ≤ t.us < usPerDay, r := ofDate of t's own civil fields (ord2ymd t.ord):
                                InRange r ∧ startUs r ≤ t.totalUs < startUs (r+1) ∧ ∀ r', startUs r' ≤ t.totalUs < startUs (r'+1) → r' = r
  ofDate_mono                 ValidDate y m d → ValidDate y' m' d' → ymd2ord y m d ≤ ymd2ord y' m' d' → ofDate y m d ≤ ofDate y' m' d'
4 ndays
  ndays_ok                    InRange r → InRange (r+1) → ndays r = .ok (if idx r ≤ 2 then 10 else daysInMonth (year r) (month r) - 20)
  ndays_month_sum             InRange r → InRange (r+3) → idx r = 1 → ∃ a b c, ndays r = .ok a ∧ ndays (r+1) = .ok b ∧ ndays (r+2) = .ok c ∧
                                a + b + c = daysInMonth (year r) (month r)
5 round trips
  ofRaw_raw                   ofRaw (raw r) = r
  ofDate_fields               ∀ r, ofDate (year r) (month r) (day r) = r
  ord2ymd_ymd2ord             ValidDate y m d → ord2ymd (ymd2ord y m d) = (y, m, d)                 (CPython's _ord2ymd ∘ _ymd2ord = id)
  ymd2ord_ord2ymd_ok          1 ≤ n ≤ maxOrdinal → ValidDate (ord2ymd n) ∧ ymd2ord (ord2ymd n) = n
  ofDate_start_date           InRange r → ∃ s, start_date r = .ok s ∧ s.ymd = (year r, month r, day r) ∧ ofDate s.ymd.1 s.ymd.2.1 s.ymd.2.2 = r
  ymd_instant                 ValidDate y m d → (⟨ymd2ord y m d, us⟩ : DateTime).ymd = (y, m, d)
  str_shape                   InRange r → ∃ A B C, str r = String.ofList (A ++ B ++ ['d'] ++ C) ∧ |A| = 4 ∧ |B| = 2 ∧ |C| = 1 ∧ all ASCII digits ∧
                                int A = .ok (year r) ∧ int B = .ok (month r) ∧ int C = .ok (idx r)
  str_length                  InRange r → (str r).toList.length = 8
  ofStr_str_ok                InRange r → ofStr (str r) = .ok r
  str_injective               InRange a → InRange b → str a = str b → a = b
6 order
  order_iff_start             InRange a → InRange b → ∃ sa sb, start_date a = .ok sa ∧ start_date b = .ok sb ∧ (lt a b = true ↔ sa.totalUs < sb.totalUs) ∧
                                (le a b = true ↔ sa.totalUs ≤ sb.totalUs) ∧ (gt a b = true ↔ sa.totalUs > sb.totalUs) ∧ (ge a b = true ↔ sa.totalUs ≥ sb.totalUs)
  lt_iff_start, le_iff_start, gt_iff_start, ge_iff_start    the same, one each, for given start_date a = .ok sa, start_date b = .ok sb
  lt_iff_startUs, le_…, gt_…, ge_…     ∀ a b (all integers), lt a b = true ↔ startUs a < startUs b   (le ≤, gt >, ge ≥)
  lt_iff, le_iff, gt_iff, ge_iff, eq_iff   comparison of the raw integers;  eq_iff: eq a b = true ↔ a = b
  eq_hash                     eq a b = true → hashKey a = hashKey b;   hash_inj: hashKey a = hashKey b → a = b
  trichotomy                  exactly one of lt a b, eq a b, gt a b is true;  le_iff_lt_or_eq, ge_iff_gt_or_eq, gt_iff_lt_swap
7 arithmetic
  subDekad_add      subDekad (add r n) r = n          subInt_add     subInt (add r n) n = r
  add_subInt        add (subInt r n) n = r            radd_eq_add    radd r n = add r n
  subDekad_trans    subDekad c a = subDekad c b + subDekad b a
  add_add           add (add r m) n = add r (m + n)   add_zero, add_subDekad, subInt_eq_add_neg
  lt_add_iff        lt r (add r n) = true ↔ 0 < n     startUs_add_lt 0 < n → startUs r < startUs (add r n)
8 examples  (2024-02-29 → idx 3; ndays 2024-02-d3 = 9, 1900-02-d3 = 8, 2000-02-d3 = 9; labels; ord2ymd; …)

Supporting lemmas: Hdc/Lemmas/PyDate.lean (calendar: `daysBeforeMonth_succ`, `ymd2ord_bounds`), Hdc/Lemmas/PyDateOrd.lean (`ord2ymd_ymd2ord`), Hdc/Lemmas/Dekad.lean (field equations, `eq_fields`,
`fields_of_eq`, `startOrd_succ`, `startOrd_strictMono`, `start_date_eq`, `end_date_eq`, `ndays_eq`), Hdc/Lemmas/DekadStr.lean
(`fmtInt`/`int`/`slice`, `ofStr_str`), Hdc/Lemmas/DekadCover.lean (`exists_dekad_of_ord`, `ymd2ord_ord2ymd`).
-/
namespace Hdc.C11
open Hdc Hdc.Py Hdc.PyDate Hdc.Gen.Dekad

/-! ## 1 fields -/

theorem year_ofDate {y m d : Int} (hv : ValidDate y m d) : year (ofDate y m d) = y :=
  (fields_ofDate hv).1

theorem month_ofDate {y m d : Int} (hv : ValidDate y m d) : month (ofDate y m d) = m :=
  (fields_ofDate hv).2.1

theorem idx_ofDate {y m d : Int} (hv : ValidDate y m d) :
    idx (ofDate y m d) = if d ≤ 10 then 1 else if d ≤ 20 then 2 else 3 :=
  (fields_ofDate hv).2.2.1

theorem day_ofDate {y m d : Int} (hv : ValidDate y m d) :
    day (ofDate y m d) = if d ≤ 10 then 1 else if d ≤ 20 then 11 else 21 :=
  (fields_ofDate hv).2.2.2

theorem day_ofDate_mem {y m d : Int} (hv : ValidDate y m d) :
    day (ofDate y m d) = 1 ∨ day (ofDate y m d) = 11 ∨ day (ofDate y m d) = 21 := by
  rw [day_ofDate hv]; omega

theorem yidx_bounds (r : Int) : 1 ≤ yidx r ∧ yidx r ≤ 36 := by
  rw [yidx_eq]; omega

theorem yidx_month_idx (r : Int) : yidx r = 3 * (month r - 1) + idx r := by
  rw [yidx_eq, month_eq, idx_eq]; omega

theorem raw_decomp (r : Int) : raw r = 36 * year r + 3 * (month r - 1) + (idx r - 1) := by
  rw [raw_eq]
  exact eq_fields r

theorem month_bounds (r : Int) : 1 ≤ month r ∧ month r ≤ 12 :=
  ⟨(fields_bounds r).1, (fields_bounds r).2.1⟩

theorem idx_bounds (r : Int) : 1 ≤ idx r ∧ idx r ≤ 3 :=
  (fields_bounds r).2.2

theorem day_idx (r : Int) : day r = 10 * (idx r - 1) + 1 :=
  (fields_of_eq (eq_fields r) (fields_bounds r)).2.2.2

theorem year_bounds {r : Int} (h : InRange r) : 1 ≤ year r ∧ year r ≤ 9999 := by
  unfold InRange at h; rw [year_eq]; omega

theorem len_ofDate {y m d : Int} (hv : ValidDate y m d) :
    len (ofDate y m d) = if d ≤ 20 then 10 else daysInMonth y m - 20 := by
  unfold len
  rw [idx_ofDate hv, year_ofDate hv, month_ofDate hv]
  split <;> split <;> omega

theorem day_ofDate_le {y m d : Int} (hv : ValidDate y m d) :
    day (ofDate y m d) ≤ d ∧ d < day (ofDate y m d) + len (ofDate y m d) := by
  rw [day_ofDate hv, len_ofDate hv]
  obtain ⟨h1, h2, h3, h4, h5, h6⟩ := hv
  split <;> omega

/-! ## 2 dates -/

theorem start_date_ok {r : Int} (h : InRange r) :
    start_date r = .ok ⟨ymd2ord (year r) (month r) (day r), 0⟩ :=
  start_date_eq h

theorem start_date_out_of_range {r : Int} (h : r < 36 ∨ 360000 ≤ r) :
    start_date r = .error .valueError :=
  start_date_error h

theorem end_date_ok {r : Int} (h : InRange r) (h' : InRange (r + 1)) :
    end_date r = .ok ⟨startOrd (r + 1) - 1, usPerDay - 1⟩ :=
  end_date_eq h h'

/-- consecutive dekads abut: the last microsecond of `r` is followed by the first of `r + 1` -/
theorem end_date_abuts {r : Int} (h : InRange r) (h' : InRange (r + 1)) :
    ∃ e s, end_date r = .ok e ∧ start_date (r + 1) = .ok s ∧ e.totalUs + 1 = s.totalUs := by
  refine ⟨_, _, end_date_eq h h', start_date_eq h', ?_⟩
  unfold DateTime.totalUs usPerDay
  simp only []
  omega

/-- the end of the very last dekad 9999-12-d3 is not computable: `datetime(10000, 1, 1)` raises -/
theorem end_date_last : end_date 359999 = .error .valueError := end_date_359999

/-- and so is its `ndays` -/
theorem ndays_last : ndays 359999 = .error .valueError := by
  simp only [Gen.Dekad.ndays, end_date_359999]
  rfl

/-! ## 3 membership -/

theorem startOrd_ofDate {y m d : Int} (hv : ValidDate y m d) :
    startOrd (ofDate y m d) = ymd2ord y m (day (ofDate y m d)) := by
  unfold startOrd
  rw [year_ofDate hv, month_ofDate hv]

theorem start_le_instant_pure {y m d us : Int} (hv : ValidDate y m d) (hus : 0 ≤ us) :
    startUs (ofDate y m d) ≤ (⟨ymd2ord y m d, us⟩ : DateTime).totalUs := by
  have h1 := (day_ofDate_le hv).1
  unfold DateTime.totalUs startUs
  simp only []
  rw [startOrd_ofDate hv]
  unfold ymd2ord usPerDay
  omega

/-- a dekad starts no later than any instant of any of its days -/
theorem start_le_instant {y m d us : Int} (hv : ValidDate y m d) (hus : 0 ≤ us) :
    ∃ s, start_date (ofDate y m d) = .ok s ∧ s.totalUs ≤ (⟨ymd2ord y m d, us⟩ : DateTime).totalUs := by
  refine ⟨_, start_date_eq (ofDate_inRange hv), ?_⟩
  rw [totalUs_start]
  exact start_le_instant_pure hv hus

/-- every instant of the day lies before the start of the next dekad (pure form, also valid
    for the last dekad of year 9999 whose successor has no `datetime`) -/
theorem instant_lt_next_pure {y m d us : Int} (hv : ValidDate y m d) (hus : us < usPerDay) :
    (⟨ymd2ord y m d, us⟩ : DateTime).totalUs < startUs (ofDate y m d + 1) := by
  have h1 := (day_ofDate_le hv).2
  unfold DateTime.totalUs startUs
  simp only []
  rw [startOrd_succ, startOrd_ofDate hv]
  unfold ymd2ord
  unfold usPerDay at *
  omega

/-- … and no later than the dekad's `end_date` -/
theorem instant_le_end {y m d us : Int} (hv : ValidDate y m d) (hus : us < usPerDay)
    (h' : InRange (ofDate y m d + 1)) :
    ∃ e s, end_date (ofDate y m d) = .ok e ∧ start_date (ofDate y m d + 1) = .ok s ∧
      (⟨ymd2ord y m d, us⟩ : DateTime).totalUs ≤ e.totalUs ∧
      (⟨ymd2ord y m d, us⟩ : DateTime).totalUs < s.totalUs := by
  have := instant_lt_next_pure hv hus
  refine ⟨_, _, end_date_eq (ofDate_inRange hv) h', start_date_eq h', ?_, by rwa [totalUs_start]⟩
  unfold startUs at this
  unfold DateTime.totalUs usPerDay at *
  simp only [] at *
  omega

/-- uniqueness (pure form): the only dekad whose half-open interval contains the instant -/
theorem dekad_unique_pure {y m d us : Int} (hv : ValidDate y m d) (h0 : 0 ≤ us) (h1 : us < usPerDay)
    (r' : Int) (hlo : startUs r' ≤ (⟨ymd2ord y m d, us⟩ : DateTime).totalUs)
    (hhi : (⟨ymd2ord y m d, us⟩ : DateTime).totalUs < startUs (r' + 1)) : r' = ofDate y m d := by
  have a := start_le_instant_pure hv h0
  have b := instant_lt_next_pure hv h1
  have c1 : startUs r' < startUs (ofDate y m d + 1) := by omega
  have c2 : startUs (ofDate y m d) < startUs (r' + 1) := by omega
  rw [startUs_lt_iff] at c1 c2
  omega

theorem dekad_unique {y m d us : Int} (hv : ValidDate y m d) (h0 : 0 ≤ us) (h1 : us < usPerDay)
    {r' : Int} (hr : InRange r') (hr' : InRange (r' + 1)) {s s' : DateTime}
    (hs : start_date r' = .ok s) (hs' : start_date (r' + 1) = .ok s')
    (hlo : s.totalUs ≤ (⟨ymd2ord y m d, us⟩ : DateTime).totalUs)
    (hhi : (⟨ymd2ord y m d, us⟩ : DateTime).totalUs < s'.totalUs) : r' = ofDate y m d := by
  rw [totalUs_of_start_date hr hs] at hlo
  rw [totalUs_of_start_date hr' hs'] at hhi
  exact dekad_unique_pure hv h0 h1 r' hlo hhi

/-- every datetime of the range lies in exactly one dekad, the one of its own civil fields
    (`Dekad(t)` contains `t`) -/
theorem dekad_of_datetime (t : DateTime) (h1 : 1 ≤ t.ord) (h2 : t.ord ≤ maxOrdinal)
    (hu0 : 0 ≤ t.us) (hu1 : t.us < usPerDay) :
    InRange (ofDate t.ymd.1 t.ymd.2.1 t.ymd.2.2) ∧
    startUs (ofDate t.ymd.1 t.ymd.2.1 t.ymd.2.2) ≤ t.totalUs ∧
    t.totalUs < startUs (ofDate t.ymd.1 t.ymd.2.1 t.ymd.2.2 + 1) ∧
    ∀ r', startUs r' ≤ t.totalUs → t.totalUs < startUs (r' + 1) → r' = ofDate t.ymd.1 t.ymd.2.1 t.ymd.2.2 := by
  obtain ⟨y, m, d, hv, ho⟩ := exists_date_of_ord h1 h2
  obtain ⟨o, u⟩ := t
  subst ho
  simp only [DateTime.ymd, ord2ymd_ymd2ord_valid hv]
  exact ⟨ofDate_inRange hv, start_le_instant_pure hv hu0, instant_lt_next_pure hv hu1,
    dekad_unique_pure hv hu0 hu1⟩

/-- `Dekad(date)` is monotone in the date -/
theorem ofDate_mono {y m d y' m' d' : Int} (hv : ValidDate y m d) (hv' : ValidDate y' m' d')
    (h : ymd2ord y m d ≤ ymd2ord y' m' d') : ofDate y m d ≤ ofDate y' m' d' := by
  have a := start_le_instant_pure (us := 0) hv (by omega)
  have b := instant_lt_next_pure (us := 0) hv' (by decide)
  have c : startUs (ofDate y m d) < startUs (ofDate y' m' d' + 1) := by
    unfold DateTime.totalUs at a b
    simp only [] at a b
    unfold usPerDay at a b
    omega
  rw [startUs_lt_iff] at c
  omega

/-! ## 4 ndays -/

theorem ndays_ok {r : Int} (h : InRange r) (h' : InRange (r + 1)) :
    ndays r = .ok (if idx r ≤ 2 then 10 else daysInMonth (year r) (month r) - 20) :=
  ndays_eq h h'

/-- the three dekads of a month have `daysInMonth` days together -/
theorem ndays_month_sum {r : Int} (h : InRange r) (h3 : InRange (r + 3)) (hi : idx r = 1) :
    ∃ a b c, ndays r = .ok a ∧ ndays (r + 1) = .ok b ∧ ndays (r + 2) = .ok c ∧
      a + b + c = daysInMonth (year r) (month r) := by
  have h1 : InRange (r + 1) := by unfold InRange at *; omega
  have h2 : InRange (r + 2) := by unfold InRange at *; omega
  refine ⟨_, _, _, ndays_eq h h1, ndays_eq h1 (by rwa [show r + 1 + 1 = r + 2 by omega]),
    ndays_eq h2 (by rwa [show r + 2 + 1 = r + 3 by omega]), ?_⟩
  have hb := fields_bounds r
  have hr := eq_fields r
  obtain ⟨-, -, i1, -⟩ := fields_of_eq (r := r + 1) (y := year r) (m := month r) (i := 2)
    (by omega) (by omega)
  obtain ⟨y2, m2, i2, -⟩ := fields_of_eq (r := r + 2) (y := year r) (m := month r) (i := 3)
    (by omega) (by omega)
  unfold len
  rw [hi, i1, i2, y2, m2, if_pos (by omega), if_pos (by omega), if_neg (by omega)]
  omega

/-! ## 5 round trips -/

theorem ofRaw_raw (r : Int) : ofRaw (raw r) = r := by
  rw [ofRaw_eq, raw_eq]

/-- `Dekad(d.start_date)` (by its civil fields year/month/day) is `d`, for every integer -/
theorem ofDate_fields (r : Int) : ofDate (year r) (month r) (day r) = r := by
  have hr := eq_fields r
  have hi := idx_bounds r
  rw [ofDate_eq, day_idx]
  omega

/-- CPython's `_ord2ymd` inverts `_ymd2ord` on every valid date 0001-01-01 .. 9999-12-31 -/
theorem ord2ymd_ymd2ord {y m d : Int} (hv : ValidDate y m d) : ord2ymd (ymd2ord y m d) = (y, m, d) :=
  ord2ymd_ymd2ord_valid hv

/-- … and `_ymd2ord` inverts `_ord2ymd` on 1 ..= maxOrdinal, where `_ord2ymd` yields valid dates -/
theorem ymd2ord_ord2ymd_ok {n : Int} (h1 : 1 ≤ n) (h2 : n ≤ maxOrdinal) :
    ValidDate (ord2ymd n).1 (ord2ymd n).2.1 (ord2ymd n).2.2 ∧
    ymd2ord (ord2ymd n).1 (ord2ymd n).2.1 (ord2ymd n).2.2 = n :=
  ymd2ord_ord2ymd h1 h2

/-- `Dekad(d.start_date) == d` through the datetime's own civil fields (`_ord2ymd` of its ordinal) -/
theorem ofDate_start_date {r : Int} (h : InRange r) :
    ∃ s, start_date r = .ok s ∧ s.ymd = (year r, month r, day r) ∧
      ofDate s.ymd.1 s.ymd.2.1 s.ymd.2.2 = r := by
  refine ⟨_, start_date_eq h, ?_, ?_⟩
  · exact ord2ymd_ymd2ord_valid (start_valid h)
  · have e : (⟨startOrd r, 0⟩ : DateTime).ymd = (year r, month r, day r) :=
      ord2ymd_ymd2ord_valid (start_valid h)
    rw [e]
    exact ofDate_fields r

/-- `Dekad(t)` of a datetime `t` on the civil date `y-m-d` is `ofDate y m d` of `t`'s own civil fields -/
theorem ymd_instant {y m d us : Int} (hv : ValidDate y m d) :
    (⟨ymd2ord y m d, us⟩ : DateTime).ymd = (y, m, d) :=
  ord2ymd_ymd2ord_valid hv

/-- the label is `YYYY` `MM` `d` `I`: 4 + 2 ASCII digits, the letter d, one digit, whose `int`s are
    year, month and idx -/
theorem str_shape {r : Int} (h : InRange r) :
    ∃ A B C : List Char, str r = String.ofList (A ++ B ++ ['d'] ++ C) ∧
      A.length = 4 ∧ B.length = 2 ∧ C.length = 1 ∧
      (∀ c ∈ A ++ B ++ C, c.isDigit = true) ∧
      Py.int (String.ofList A) = .ok (year r) ∧ Py.int (String.ofList B) = .ok (month r) ∧
      Py.int (String.ofList C) = .ok (idx r) := by
  have hy : 0 ≤ year r ∧ year r < 10000 := by unfold InRange at h; rw [year_eq]; omega
  have hm : 1 ≤ month r ∧ month r ≤ 12 := by rw [month_eq]; omega
  have hi : 1 ≤ idx r ∧ idx r ≤ 3 := by rw [idx_eq]; omega
  refine ⟨_, _, _, str_eq h, fmtL_length (by decide) (by omega), fmtL_length (by decide) (by omega),
    fmtL_zero_length (by omega), ?_, ?_, ?_, ?_⟩
  · intro c hc
    simp only [List.mem_append] at hc
    rcases hc with (hc | hc) | hc <;> exact fmtL_isDigit _ _ c hc
  · rw [int_fmtL, Int.toNat_of_nonneg hy.1]
  · rw [int_fmtL, Int.toNat_of_nonneg (by omega)]
  · rw [int_fmtL, Int.toNat_of_nonneg (by omega)]

theorem str_length {r : Int} (h : InRange r) : (str r).toList.length = 8 := by
  obtain ⟨A, B, C, e, hA, hB, hC, _⟩ := str_shape h
  rw [e, String.toList_ofList]
  simp [hA, hB, hC]

/-- `Dekad(str(d)) == d` -/
theorem ofStr_str_ok {r : Int} (h : InRange r) : ofStr (str r) = .ok r := ofStr_str h

/-- labels are unique -/
theorem str_injective {a b : Int} (ha : InRange a) (hb : InRange b) (h : str a = str b) : a = b := by
  have e1 := ofStr_str ha
  have e2 := ofStr_str hb
  rw [h, e2] at e1
  cases e1
  rfl

/-! ## 6 order -/

theorem lt_iff (a b : Int) : lt a b = true ↔ a < b := by
  simp only [Gen.Dekad.lt, decide_eq_true_eq]
theorem le_iff (a b : Int) : le a b = true ↔ a ≤ b := by
  simp only [Gen.Dekad.le, decide_eq_true_eq]
theorem gt_iff (a b : Int) : gt a b = true ↔ b < a := by
  simp only [Gen.Dekad.gt, decide_eq_true_eq, gt_iff_lt]
theorem ge_iff (a b : Int) : ge a b = true ↔ b ≤ a := by
  simp only [Gen.Dekad.ge, decide_eq_true_eq, ge_iff_le]

theorem eq_iff (a b : Int) : eq a b = true ↔ a = b := by
  simp only [Gen.Dekad.eq, decide_eq_true_eq]

theorem eq_hash {a b : Int} (h : eq a b = true) : hashKey a = hashKey b := by
  rw [(eq_iff a b).1 h]

theorem hash_inj {a b : Int} (h : hashKey a = hashKey b) : a = b := by
  simpa only [Gen.Dekad.hashKey] using h

theorem lt_iff_startUs (a b : Int) : lt a b = true ↔ startUs a < startUs b := by
  rw [lt_iff, startUs_lt_iff]
theorem le_iff_startUs (a b : Int) : le a b = true ↔ startUs a ≤ startUs b := by
  rw [le_iff, startUs_le_iff]
theorem gt_iff_startUs (a b : Int) : gt a b = true ↔ startUs a > startUs b := by
  rw [gt_iff, gt_iff_lt, startUs_lt_iff]
theorem ge_iff_startUs (a b : Int) : ge a b = true ↔ startUs a ≥ startUs b := by
  rw [ge_iff, ge_iff_le, startUs_le_iff]

/-- the order of dekads is the chronological order of their start dates -/
theorem order_iff_start {a b : Int} (ha : InRange a) (hb : InRange b) :
    ∃ sa sb, start_date a = .ok sa ∧ start_date b = .ok sb ∧
      (lt a b = true ↔ sa.totalUs < sb.totalUs) ∧ (le a b = true ↔ sa.totalUs ≤ sb.totalUs) ∧
      (gt a b = true ↔ sa.totalUs > sb.totalUs) ∧ (ge a b = true ↔ sa.totalUs ≥ sb.totalUs) := by
  refine ⟨_, _, start_date_eq ha, start_date_eq hb, ?_, ?_, ?_, ?_⟩ <;> rw [totalUs_start, totalUs_start]
  · exact lt_iff_startUs a b
  · exact le_iff_startUs a b
  · exact gt_iff_startUs a b
  · exact ge_iff_startUs a b

theorem lt_iff_start {a b : Int} (ha : InRange a) (hb : InRange b) {sa sb : DateTime}
    (hsa : start_date a = .ok sa) (hsb : start_date b = .ok sb) :
    lt a b = true ↔ sa.totalUs < sb.totalUs := by
  rw [totalUs_of_start_date ha hsa, totalUs_of_start_date hb hsb]
  exact lt_iff_startUs a b

theorem le_iff_start {a b : Int} (ha : InRange a) (hb : InRange b) {sa sb : DateTime}
    (hsa : start_date a = .ok sa) (hsb : start_date b = .ok sb) :
    le a b = true ↔ sa.totalUs ≤ sb.totalUs := by
  rw [totalUs_of_start_date ha hsa, totalUs_of_start_date hb hsb]
  exact le_iff_startUs a b

theorem gt_iff_start {a b : Int} (ha : InRange a) (hb : InRange b) {sa sb : DateTime}
    (hsa : start_date a = .ok sa) (hsb : start_date b = .ok sb) :
    gt a b = true ↔ sa.totalUs > sb.totalUs := by
  rw [totalUs_of_start_date ha hsa, totalUs_of_start_date hb hsb]
  exact gt_iff_startUs a b

theorem ge_iff_start {a b : Int} (ha : InRange a) (hb : InRange b) {sa sb : DateTime}
    (hsa : start_date a = .ok sa) (hsb : start_date b = .ok sb) :
    ge a b = true ↔ sa.totalUs ≥ sb.totalUs := by
  rw [totalUs_of_start_date ha hsa, totalUs_of_start_date hb hsb]
  exact ge_iff_startUs a b

/-- exactly one of `<`, `==`, `>` holds -/
theorem trichotomy (a b : Int) :
    (lt a b = true ∧ eq a b = false ∧ gt a b = false) ∨
    (lt a b = false ∧ eq a b = true ∧ gt a b = false) ∨
    (lt a b = false ∧ eq a b = false ∧ gt a b = true) := by
  simp only [Gen.Dekad.lt, Gen.Dekad.eq, Gen.Dekad.gt, decide_eq_true_eq, decide_eq_false_iff_not]
  omega

theorem le_iff_lt_or_eq (a b : Int) : le a b = true ↔ (lt a b = true ∨ eq a b = true) := by
  rw [le_iff, lt_iff, eq_iff]; omega

theorem ge_iff_gt_or_eq (a b : Int) : ge a b = true ↔ (gt a b = true ∨ eq a b = true) := by
  rw [ge_iff, gt_iff, eq_iff]; omega

theorem gt_iff_lt_swap (a b : Int) : gt a b = lt b a := by
  simp only [Gen.Dekad.lt, Gen.Dekad.gt, gt_iff_lt]

/-! ## 7 arithmetic -/

theorem subDekad_add (r n : Int) : subDekad (add r n) r = n := by
  simp only [Gen.Dekad.subDekad, Gen.Dekad.add] <;> omega

theorem subInt_add (r n : Int) : subInt (add r n) n = r := by
  simp only [Gen.Dekad.subInt, Gen.Dekad.add] <;> omega

theorem add_subInt (r n : Int) : add (subInt r n) n = r := by
  simp only [Gen.Dekad.subInt, Gen.Dekad.add] <;> omega

theorem radd_eq_add (r n : Int) : radd r n = add r n := by
  simp only [Gen.Dekad.radd, Gen.Dekad.add] <;> omega

theorem subDekad_trans (a b c : Int) : subDekad c a = subDekad c b + subDekad b a := by
  simp only [Gen.Dekad.subDekad] <;> omega

theorem add_add (r m n : Int) : add (add r m) n = add r (m + n) := by
  simp only [Gen.Dekad.add] <;> omega

theorem add_zero (r : Int) : add r 0 = r := by
  simp only [Gen.Dekad.add] <;> omega

theorem add_subDekad (a b : Int) : add a (subDekad b a) = b := by
  simp only [Gen.Dekad.subDekad, Gen.Dekad.add] <;> omega

theorem subInt_eq_add_neg (r n : Int) : subInt r n = add r (-n) := by
  simp only [Gen.Dekad.subInt, Gen.Dekad.add] <;> omega

theorem lt_add_iff (r n : Int) : lt r (add r n) = true ↔ 0 < n := by
  rw [lt_iff, add_eq]; omega

/-- adding `n` dekads moves the start date forward by at least `8 n` days (strictly later) -/
theorem startUs_add_lt (r : Int) {n : Int} (h : 0 < n) : startUs r < startUs (add r n) := by
  rw [startUs_lt_iff, add_eq]; omega

/-! ## 8 non-vacuity examples -/

example : ValidDate 2024 2 29 := by unfold ValidDate; decide
example : ofDate 2024 2 29 = 72869 := by decide
example : idx (ofDate 2024 2 29) = 3 ∧ month (ofDate 2024 2 29) = 2 ∧ year (ofDate 2024 2 29) = 2024 ∧
    day (ofDate 2024 2 29) = 21 ∧ yidx (ofDate 2024 2 29) = 6 := by decide
example : ndays (ofDate 2024 2 21) = .ok 9 := by rfl
example : ndays (ofDate 1900 2 21) = .ok 8 := by rfl
example : ndays (ofDate 2000 2 21) = .ok 9 := by rfl
example : ndays (ofDate 2023 2 28) = .ok 8 := by rfl
example : ndays (ofDate 2024 1 31) = .ok 11 := by rfl
example : ndays (ofDate 2024 4 5) = .ok 10 := by rfl
example : start_date (ofDate 2024 2 29) = .ok ⟨738937, 0⟩ := by rfl
example : end_date (ofDate 2024 2 29) = .ok ⟨738945, 86399999999⟩ := by rfl
example : start_date (ofDate 2024 3 1) = .ok ⟨738946, 0⟩ := by rfl
example : InRange 36 ∧ InRange 359999 ∧ ¬ InRange 360000 := by unfold InRange; decide
example : start_date 36 = .ok ⟨1, 0⟩ := by rfl
example : start_date 359999 = .ok ⟨3652049, 0⟩ := by rfl
example : str (ofDate 2024 2 29) = "202402d3" := by decide
example : str 36 = "000101d1" ∧ str 359999 = "999912d3" := by decide
example : ord2ymd (ymd2ord 2024 2 29) = (2024, 2, 29) := by decide
example : ord2ymd (ymd2ord 2000 12 31) = (2000, 12, 31) ∧ ord2ymd (ymd2ord 2024 12 31) = (2024, 12, 31) := by decide
example : ofStr "202402d3" = .ok 72869 := by rfl
example : ofStr "202413d1" = .error .assertionError := by rfl
example : subDekad (ofDate 2024 3 1) (ofDate 2024 2 29) = 1 := by decide
example : lt (ofDate 2023 12 31) (ofDate 2024 1 1) = true := by decide

end Hdc.C11
