import Hdc.Gen.Effects
import Hdc.Lemmas.ConcLazy
import Hdc.Lemmas.ConcPrange
/-
C12  Results do not depend on the schedule: threads, interleavings, chunking, layout.

The effect summaries `Hdc.Gen.Effects.lazyProg` and `Hdc.Gen.Effects.prangeSummary` are GENERATED from
the Python source on every verification run.  The semantics and the decidable predicates live in
Hdc/Lemmas/ConcLazy.lean and Hdc/Lemmas/ConcPrange.lean; the theorems there are generic (every program /
summary that satisfies the predicate, every number of threads, every schedule of every length); here
the generated instances are discharged by `decide`, so a change of the source that alters a summary
in an unsafe way makes this file fail to compile.

Formal statements (namespace Hdc.C12)

Part A — lazy initialisation of the compiled kernel (`lazycompile`)
  semantics          Hdc.Conc.step / run : one atomic instruction of the scheduled thread per step,
                     schedule = List (thread × adversary bit); runNat / runFin for List ℕ / List (Fin N)
  predicate          Hdc.Conc.SafeLazyInit prog : Bool
                       = noStoreOther prog && forwardJumps prog && absRun prog prog.length 0 false
  lazy_init_safe        SafeLazyInit prog → ∀ N sched i v, (run prog N sched).call i = some v → v = compiled
  lazy_cache_monotone   SafeLazyInit prog → cache ∈ {none, compiled} ∧ (cache = compiled → stays compiled)
  lazy_cache_never_reset  SafeLazyInit prog → cache ≠ none → cache = compiled after any continuation
  lazy_all_terminate    SafeLazyInit prog → every thread i < N scheduled ≥ length times → all finished
  lazyProg_safe         SafeLazyInit lazyProg = true                                   (decide)
  lazycompile_calls_compiled, lazycompile_calls_compiled_nat, lazycompile_calls_compiled_fin,
  lazycompile_cache_monotone, lazycompile_terminates     the corollaries for the generated program
  lazycompile_never_none                         no call of the generated program sees `none` or a placeholder
  placeholder_not_safe, placeholder_sees_other   [loadTest 3, storeOther, storeCompiled, loadCall]:
                        rejected, and 2 threads + schedule [0,0,1,1] call `other`
  bare_call_not_safe, bare_call_sees_none        [loadCall]: rejected, the call sees `none`
  reset_not_safe, reset_sees_none                [storeOther, loadTest 3, storeCompiled, loadCall]:
                        rejected, 2 threads: thread 0 calls `none`
  backward_jump_not_safe                         a loop `loadTest 0` is rejected
  unguarded_not_safe                             [loadTest 1, loadCall]: the store is skipped, rejected

Part B — the parallel row loop (`numba.prange`) of ws2doptvplc
  semantics          Hdc.Conc.Action / execEv / exec : atomic actions that read cells and write cells
                     with values computed from what was read and the iteration's private state;
                     IsInterleaving iters nr evs : evs is an order-preserving merge of the iterations
                     Touches / IterConforms : an iteration stays within the summary
  predicate          Hdc.Conc.RowLocal s : Bool   (characterised by Hdc.Conc.rowLocal_iff)
  rowlocal_disjoint             RowLocal s → r ≠ r' → write-set(r) ∩ (read-set(r') ∪ write-set(r')) = ∅
  prange_schedule_independent   RowLocal s → conforming iterations → ∀ interleaving evs,
                                   exec st evs = exec st (seqEvents iters nr)
  prange_any_two_schedules_agree
  prange_row_order_irrelevant   rows executed one after the other in any order (any permutation)
  prange_threads_independent    T threads, rows dealt out in any way, any merge of the threads
  prangeSummary_rowLocal        RowLocal prangeSummary = true                              (decide)
  ws2doptvplc_prange_schedule_independent, ws2doptvplc_prange_threads_independent,
  ws2doptvplc_prange_disjoint   corollaries for the generated summary
  hoisted_not_rowLocal, hoisted_conforms, hoisted_interleavings, hoisted_schedules_differ
                                `xx` hoisted out of the loop: rejected; conforming iterations whose two
                                interleavings end in different stores
  unindexed_write_not_rowLocal, mixed_axis_not_rowLocal, neighbour_read_not_rowLocal, shadowed_not_rowLocal
                                further rejected summaries

Part C — pixel maps (the accessor applies one kernel per pixel series)
  map_perm               cube ~ cube' → mapPixels f cube ~ mapPixels f cube'
  map_reindex            gathering pixels by any index function commutes with mapPixels
  map_chunks             (chunks.map (mapPixels f)).flatten = mapPixels f chunks.flatten
  map_split              mapPixels f (take k) ++ mapPixels f (drop k) = mapPixels f
  map_pixel_local        cube[i]? = cube'[i]? → results agree at i
  map_length             (mapPixels f cube).length = cube.length
  zonal_time_separable   per-time-step reductions are invariant under chunking of the time axis
-/
namespace Hdc.C12
open Hdc.Effects Hdc.Conc Hdc.Gen.Effects

/-! ## Part A -/

theorem lazy_init_safe {prog : List Instr} (h : SafeLazyInit prog = true) (N : Nat)
    (sched : List (Nat × Bool)) (i : Nat) (v : Val) (hv : (run prog N sched).call i = some v) :
    v = Val.compiled := Hdc.Conc.lazy_init_safe h N sched i v hv

theorem lazy_cache_monotone {prog : List Instr} (h : SafeLazyInit prog = true) (N : Nat)
    (sched more : List (Nat × Bool)) :
    ((run prog N sched).cache = Val.none ∨ (run prog N sched).cache = Val.compiled) ∧
    ((run prog N sched).cache = Val.compiled → (run prog N (sched ++ more)).cache = Val.compiled) :=
  Hdc.Conc.lazy_cache_monotone h N sched more

theorem lazy_cache_never_reset {prog : List Instr} (h : SafeLazyInit prog = true) (N : Nat)
    (sched more : List (Nat × Bool)) (hc : (run prog N sched).cache ≠ Val.none) :
    (run prog N (sched ++ more)).cache = Val.compiled :=
  Hdc.Conc.lazy_cache_never_reset h N sched more hc

theorem lazy_all_terminate {prog : List Instr} (h : SafeLazyInit prog = true) (N : Nat)
    (sched : List (Nat × Bool)) (hfair : ∀ i, i < N → prog.length ≤ turns i sched) :
    ∀ i, i < N → finished prog (run prog N sched) i :=
  Hdc.Conc.lazy_all_terminate h N sched hfair

/-- A4: the generated program passes -/
theorem lazyProg_safe : SafeLazyInit lazyProg = true := by decide

theorem lazycompile_calls_compiled (N : Nat) (sched : List (Nat × Bool)) (i : Nat) (v : Val)
    (hv : (run lazyProg N sched).call i = some v) : v = Val.compiled :=
  lazy_init_safe lazyProg_safe N sched i v hv

theorem lazycompile_calls_compiled_nat (N : Nat) (sched : List Nat) (i : Nat) (v : Val)
    (hv : (runNat lazyProg N sched).call i = some v) : v = Val.compiled :=
  lazy_init_safe lazyProg_safe N _ i v hv

theorem lazycompile_calls_compiled_fin (N : Nat) (sched : List (Fin N)) (i : Fin N) (v : Val)
    (hv : (runFin lazyProg N sched).call i = some v) : v = Val.compiled :=
  lazy_init_safe lazyProg_safe N _ i v hv

/-- never "NoneType is not callable", never a placeholder -/
theorem lazycompile_never_none (N : Nat) (sched : List (Nat × Bool)) (i : Nat) :
    (run lazyProg N sched).call i ≠ some Val.none ∧ (run lazyProg N sched).call i ≠ some Val.other := by
  constructor <;> intro h <;> have := lazycompile_calls_compiled N sched i _ h <;> cases this

theorem lazycompile_cache_monotone (N : Nat) (sched more : List (Nat × Bool)) :
    ((run lazyProg N sched).cache = Val.none ∨ (run lazyProg N sched).cache = Val.compiled) ∧
    ((run lazyProg N sched).cache = Val.compiled →
      (run lazyProg N (sched ++ more)).cache = Val.compiled) :=
  lazy_cache_monotone lazyProg_safe N sched more

theorem lazycompile_terminates (N : Nat) (sched : List (Nat × Bool))
    (hfair : ∀ i, i < N → 3 ≤ turns i sched) : ∀ i, i < N → finished lazyProg (run lazyProg N sched) i :=
  lazy_all_terminate lazyProg_safe N sched hfair

/-! ### A5: programs that are rejected, with the schedules that break them -/

/-- a placeholder is published before compiling -/
def placeholderProg : List Instr := [.loadTest 3, .storeOther, .storeCompiled, .loadCall]

theorem placeholder_not_safe : SafeLazyInit placeholderProg = false := by decide

/-- thread 0 tests and publishes the placeholder; thread 1 tests, skips and calls it -/
theorem placeholder_sees_other :
    (runNat placeholderProg 2 [0, 0, 1, 1]).call 1 = some Val.other := by decide

theorem bare_call_not_safe : SafeLazyInit [.loadCall] = false := by decide

theorem bare_call_sees_none : (runNat [.loadCall] 1 [0]).call 0 = some Val.none := by decide

/-- the cache is reset at the start of every call -/
def resetProg : List Instr := [.storeOther, .loadTest 3, .storeCompiled, .loadCall]

theorem reset_not_safe : SafeLazyInit resetProg = false := by decide

/-- thread 0 resets, tests, compiles; thread 1 resets; thread 0 calls `None` -/
theorem reset_sees_none :
    (run resetProg 2 [(0, false), (0, false), (0, false), (1, false), (0, false)]).call 0
      = some Val.none := by decide

theorem backward_jump_not_safe : SafeLazyInit [.loadTest 0, .storeCompiled, .loadCall] = false := by
  decide

/-- the store is skipped: the call is reached with the cell still empty -/
theorem unguarded_not_safe : SafeLazyInit [.loadTest 1, .loadCall] = false := by decide

/-! ## Part B -/

theorem rowlocal_disjoint {V P : Type} {s : Summary} (h : RowLocal s = true) {r r' : Nat}
    (hne : r ≠ r') (acts acts' : List (Action V P)) (hc : IterConforms s r acts)
    (hc' : IterConforms s r' acts') :
    ∀ a ∈ acts, ∀ a' ∈ acts', ∀ l ∈ a.writes, l ∉ a'.reads ∧ l ∉ a'.writes :=
  Hdc.Conc.rowlocal_disjoint h hne acts acts' hc hc'

theorem prange_schedule_independent {V P : Type} {s : Summary} (h : RowLocal s = true)
    (iters : Nat → List (Action V P)) (nr : Nat) (hc : ∀ r, r < nr → IterConforms s r (iters r))
    (evs : List (Nat × Action V P)) (hi : IsInterleaving iters nr evs) (st : PState V P) :
    exec st evs = exec st (seqEvents iters nr) :=
  Hdc.Conc.prange_schedule_independent h iters nr hc evs hi st

theorem prange_any_two_schedules_agree {V P : Type} {s : Summary} (h : RowLocal s = true)
    (iters : Nat → List (Action V P)) (nr : Nat) (hc : ∀ r, r < nr → IterConforms s r (iters r))
    (evs evs' : List (Nat × Action V P)) (hi : IsInterleaving iters nr evs)
    (hi' : IsInterleaving iters nr evs') (st : PState V P) :
    (exec st evs).store = (exec st evs').store :=
  Hdc.Conc.prange_any_two_schedules_agree h iters nr hc evs evs' hi hi' st

theorem prange_row_order_irrelevant {V P : Type} {s : Summary} (h : RowLocal s = true)
    (iters : Nat → List (Action V P)) (nr : Nat) (hc : ∀ r, r < nr → IterConforms s r (iters r))
    (rows : List Nat) (hnd : rows.Nodup) (hmem : ∀ r, r ∈ rows ↔ r < nr) (st : PState V P) :
    exec st (chunkEvents iters rows) = exec st (seqEvents iters nr) :=
  Hdc.Conc.prange_row_order_irrelevant h iters nr hc rows hnd hmem st

theorem prange_threads_independent {V P : Type} {s : Summary} (h : RowLocal s = true)
    (iters : Nat → List (Action V P)) (nr : Nat) (hc : ∀ r, r < nr → IterConforms s r (iters r))
    (T : Nat) (assign : Nat → List Nat) (hd : IsDeal nr T assign)
    (tevs : List (Nat × (Nat × Action V P))) (hm : IsThreadMerge iters T assign tevs)
    (st : PState V P) : exec st (tevs.map (·.2)) = exec st (seqEvents iters nr) :=
  Hdc.Conc.prange_threads_independent h iters nr hc T assign hd tevs hm st

/-- B3: the generated summary passes -/
theorem prangeSummary_rowLocal : RowLocal prangeSummary = true := by decide

theorem ws2doptvplc_prange_schedule_independent {V P : Type} (iters : Nat → List (Action V P))
    (nr : Nat) (hc : ∀ r, r < nr → IterConforms prangeSummary r (iters r))
    (evs : List (Nat × Action V P)) (hi : IsInterleaving iters nr evs) (st : PState V P) :
    exec st evs = exec st (seqEvents iters nr) :=
  prange_schedule_independent prangeSummary_rowLocal iters nr hc evs hi st

theorem ws2doptvplc_prange_threads_independent {V P : Type} (iters : Nat → List (Action V P))
    (nr : Nat) (hc : ∀ r, r < nr → IterConforms prangeSummary r (iters r))
    (T : Nat) (assign : Nat → List Nat) (hd : IsDeal nr T assign)
    (tevs : List (Nat × (Nat × Action V P))) (hm : IsThreadMerge iters T assign tevs)
    (st : PState V P) : exec st (tevs.map (·.2)) = exec st (seqEvents iters nr) :=
  prange_threads_independent prangeSummary_rowLocal iters nr hc T assign hd tevs hm st

theorem ws2doptvplc_prange_disjoint {V P : Type} {r r' : Nat} (hne : r ≠ r')
    (acts acts' : List (Action V P)) (hc : IterConforms prangeSummary r acts)
    (hc' : IterConforms prangeSummary r' acts') :
    ∀ a ∈ acts, ∀ a' ∈ acts', ∀ l ∈ a.writes, l ∉ a'.reads ∧ l ∉ a'.writes :=
  rowlocal_disjoint prangeSummary_rowLocal hne acts acts' hc hc'

/-! ### B4: summaries that are rejected -/

/-- the scratch array `xx` allocated once before the loop instead of once per row -/
def hoistedSummary : Summary :=
  { prangeSummary with
    shared := prangeSummary.shared ++ ["xx"],
    priv := prangeSummary.priv.filter (· ≠ "xx") }

theorem hoisted_not_rowLocal : RowLocal hoistedSummary = false := by decide

/-- `xx[0] = tyx[0, r]` -/
def loadAct (r : Nat) : Action Nat Unit :=
  { reads := [("tyx", [0, r])], writes := [("xx", [0])], compute := fun vs p => (vs, p) }
/-- `zz[0, r] = xx[0]` -/
def storeAct (r : Nat) : Action Nat Unit :=
  { reads := [("xx", [0])], writes := [("zz", [0, r])], compute := fun vs p => (vs, p) }

/-- row `r`:  `xx[0] = tyx[0, r]` ; `zz[0, r] = xx[0]` -/
def hoistedIter (r : Nat) : List (Action Nat Unit) := [loadAct r, storeAct r]

def hoistedInit : PState Nat Unit :=
  { store := fun l => if l.1 = "tyx" then 10 + l.2.getD 1 0 else 0, priv := fun _ => () }

/-- both rows load `xx` first, then both store it -/
def hoistedRace : List (Nat × Action Nat Unit) :=
  [(0, loadAct 0), (1, loadAct 1), (0, storeAct 0), (1, storeAct 1)]

theorem hoisted_conforms (r : Nat) : IterConforms hoistedSummary r (hoistedIter r) := by
  intro a ha
  simp only [hoistedIter, List.mem_cons, List.not_mem_nil, or_false] at ha
  -- each of the three cells is covered by the summary's access to its array
  have htyx : ∀ w, w = false → Touches hoistedSummary r w ("tyx", [0, r]) := fun w hw =>
    Touches.shared (show "tyx" ∈ hoistedSummary.shared by decide) ⟨"tyx", false, some 1⟩ (by decide) rfl (by simp [hw]) (by simp)
  have hxx : ∀ w, Touches hoistedSummary r w ("xx", [0]) := fun w =>
    Touches.shared (by decide) ⟨"xx", true, none⟩ (by decide) rfl (by simp) (by simp)
  have hzz : ∀ w, Touches hoistedSummary r w ("zz", [0, r]) := fun w =>
    Touches.shared (show "zz" ∈ hoistedSummary.shared by decide) ⟨"zz", true, some 1⟩ (by decide) rfl (by simp) (by simp)
  rcases ha with rfl | rfl
  · exact ⟨fun l hl => by rw [List.mem_singleton.mp hl]; exact htyx _ rfl,
      fun l hl => by rw [List.mem_singleton.mp hl]; exact hxx _⟩
  · exact ⟨fun l hl => by rw [List.mem_singleton.mp hl]; exact hxx _,
      fun l hl => by rw [List.mem_singleton.mp hl]; exact hzz _⟩

theorem hoisted_interleavings :
    IsInterleaving hoistedIter 2 hoistedRace ∧ IsInterleaving hoistedIter 2 (seqEvents hoistedIter 2) := by
  refine ⟨⟨?_, ?_⟩, seqEvents_isInterleaving _ _⟩
  · intro e he
    simp only [hoistedRace, List.mem_cons, List.not_mem_nil, or_false] at he
    rcases he with rfl | rfl | rfl | rfl <;> decide
  · intro r hr
    have : r = 0 ∨ r = 1 := by omega
    rcases this with rfl | rfl <;> rfl

/-- the two interleavings of conforming iterations leave different values in `zz[0, 0]` -/
theorem hoisted_schedules_differ :
    (exec hoistedInit (seqEvents hoistedIter 2)).store ("zz", [0, 0]) = 10 ∧
    (exec hoistedInit hoistedRace).store ("zz", [0, 0]) = 11 := by decide

/-- a shared cell written without the row index -/
theorem unindexed_write_not_rowLocal :
    RowLocal { prangeSummary with accesses := prangeSummary.accesses ++ [⟨"zz", true, none⟩] } = false := by
  decide

/-- written along axis 1, read along axis 0 -/
theorem mixed_axis_not_rowLocal :
    RowLocal { prangeSummary with accesses := prangeSummary.accesses ++ [⟨"zz", false, some 0⟩] } = false := by
  decide

/-- reading a neighbouring row of an array that is written -/
theorem neighbour_read_not_rowLocal :
    RowLocal { prangeSummary with accesses := prangeSummary.accesses ++ [⟨"zz", false, none⟩] } = false := by
  decide

/-- one name for a shared and a per-iteration array -/
theorem shadowed_not_rowLocal :
    RowLocal { prangeSummary with priv := prangeSummary.priv ++ ["zz"] } = false := by decide

/-! ## Part C -/

/-- the accessor applies the per-pixel kernel `f` to every pixel series of the cube -/
def mapPixels {α β : Type} (f : α → β) (cube : List α) : List β := cube.map f

/-- C1: permuting the pixels permutes the results -/
theorem map_perm {α β : Type} (f : α → β) {cube cube' : List α} (h : cube.Perm cube') :
    (mapPixels f cube).Perm (mapPixels f cube') := h.map f

/-- gather pixels by an index function (a permutation, a transposition of the layout, a selection) -/
def reindex {α : Type} (cube : List α) {n : Nat} (σ : Fin n → Fin cube.length) : List α :=
  List.ofFn fun i => cube[σ i]

/-- C1: reindexing commutes with the pixel map -/
theorem map_reindex {α β : Type} (f : α → β) (cube : List α) {n : Nat} (σ : Fin n → Fin cube.length) :
    mapPixels f (reindex cube σ) =
      reindex (mapPixels f cube) (fun i => (σ i).cast (List.length_map f).symm) := by
  apply List.ext_getElem
  · simp [mapPixels, reindex]
  · intro i h1 h2
    simp [mapPixels, reindex]

/-- C2: processing chunk by chunk and concatenating = processing the whole cube -/
theorem map_chunks {α β : Type} (f : α → β) (chunks : List (List α)) :
    (chunks.map (mapPixels f)).flatten = mapPixels f chunks.flatten := by
  show (chunks.map (List.map f)).flatten = chunks.flatten.map f
  simp [List.map_flatten]

theorem map_split {α β : Type} (f : α → β) (cube : List α) (k : Nat) :
    mapPixels f (cube.take k) ++ mapPixels f (cube.drop k) = mapPixels f cube := by
  simp [mapPixels]

/-- C3: the result of pixel `i` depends on pixel `i` only -/
theorem map_pixel_local {α β : Type} (f : α → β) (cube cube' : List α) (i : Nat)
    (h : cube[i]? = cube'[i]?) : (mapPixels f cube)[i]? = (mapPixels f cube')[i]? := by
  simp [mapPixels, h]

theorem map_length {α β : Type} (f : α → β) (cube : List α) : (mapPixels f cube).length = cube.length := by
  simp [mapPixels]

/-- C4: a reduction computed per time step is invariant under chunking of the time axis -/
theorem zonal_time_separable {α β : Type} (g : α → β) (timeChunks : List (List α)) :
    (timeChunks.map fun steps => steps.map g).flatten = timeChunks.flatten.map g := by
  simp [List.map_flatten]

end Hdc.C12
