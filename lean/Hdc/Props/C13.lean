import Hdc.Lemmas.ConcWidth
import Hdc.Lemmas.DiscreteRuns
/-
C13  Compiled (fixed-width) and interpreted (unbounded) integer arithmetic agree within the contracts.

The Numba kernels accumulate in int64 and store into int16 / int32 arrays; the same source run by the
interpreter computes with unbounded integers.  Where the two worlds can differ is pure logic: does an
accumulator wrap, does a store truncate.  Definitions and helper lemmas: Hdc/Lemmas/ConcWidth.lean
(`wrap64 x = (x + 2^63) % 2^64 - 2^63`, `wrap16 x = (x + 2^15) % 2^16 - 2^15`, the carrier `W64` =
integers with wrapping `+` and `*`, at which the polymorphic model `Hdc.acAccum` is run unchanged).

Formal statements (namespace Hdc.C13)

  prefix_sums_bounded        entries in [-B, B] → every prefix sum in [-len·B, len·B]
  int64_sum_no_overflow      entries in [-B, B], len·B < 2^63 → the wrapping int64 running sum equals
                             the unbounded sum, for the whole list and for every prefix
  int16_products_sum_no_overflow   B = 2^30 (products of two int16 values), len < 2^31
  autocorr_int64_exact       int16 data (with gaps), len < 2^31: all seven accumulators of
                             `autocorr_1d_int` (Sx, Sxx, Sy, Syy, Sx', Sy', Sxy) and the three counters,
                             computed with wrapping int64 `+`/`*`, equal the model `acAccum` over ℤ;
                             and they are bounded by (len-1)·2^30 (counters by len-1)
  autocorr_int64_range       hence every accumulator lies strictly between -2^61 and 2^61
  mk_score_no_overflow       n < 2^31 → concordant, discordant ≤ n(n-1)/2, |S| ≤ n(n-1)/2 < 2^63,
                             wrap64 S = S
  lroo_counters              every (cr, mr) the loop of `lroo` passes through is ≤ len; result ≤ len
  lroo_trace_result          the last `mr` of that trace is the value the model returns
  lroo_int32_store           len < 2^31 → the int32 store of the result is the identity
  store_int16_defined        wrap16 v = v ↔ -32768 ≤ v ≤ 32767
  store_int16_identity, store_int16_not_identity   the two directions
  store_int16_out_of_range   examples: 32768 ↦ -32768, -32769 ↦ 32767
-/
namespace Hdc.C13
open Hdc Hdc.Width

/-! ## D1 -/

theorem prefix_sums_bounded (B : Int) (l : List Int) (h : ∀ v ∈ l, -B ≤ v ∧ v ≤ B) (k : Nat) :
    -((l.length : Int) * B) ≤ (l.take k).sum ∧ (l.take k).sum ≤ (l.length : Int) * B :=
  prefix_sum_bound B l h k

theorem int64_sum_no_overflow (B : Int) (l : List Int) (h : ∀ v ∈ l, -B ≤ v ∧ v ≤ B)
    (hlen : (l.length : Int) * B < 2 ^ 63) :
    wsum64 l = l.sum ∧ ∀ k, wsum64 (l.take k) = (l.take k).sum :=
  ⟨wsum64_exact B l h hlen, wsum64_prefix_exact B l h hlen⟩

/-- sums of products of int16 values over fewer than 2^31 cells -/
theorem int16_products_sum_no_overflow (xs ys : List Int) (hx : ∀ v ∈ xs, inInt16 v)
    (hy : ∀ v ∈ ys, inInt16 v) (hlen : xs.length < 2 ^ 31) :
    wsum64 (List.zipWith (· * ·) xs ys) = (List.zipWith (· * ·) xs ys).sum := by
  apply wsum64_exact (2 ^ 30)
  · intro v hv
    obtain ⟨i, hi, rfl⟩ := List.mem_iff_getElem.mp hv
    simp only [List.length_zipWith] at hi
    rw [List.getElem_zipWith]
    exact int16_mul_bound _ _ (hx _ (List.getElem_mem _)) (hy _ (List.getElem_mem _))
  · have : (List.zipWith (· * ·) xs ys).length ≤ xs.length := by
      simp only [List.length_zipWith]; omega
    omega

/-- the accumulators of `autocorr_1d_int` never wrap: the model run at the wrapping int64 carrier
    equals the model run over ℤ -/
theorem autocorr_int64_exact (data : List (Option Int)) (hd : ∀ a ∈ data, optInt16 a)
    (hlen : data.length < 2 ^ 31) :
    valsOf (acAccum (data.map lift) (ACSums.zero : ACSums W64)) = acAccum data (ACSums.zero : ACSums Int) ∧
      Bnd (data.length - 1) (acAccum data (ACSums.zero : ACSums Int)) := by
  have h := acAccum_sim data 0 ACSums.zero hd (by omega) bnd_zero
  rw [valsOf_zero, Nat.zero_add] at h
  exact h

/-- the seven running sums -/
def sumsOf (s : ACSums Int) : List Int := [s.sxy, s.sx_, s.sy_, s.sx, s.sxx, s.sy, s.syy]

/-- in particular every accumulator stays far inside the int64 range -/
theorem autocorr_int64_range (data : List (Option Int)) (hd : ∀ a ∈ data, optInt16 a)
    (hlen : data.length < 2 ^ 31) :
    ∀ v ∈ sumsOf (acAccum data (ACSums.zero : ACSums Int)), -2 ^ 61 < v ∧ v < 2 ^ 61 := by
  obtain ⟨_, hb⟩ := autocorr_int64_exact data hd hlen
  obtain ⟨b1, b2, b3, b4, b5, b6, b7, _, _, _⟩ := hb
  intro v hv
  simp only [sumsOf, List.mem_cons, List.not_mem_nil, or_false] at hv
  rcases hv with rfl | rfl | rfl | rfl | rfl | rfl | rfl <;> omega

/-! ## D2 -/

theorem mk_score_no_overflow {α : Type} [LT α] [DecidableLT α] (x : List α) (hn : x.length < 2 ^ 31) :
    (mkCounts x).1 ≤ x.length * (x.length - 1) / 2 ∧
    (mkCounts x).2 ≤ x.length * (x.length - 1) / 2 ∧
    (mkS x).natAbs ≤ x.length * (x.length - 1) / 2 ∧
    x.length * (x.length - 1) / 2 < 2 ^ 63 ∧
    wrap64 (mkS x) = mkS x := by
  obtain ⟨h1, h2⟩ := mkCounts_bound x
  have h3 := pairs_lt x.length hn
  unfold mkS
  generalize x.length * (x.length - 1) = m at *
  refine ⟨by omega, by omega, by omega, by omega, ?_⟩
  apply wrap64_id
  omega

/-! ## D3 -/

theorem lroo_counters (data : List Nat) :
    (∀ d ds, dotsFrom 0 data = d :: ds →
      ∀ p ∈ lrooTrace d 1 0 ds, p.1 ≤ data.length ∧ p.2 ≤ data.length) ∧
    lrooRaw data ≤ data.length ∧ lroo data ≤ data.length := by
  have hlen := dotsFrom_length data 0
  have hraw := Discrete.lrooRaw_le_length data
  refine ⟨?_, hraw, ?_⟩
  · intro d ds heq p hp
    rw [heq, List.length_cons] at hlen
    exact lrooTrace_bound data.length ds d 1 0 (by omega) (by omega) (by omega) p hp
  · unfold lroo
    simp only
    split <;> omega

/-- the trace ends in the value the model returns -/
theorem lroo_trace_result (d : Nat) (ds : List Nat) :
    ((lrooTrace d 1 0 ds).getLast?).map (·.2) = some (lrooLoop d 1 0 ds) := lrooTrace_last ds d 1 0

theorem lroo_int32_store (data : List Nat) (hlen : data.length < 2 ^ 31) :
    wrapS 32 (lroo data) = (lroo data : Int) := by
  have h := (lroo_counters data).2.2
  exact Discrete.wrapS_32_of_lt _ (by omega)

/-! ## D4 -/

theorem store_int16_defined (v : Int) : wrap16 v = v ↔ -32768 ≤ v ∧ v ≤ 32767 := wrap16_eq_iff v

theorem store_int16_identity (v : Int) (h : -32768 ≤ v ∧ v ≤ 32767) : wrap16 v = v :=
  (wrap16_eq_iff v).mpr h

theorem store_int16_not_identity (v : Int) (h : v < -32768 ∨ 32767 < v) : wrap16 v ≠ v := by
  intro he; have := (wrap16_eq_iff v).mp he; omega

theorem store_int16_out_of_range : wrap16 32768 = -32768 ∧ wrap16 (-32769) = 32767 := by decide

end Hdc.C13
