import Hdc.Model.Stats
import Hdc.Lemmas.StatsBasic
import Hdc.Lemmas.StatsAC
import Mathlib.Algebra.Order.Field.Basic
import Mathlib.Algebra.Order.Ring.Abs
import Mathlib.Data.Sign.Basic
import Mathlib.Tactic.Ring
import Mathlib.Tactic.Linarith
import Mathlib.Tactic.NormNum
import Mathlib.Tactic.FieldSimp
import Mathlib.Algebra.Order.Field.Rat
import Mathlib.Analysis.Real.Sqrt
/-
C15  Lag-1 autocorrelation (`autocorr1d rsqrt eps data`, `data : List (Option α)`, `none` = missing).

The value is the Pearson correlation between X = data[:-1] and Y = data[1:], where the missing
cells of each vector are replaced by the mean of the valid cells OF THAT VECTOR; it is 0 when there
is no valid pair or a (scaled) variance is below `eps`; it always lies in [-1, 1]; it is invariant
under positive affine maps of the valid cells.

Specification side (written without reference to the accumulator loop):
  X data = data.dropLast, Y data = data.tail,
  valid v  = the valid cells of v,            cnt v = their number,
  mean v   = Σ valid v / cnt v,               fill v = v with gaps replaced by mean v,
  cov U V  = Σᵢ (fill U i − mean U)(fill V i − mean V),
  var U    = Σᵢ (fill U i − mean U)²,
  pairs U V = the pairs (uᵢ, vᵢ) with both cells valid,   nPairs = their number,
  scaledCov U V = cnt U · cnt V · cov U V,     scaledVar U = (cnt U)² · var U,
  EpsBranch eps data  :⇔ scaledVar X < eps ∨ scaledVar Y < eps,
  IsRsqrt rsqrt       :⇔ ∀ x > 0, rsqrt x > 0 ∧ rsqrt x · rsqrt x · x = 1      (the hypothesis `hr`).

THEOREMS (all proved below):

  acAccum_spec      : acAccum data ACSums.zero = ⟨ Σ_pairs x·y, Σ_pairs x, Σ_pairs y, #pairs,
                        Σ valid X, Σ (valid X)², #valid X, Σ valid Y, Σ (valid Y)², #valid Y ⟩
  cov_eq_pairs      : cov U V = Σ_{pairs U V} (x − mean U)(y − mean V)       (filled cells contribute 0)
  var_eq_valid      : var U = Σ_{valid U} (x − mean U)²
  autocorr_eq_spec  : autocorr1d rsqrt eps data =
                        if nPairs X Y = 0 then 0 else if EpsBranch eps data then 0
                        else scaledCov X Y · rsqrt (scaledVar X) · rsqrt (scaledVar Y)
  autocorr_num_den  : nPairs X Y ≠ 0 → ¬EpsBranch eps data →
                        autocorr1d … = scaledCov X Y · rsqrt (scaledVar X) · rsqrt (scaledVar Y)
  cov_sq_le         : cov U V ² ≤ var U · var V                                  (Cauchy–Schwarz)
  autocorr_sq       : IsRsqrt rsqrt → nPairs ≠ 0 → ¬EpsBranch → autocorr1d² · (var X · var Y) = cov X Y ²
  autocorr_sign     : IsRsqrt rsqrt → nPairs ≠ 0 → ¬EpsBranch → sign (autocorr1d …) = sign (cov X Y)
  autocorr_pearson  : IsRsqrt rsqrt → nPairs ≠ 0 → ¬EpsBranch → 0 < s → s·s = var X · var Y →
                        autocorr1d … = cov X Y / s           (s = sqrt(vX·vY): the Pearson correlation)
  autocorr_range    : IsRsqrt rsqrt → −1 ≤ autocorr1d rsqrt eps data ≤ 1      (every eps, every data)
  autocorr_degenerate_nopair / _eps / _constX / _constY / _const, and the bundle autocorr_degenerate
  scaledVar_amap    : scaledVar (X (amap a b data)) = a² · scaledVar (X data)   (same for Y)
  autocorr_affine   : 0 < a → (∀ x > 0, rsqrt (a²·x) = rsqrt x / a) →
                        (EpsBranch eps (amap a b data) ↔ EpsBranch eps data) →
                        autocorr1d rsqrt eps (amap a b data) = autocorr1d rsqrt eps data
  autocorr_affine'  : the same with "neither run takes the eps-branch" as hypothesis
  autocorr_encoding : the result is a function of the `List (Option α)` only (remark, see below)

None of autocorr_sq / _sign / _pearson / _range needs an assumption on `eps` (if a scaled variance
is 0 the numerator is 0 by Cauchy–Schwarz, so the value is 0 whatever `rsqrt 0` is), and
autocorr_affine needs neither `IsRsqrt` nor an assumption on `eps`.

Remarks on the model (checked against the algebra, nothing wrong found):
  * `a = nx·ny·sxy − ny·sx·sy_ − nx·sy·sx_ + nxy·sx·sy` is exactly nx·ny·Σ_pairs (x − mX)(y − mY)
    with mX = sx/nx the mean over ALL valid cells of X (not only the paired ones); `vx` is exactly
    nx²·Σ_valid (x − mX)²  (`StatsAC.numA_eq`, `StatsAC.denV_eq`).
  * the `eps` test is applied to the SCALED variances nx²·vX, ny²·vY, so it is not invariant under
    x ↦ a·x + b (they scale by a²): a run can be pushed into / out of the eps-branch by rescaling.
    This is why `autocorr_affine` carries the hypothesis on `EpsBranch`.
  * for eps ≤ 0 the model can evaluate `rsqrt 0`; over a field the product is still 0 (numerator 0),
    in floating point it would be 0·inf.  Not reachable with eps = 1e-8.
-/
namespace Hdc.C15

variable {α : Type} [Field α] [LinearOrder α] [IsStrictOrderedRing α]

/-! ### Specification -/

/-- the lagged vectors: X = data[:-1], Y = data[1:] -/
def X (data : List (Option α)) : List (Option α) := data.dropLast
def Y (data : List (Option α)) : List (Option α) := data.tail

/-- the valid cells of a vector -/
def valid (v : List (Option α)) : List α := v.filterMap id

/-- number of valid cells -/
def cnt (v : List (Option α)) : ℕ := (valid v).length

/-- mean of the valid cells -/
def mean (v : List (Option α)) : α := (valid v).sum / (cnt v : α)

/-- the vector with its gaps filled by the mean of its own valid cells -/
def fill (v : List (Option α)) : List α := v.map fun o => o.getD (mean v)

/-- covariance sum of the mean-filled vectors -/
def cov (U V : List (Option α)) : α :=
  (List.zipWith (fun x y => (x - mean U) * (y - mean V)) (fill U) (fill V)).sum

/-- variance sum of the mean-filled vector -/
def var (U : List (Option α)) : α := ((fill U).map fun x => (x - mean U) ^ 2).sum

/-- the pairs with both cells valid -/
def pairs (U V : List (Option α)) : List (α × α) :=
  (U.zip V).filterMap fun p =>
    match p with
    | (some x, some y) => some (x, y)
    | _ => none

def nPairs (U V : List (Option α)) : ℕ := (pairs U V).length

/-- `nx · ny · cov` — the numerator the code works with -/
def scaledCov (U V : List (Option α)) : α := (cnt U : α) * (cnt V : α) * cov U V

/-- `nx² · var` — the quantity the code compares with `eps` -/
def scaledVar (U : List (Option α)) : α := (cnt U : α) ^ 2 * var U

/-- the run returns 0 because a scaled variance is below `eps` -/
def EpsBranch (eps : α) (data : List (Option α)) : Prop :=
  scaledVar (X data) < eps ∨ scaledVar (Y data) < eps

instance (eps : α) (data : List (Option α)) : Decidable (EpsBranch eps data) := by
  unfold EpsBranch; infer_instance

/-- the hypothesis `hr`: `rsqrt` is `x ↦ x^(-1/2)` on the positive numbers -/
def IsRsqrt (rsqrt : α → α) : Prop := ∀ x, 0 < x → 0 < rsqrt x ∧ rsqrt x * rsqrt x * x = 1

/-- the affine map `x ↦ a·x + b` applied to the valid cells -/
def amap (a b : α) (data : List (Option α)) : List (Option α) :=
  data.map (Option.map fun x => a * x + b)

set_option linter.unusedSectionVars false

/-! ### Bridge to the lemma file -/

theorem pairs_eq (U V : List (Option α)) : pairs U V = StatsAC.both U V := rfl

theorem valid_eq (v : List (Option α)) : valid v = v.reduceOption := rfl
theorem cnt_eq (v : List (Option α)) : cnt v = StatsAC.cntV v := rfl
theorem mean_eq (v : List (Option α)) : mean v = StatsAC.sumV v / (StatsAC.cntV v : α) := rfl

theorem scaledVar_eq (U : List (Option α)) : scaledVar U = StatsAC.denV U := by
  by_cases h : StatsAC.cntV U = 0
  · simp [scaledVar, StatsAC.denV, cnt_eq, h]
  · rw [StatsAC.denV_eq U h]; rfl

theorem scaledCov_eq (U V : List (Option α)) (hU : cnt U ≠ 0) (hV : cnt V ≠ 0) :
    scaledCov U V = StatsAC.numA U V := by
  rw [StatsAC.numA_eq U V hU hV]; rfl

theorem cnt_ne_zero_of_pairs (U V : List (Option α)) (h : nPairs U V ≠ 0) :
    cnt U ≠ 0 ∧ cnt V ≠ 0 := by
  unfold nPairs at h; rw [pairs_eq] at h
  exact StatsAC.cntV_ne_zero_of_both U V h

/-! ### 1. the accumulators -/

theorem acAccum_spec (data : List (Option α)) :
    acAccum data ACSums.zero =
      { sxy := ((pairs (X data) (Y data)).map fun p => p.1 * p.2).sum
        sx_ := ((pairs (X data) (Y data)).map Prod.fst).sum
        sy_ := ((pairs (X data) (Y data)).map Prod.snd).sum
        nxy := nPairs (X data) (Y data)
        sx := (valid (X data)).sum
        sxx := ((valid (X data)).map fun x => x * x).sum
        nx := cnt (X data)
        sy := (valid (Y data)).sum
        syy := ((valid (Y data)).map fun y => y * y).sum
        ny := cnt (Y data) } := by
  rw [StatsAC.acAccum_eq]
  simp only [ACSums.zero, Stats.nat_zero, zero_add, nPairs, pairs_eq, valid_eq, cnt, X, Y]

/-! ### 2. numerator / denominator: the value is the mean-filled Pearson correlation -/

/-- filled cells contribute nothing to the covariance sum -/
theorem cov_eq_pairs (U V : List (Option α)) :
    cov U V = ((pairs U V).map fun p => (p.1 - mean U) * (p.2 - mean V)).sum := by
  rw [pairs_eq]; exact StatsAC.sum_fill_cov (mean U) (mean V) U V

/-- filled cells contribute nothing to the variance sum -/
theorem var_eq_valid (U : List (Option α)) :
    var U = ((valid U).map fun x => (x - mean U) ^ 2).sum :=
  StatsAC.sum_fill_var (mean U) U

/-- complete description of the model in terms of the specification quantities -/
theorem autocorr_eq_spec (rsqrt : α → α) (eps : α) (data : List (Option α)) :
    autocorr1d rsqrt eps data =
      if nPairs (X data) (Y data) = 0 then 0
      else if EpsBranch eps data then 0
      else scaledCov (X data) (Y data) * rsqrt (scaledVar (X data)) * rsqrt (scaledVar (Y data)) := by
  rw [StatsAC.autocorr1d_eq, ← pairs_eq, ← scaledVar_eq, ← scaledVar_eq]
  refine ite_congr rfl (fun _ => rfl) fun hn => ?_
  obtain ⟨hx, hy⟩ := cnt_ne_zero_of_pairs _ _ hn
  rw [scaledCov_eq _ _ hx hy]
  rfl

theorem autocorr_num_den (rsqrt : α → α) (eps : α) (data : List (Option α))
    (hn : nPairs (X data) (Y data) ≠ 0) (he : ¬ EpsBranch eps data) :
    autocorr1d rsqrt eps data =
      scaledCov (X data) (Y data) * rsqrt (scaledVar (X data)) * rsqrt (scaledVar (Y data)) := by
  rw [autocorr_eq_spec, if_neg hn, if_neg he]

theorem var_nonneg (U : List (Option α)) : 0 ≤ var U :=
  StatsAC.sum_map_sq_nonneg _ _

theorem scaledVar_nonneg (U : List (Option α)) : 0 ≤ scaledVar U :=
  mul_nonneg (sq_nonneg _) (var_nonneg U)

/-- Cauchy–Schwarz for the mean-filled vectors -/
theorem cov_sq_le (U V : List (Option α)) : cov U V ^ 2 ≤ var U * var V :=
  StatsAC.cauchy_schwarz_zipWith (· - mean U) (· - mean V) (fill U) (fill V)

theorem scaledCov_sq_le (U V : List (Option α)) :
    scaledCov U V ^ 2 ≤ scaledVar U * scaledVar V :=
  StatsAC.scaled_sq_le (cov_sq_le U V) _ _

theorem autocorr_scaled_facts (rsqrt : α → α) (hr : IsRsqrt rsqrt) (eps : α)
    (data : List (Option α)) (hn : nPairs (X data) (Y data) ≠ 0) (he : ¬ EpsBranch eps data) :
    autocorr1d rsqrt eps data ^ 2 * (scaledVar (X data) * scaledVar (Y data))
        = scaledCov (X data) (Y data) ^ 2 ∧
    autocorr1d rsqrt eps data ^ 2 ≤ 1 ∧
    SignType.sign (autocorr1d rsqrt eps data) = SignType.sign (scaledCov (X data) (Y data)) := by
  rw [autocorr_num_den rsqrt eps data hn he]
  exact StatsAC.value_facts rsqrt hr _ _ _ (scaledVar_nonneg _) (scaledVar_nonneg _)
    (scaledCov_sq_le _ _)

theorem autocorr_sq (rsqrt : α → α) (hr : IsRsqrt rsqrt) (eps : α) (data : List (Option α))
    (hn : nPairs (X data) (Y data) ≠ 0) (he : ¬ EpsBranch eps data) :
    autocorr1d rsqrt eps data ^ 2 * (var (X data) * var (Y data)) = cov (X data) (Y data) ^ 2 := by
  obtain ⟨hx, hy⟩ := cnt_ne_zero_of_pairs _ _ hn
  have hk : ((cnt (X data) : α) * (cnt (Y data) : α)) ^ 2 ≠ 0 :=
    pow_ne_zero _ (mul_ne_zero (Nat.cast_ne_zero.2 hx) (Nat.cast_ne_zero.2 hy))
  have h := (autocorr_scaled_facts rsqrt hr eps data hn he).1
  unfold scaledVar scaledCov at h
  exact mul_left_cancel₀ hk (by linear_combination h)

theorem autocorr_sign (rsqrt : α → α) (hr : IsRsqrt rsqrt) (eps : α) (data : List (Option α))
    (hn : nPairs (X data) (Y data) ≠ 0) (he : ¬ EpsBranch eps data) :
    SignType.sign (autocorr1d rsqrt eps data) = SignType.sign (cov (X data) (Y data)) := by
  obtain ⟨hx, hy⟩ := cnt_ne_zero_of_pairs _ _ hn
  rw [(autocorr_scaled_facts rsqrt hr eps data hn he).2.2, scaledCov, sign_mul, sign_pos, one_mul]
  exact mul_pos (Nat.cast_pos.2 (Nat.pos_of_ne_zero hx)) (Nat.cast_pos.2 (Nat.pos_of_ne_zero hy))

/-- with any square root `s` of `vX · vY`: the value is `cov / s`, the Pearson correlation of the
    mean-filled vectors -/
theorem autocorr_pearson (rsqrt : α → α) (hr : IsRsqrt rsqrt) (eps : α) (data : List (Option α))
    (hn : nPairs (X data) (Y data) ≠ 0) (he : ¬ EpsBranch eps data)
    (s : α) (hs : 0 < s) (hss : s * s = var (X data) * var (Y data)) :
    autocorr1d rsqrt eps data = cov (X data) (Y data) / s := by
  rw [eq_div_iff hs.ne']
  apply StatsAC.eq_of_sq_eq_sq_of_sign_eq
  · rw [mul_pow, sq s, hss, autocorr_sq rsqrt hr eps data hn he]
  · rw [sign_mul, sign_pos hs, mul_one, autocorr_sign rsqrt hr eps data hn he]

/-! ### 3. range -/

theorem autocorr_range (rsqrt : α → α) (hr : IsRsqrt rsqrt) (eps : α) (data : List (Option α)) :
    -1 ≤ autocorr1d rsqrt eps data ∧ autocorr1d rsqrt eps data ≤ 1 := by
  by_cases hn : nPairs (X data) (Y data) = 0
  · rw [autocorr_eq_spec, if_pos hn]; constructor <;> norm_num
  by_cases he : EpsBranch eps data
  · rw [autocorr_eq_spec, if_neg hn, if_pos he]; constructor <;> norm_num
  have h := (autocorr_scaled_facts rsqrt hr eps data hn he).2.1
  rw [sq_le_one_iff_abs_le_one] at h
  exact abs_le.1 h

/-! ### 4. degenerate inputs -/

theorem autocorr_degenerate_nopair (rsqrt : α → α) (eps : α) (data : List (Option α))
    (h : nPairs (X data) (Y data) = 0) : autocorr1d rsqrt eps data = 0 := by
  rw [autocorr_eq_spec, if_pos h]

theorem autocorr_degenerate_eps (rsqrt : α → α) (eps : α) (data : List (Option α))
    (h : EpsBranch eps data) : autocorr1d rsqrt eps data = 0 := by
  rw [autocorr_eq_spec, if_pos h]; split_ifs <;> rfl

theorem scaledVar_const (U : List (Option α)) (c : α) (h : ∀ x ∈ valid U, x = c) :
    scaledVar U = 0 := by
  have hL : valid U = List.replicate (cnt U) c := List.eq_replicate_iff.2 ⟨rfl, h⟩
  simp only [scaledVar_eq, StatsAC.denV, StatsAC.sumV, StatsAC.sqV, ← valid_eq, ← cnt_eq, hL,
    List.map_replicate, List.sum_replicate, nsmul_eq_mul]
  ring

theorem autocorr_degenerate_constX (rsqrt : α → α) (eps : α) (heps : 0 < eps)
    (data : List (Option α)) (c : α) (h : ∀ x ∈ valid (X data), x = c) :
    autocorr1d rsqrt eps data = 0 :=
  autocorr_degenerate_eps rsqrt eps data (Or.inl (by rw [scaledVar_const _ c h]; exact heps))

theorem autocorr_degenerate_constY (rsqrt : α → α) (eps : α) (heps : 0 < eps)
    (data : List (Option α)) (c : α) (h : ∀ y ∈ valid (Y data), y = c) :
    autocorr1d rsqrt eps data = 0 :=
  autocorr_degenerate_eps rsqrt eps data (Or.inr (by rw [scaledVar_const _ c h]; exact heps))

/-- all valid cells of the series equal -/
theorem autocorr_degenerate_const (rsqrt : α → α) (eps : α) (heps : 0 < eps)
    (data : List (Option α)) (c : α) (h : ∀ x, some x ∈ data → x = c) :
    autocorr1d rsqrt eps data = 0 := by
  refine autocorr_degenerate_constX rsqrt eps heps data c (fun x hx => h x ?_)
  rw [valid_eq, List.reduceOption_mem_iff] at hx
  exact List.dropLast_subset _ hx

/-- short series have no pair -/
theorem nPairs_short (data : List (Option α)) (h : data.length ≤ 1) :
    nPairs (X data) (Y data) = 0 := by
  match data, h with
  | [], _ => rfl
  | [_], _ => rfl

theorem autocorr_degenerate (rsqrt : α → α) (eps : α) (data : List (Option α)) :
    (nPairs (X data) (Y data) = 0 → autocorr1d rsqrt eps data = 0) ∧
    (scaledVar (X data) < eps ∨ scaledVar (Y data) < eps → autocorr1d rsqrt eps data = 0) ∧
    (0 < eps → ∀ c, (∀ x ∈ valid (X data), x = c) → autocorr1d rsqrt eps data = 0) ∧
    (0 < eps → ∀ c, (∀ y ∈ valid (Y data), y = c) → autocorr1d rsqrt eps data = 0) ∧
    (data.length ≤ 1 → autocorr1d rsqrt eps data = 0) :=
  ⟨autocorr_degenerate_nopair rsqrt eps data,
   autocorr_degenerate_eps rsqrt eps data,
   fun heps c h => autocorr_degenerate_constX rsqrt eps heps data c h,
   fun heps c h => autocorr_degenerate_constY rsqrt eps heps data c h,
   fun h => autocorr_degenerate_nopair rsqrt eps data (nPairs_short data h)⟩

/-! ### 5. affine invariance -/

theorem X_amap (a b : α) (data : List (Option α)) :
    X (amap a b data) = (X data).map (Option.map fun x => a * x + b) := by
  simp [X, amap, List.map_dropLast]

theorem Y_amap (a b : α) (data : List (Option α)) :
    Y (amap a b data) = (Y data).map (Option.map fun x => a * x + b) := by
  simp [Y, amap, List.map_tail]

theorem scaledVar_amap (a b : α) (data : List (Option α)) :
    scaledVar (X (amap a b data)) = a ^ 2 * scaledVar (X data) ∧
    scaledVar (Y (amap a b data)) = a ^ 2 * scaledVar (Y data) := by
  rw [X_amap, Y_amap]
  simp only [scaledVar_eq, StatsAC.denV_affine, and_self]

theorem nPairs_amap (a b : α) (data : List (Option α)) :
    nPairs (X (amap a b data)) (Y (amap a b data)) = nPairs (X data) (Y data) := by
  rw [X_amap, Y_amap]
  simp only [nPairs, pairs_eq, StatsAC.both_map, List.length_map]

theorem autocorr_affine (rsqrt : α → α) (eps : α) (data : List (Option α)) (a b : α)
    (ha : 0 < a) (hh : ∀ x, 0 < x → rsqrt (a ^ 2 * x) = rsqrt x / a)
    (hb : EpsBranch eps (amap a b data) ↔ EpsBranch eps data) :
    autocorr1d rsqrt eps (amap a b data) = autocorr1d rsqrt eps data :=
  StatsAC.autocorr1d_affine rsqrt eps data a b ha.ne' (by rwa [abs_of_pos ha]) (by
    unfold EpsBranch at hb
    rwa [(scaledVar_amap a b data).1, (scaledVar_amap a b data).2, scaledVar_eq, scaledVar_eq] at hb)

/-- the form asked for: neither run takes the eps-branch -/
theorem autocorr_affine' (rsqrt : α → α) (eps : α) (data : List (Option α)) (a b : α)
    (ha : 0 < a) (hh : ∀ x, 0 < x → rsqrt (a ^ 2 * x) = rsqrt x / a)
    (h1 : ¬ EpsBranch eps data) (h2 : ¬ EpsBranch eps (amap a b data)) :
    autocorr1d rsqrt eps (amap a b data) = autocorr1d rsqrt eps data :=
  autocorr_affine rsqrt eps data a b ha hh ⟨fun h => absurd h h2, fun h => absurd h h1⟩

/-! ### 6. encoding (remark)

`autocorr1d` takes a `List (Option α)` and nothing else, so its value cannot depend on how the
caller encoded missing cells: the int path (`nodata` sentinel) and the float path (NaN) of the
Python source both decode their input to this list (`none` = missing) before the model applies.
The correspondence of the two decoders to the Python code is checked on the Python side (harness);
on the Lean side the statement is the congruence below. -/
theorem autocorr_encoding {β : Type} (rsqrt : α → α) (eps : α) (enc₁ enc₂ : β → Option α)
    (raw₁ raw₂ : List β) (h : raw₁.map enc₁ = raw₂.map enc₂) :
    autocorr1d rsqrt eps (raw₁.map enc₁) = autocorr1d rsqrt eps (raw₂.map enc₂) := by
  rw [h]

/-! ### Non-vacuity

`IsRsqrt` cannot be met by a function ℚ → ℚ (it would give a rational square root of 2), so the
examples come in two groups: concrete rational data on which every specification quantity and
the branch conditions are evaluated (`rsqrt` arbitrary), and the real numbers with
`rsqrt x = (√x)⁻¹`, where `IsRsqrt`, the homogeneity hypothesis of `autocorr_affine` and all
hypotheses of `autocorr_pearson` are met simultaneously. -/

/-- a series with a gap: X = [1, 2, –, 4], Y = [2, –, 4, 3] -/
def d1 : List (Option ℚ) := [some 1, some 2, none, some 4, some 3]

example : X d1 = [some 1, some 2, none, some 4] := rfl
example : Y d1 = [some 2, none, some 4, some 3] := rfl
example : valid (X d1) = [1, 2, 4] := rfl
example : valid (Y d1) = [2, 4, 3] := rfl
example : pairs (X d1) (Y d1) = [(1, 2), (4, 3)] := rfl
example : nPairs (X d1) (Y d1) = 2 := rfl

/-- a full series over ℝ -/
def d2 : List (Option ℝ) := [some 1, some 2, some 4]

section
local macro "ev" : tactic =>
  `(tactic| norm_num [scaledCov, scaledVar, cov, var, fill, mean, valid, cnt, List.filterMap_cons,
      X, Y, d1, d2])

example : mean (X d1) = 7 / 3 := by ev
example : mean (Y d1) = 3 := by ev
example : fill (X d1) = [1, 2, 7 / 3, 4] := by ev
example : fill (Y d1) = [2, 3, 4, 3] := by ev
example : cov (X d1) (Y d1) = 4 / 3 := by ev
example : var (X d1) = 14 / 3 := by ev
example : var (Y d1) = 2 := by ev
theorem d1_scaledCov : scaledCov (X d1) (Y d1) = 12 := by ev
theorem d1_scaledVarX : scaledVar (X d1) = 42 := by ev
theorem d1_scaledVarY : scaledVar (Y d1) = 18 := by ev

theorem d1_nondegenerate : nPairs (X d1) (Y d1) ≠ 0 ∧ ¬ EpsBranch (1 / 10 ^ 8) d1 := by
  refine ⟨by decide, ?_⟩
  unfold EpsBranch
  rw [d1_scaledVarX, d1_scaledVarY]
  norm_num

/-- the non-degenerate branch on concrete data, for every `rsqrt` -/
example (rsqrt : ℚ → ℚ) :
    autocorr1d rsqrt (1 / 10 ^ 8) d1 = 12 * rsqrt 42 * rsqrt 18 := by
  rw [autocorr_num_den rsqrt _ d1 d1_nondegenerate.1 d1_nondegenerate.2,
    d1_scaledCov, d1_scaledVarX, d1_scaledVarY]

/-- the degenerate branches on concrete data -/
example (rsqrt : ℚ → ℚ) : autocorr1d rsqrt (1 / 10 ^ 8) [some 5, none, some 7] = 0 :=
  autocorr_degenerate_nopair rsqrt _ _ (by decide)
example (rsqrt : ℚ → ℚ) : autocorr1d rsqrt (1 / 10 ^ 8) [some 5, some 5, none, some 5] = 0 :=
  autocorr_degenerate_const rsqrt _ (by norm_num) _ 5 (by
    intro x hx
    simp only [List.mem_cons, Option.some.injEq, reduceCtorEq, List.not_mem_nil, or_false,
      false_or] at hx
    rcases hx with rfl | rfl | rfl <;> rfl)

/-- the real inverse square root -/
noncomputable def rsqrtR (x : ℝ) : ℝ := (Real.sqrt x)⁻¹

/-- `hr` is satisfiable -/
theorem isRsqrt_rsqrtR : IsRsqrt rsqrtR := by
  intro x hx
  have h : 0 < Real.sqrt x := Real.sqrt_pos.2 hx
  refine ⟨inv_pos.2 h, ?_⟩
  unfold rsqrtR
  have h2 : Real.sqrt x * Real.sqrt x = x := Real.mul_self_sqrt hx.le
  field_simp
  linarith

/-- the homogeneity hypothesis `hh` of `autocorr_affine` is satisfiable (every a > 0) -/
theorem rsqrtR_homogeneous (a : ℝ) (ha : 0 < a) :
    ∀ x, 0 < x → rsqrtR (a ^ 2 * x) = rsqrtR x / a := by
  intro x _
  unfold rsqrtR
  rw [Real.sqrt_mul (sq_nonneg a), Real.sqrt_sq ha.le, mul_inv, div_eq_inv_mul]

theorem d2_cov : cov (X d2) (Y d2) = 1 := by ev
theorem d2_varX : var (X d2) = 1 / 2 := by ev
theorem d2_varY : var (Y d2) = 2 := by ev
theorem d2_scaledVarX : scaledVar (X d2) = 2 := by ev
theorem d2_scaledVarY : scaledVar (Y d2) = 8 := by ev
end

theorem d2_nondegenerate : nPairs (X d2) (Y d2) ≠ 0 ∧ ¬ EpsBranch (1 / 10 ^ 8) d2 := by
  refine ⟨by simp [nPairs, pairs, X, Y, d2], ?_⟩
  unfold EpsBranch
  rw [d2_scaledVarX, d2_scaledVarY]
  norm_num

/-- all hypotheses of `autocorr_pearson` hold together: X = [1,2], Y = [2,4] are perfectly
    correlated and the model returns exactly 1 -/
example : autocorr1d rsqrtR (1 / 10 ^ 8) d2 = 1 := by
  rw [autocorr_pearson rsqrtR isRsqrt_rsqrtR _ d2 d2_nondegenerate.1 d2_nondegenerate.2 1
    one_pos (by rw [d2_varX, d2_varY]; norm_num), d2_cov]
  norm_num

/-- the range statement, met with equality at the upper end -/
example : autocorr1d rsqrtR (1 / 10 ^ 8) d2 ≤ 1 :=
  (autocorr_range rsqrtR isRsqrt_rsqrtR _ d2).2

/-- all hypotheses of `autocorr_affine'` hold together (a = 3, b = −7) -/
example : autocorr1d rsqrtR (1 / 10 ^ 8) (amap 3 (-7) d2) = autocorr1d rsqrtR (1 / 10 ^ 8) d2 := by
  refine autocorr_affine' rsqrtR _ d2 3 (-7) (by norm_num) (rsqrtR_homogeneous 3 (by norm_num))
    d2_nondegenerate.2 ?_
  unfold EpsBranch
  rw [(scaledVar_amap 3 (-7) d2).1, (scaledVar_amap 3 (-7) d2).2, d2_scaledVarX, d2_scaledVarY]
  norm_num

end Hdc.C15
