import Hdc.Model.RoundAcc
/-
Validation of the stated assumption of Hdc/Model/RoundAcc.lean (`IntRound.exact` for binary32 / binary64: integers of absolute
value up to 2^24 / 2^53 are represented exactly and sums within that range are exact) against Lean 4.33's kernel-reducible IEEE
model of `Float32` / `Float`, by `decide +kernel` on boundary samples.  These are TESTS of the assumption (a finite sample), in a
module of their own: the last sample is a long kernel evaluation.
-/
namespace Hdc.C17round
open Hdc

/-! ### validation of the ASSUMPTION against Lean's IEEE model of `Float32` / `Float`

Lean 4.33 defines `Float32` / `Float` through a logical model of IEEE binary32 / binary64 (`Float32.Model`: the bit pattern),
which the kernel evaluates; the statements below are therefore theorems (`decide +kernel`), checked on the same model the
compiled code implements in hardware.  They validate SAMPLES of the assumption `IntRound.exact` for B = 2^24 / 2^53
and of the agreement of `rneInt 24` with binary32 addition; the assumption for ALL |n| ≤ B stays an assumption. -/

/-- `B32` cannot be larger: 2^24 + 1 is rounded to 2^24 (by the addition and by the conversion) -/
theorem f32_B_max : (Float32.ofNat 16777216 + Float32.ofNat 1 == Float32.ofNat 16777216) = true ∧
    (Float32.ofNat 16777217 == Float32.ofNat 16777216) = true := by
  constructor <;> decide +kernel

/-- exact cases at the boundary: 2^24 − 1 and 2^24 are distinct float32 values and the addition hits them exactly -/
theorem f32_exact_samples :
    (Float32.ofNat 16777214 + Float32.ofNat 1 == Float32.ofNat 16777215) = true ∧
    (Float32.ofNat 16777215 + Float32.ofNat 1 == Float32.ofNat 16777216) = true ∧
    (Float32.ofNat 16777214 == Float32.ofNat 16777215) = false ∧
    (Float32.ofNat 16777215 == Float32.ofNat 16777216) = false ∧
    (Float32.ofInt (-16777215) + Float32.ofInt (-1) == Float32.ofInt (-16777216)) = true ∧
    (Float32.ofInt (-16777215) == Float32.ofInt (-16777216)) = false ∧
    (Float32.ofNat 8388607 + Float32.ofNat 8388609 == Float32.ofNat 16777216) = true ∧
    (Float32.ofNat 32767 + Float32.ofNat 32767 == Float32.ofNat 65534) = true := by
  decide +kernel

/-- `B64` cannot be larger, and exact cases at its boundary -/
theorem f64_samples :
    (Float.ofNat 9007199254740992 + Float.ofNat 1 == Float.ofNat 9007199254740992) = true ∧
    (Float.ofNat 9007199254740991 + Float.ofNat 1 == Float.ofNat 9007199254740992) = true ∧
    (Float.ofNat 9007199254740990 + Float.ofNat 1 == Float.ofNat 9007199254740991) = true ∧
    (Float.ofNat 9007199254740991 == Float.ofNat 9007199254740992) = false ∧
    (Float.ofNat 9007199254740990 == Float.ofNat 9007199254740991) = false := by
  decide +kernel

/-- `rneInt 24` agrees with binary32 addition on sample operands on both sides of 2^24 (ties to even in both directions,
    negative values, the spacing 4 above 2^25) -/
theorem rne24_matches_Float32 :
    ([(16777216, 1), (16777216, 3), (16777218, 1), (16777218, 3), (16777215, 1), (30000000, 1), (29999998, 3),
      (-16777216, -1), (-16777216, -3), (33554432, 2), (33554432, 6), (33554436, 2), (33554432, 3), (12345678, 7654321),
      (16777216, -1), (100000000, 1), (100000000, 5), (32767, 32767)] : List (Int × Int)).all
      (fun p => Float32.ofInt p.1 + Float32.ofInt p.2 == Float32.ofInt (rneInt 24 (p.1 + p.2))) = true := by
  decide +kernel

/-- the values `rneInt 24` returns on these samples, for the record (so the agreement above is not an agreement of two
    conversions that round anyway) -/
theorem rne24_values :
    [rneInt 24 16777217, rneInt 24 16777219, rneInt 24 16777221, rneInt 24 30000001, rneInt 24 (-16777219),
      rneInt 24 33554434, rneInt 24 33554438, rneInt 24 33554435, rneInt 24 100000005]
    = [16777216, 16777220, 16777220, 30000000, -16777220, 33554432, 33554440, 33554436, 100000008] := by
  decide +kernel

set_option maxRecDepth 100000 in
/-- the audit's input on Lean's `Float32` itself: `acc = float32(0); 1000 × acc += 30000; 1000 × acc += 1` is 3.0e7 -/
theorem audit_Float32 :
    (Nat.repeat (· + Float32.ofNat 1) 1000 (Nat.repeat (· + Float32.ofNat 30000) 1000 (Float32.ofNat 0))
      == Float32.ofNat 30000000) = true := by
  decide +kernel

end Hdc.C17round
