import Hdc.Model.RoundAcc
import Hdc.Props.C17
import Mathlib.Algebra.Order.Group.Unbundled.Int
/-
C17round  When is the exact rolling sum what a float32 accumulator computes?

`ops/stats.py::rolling_sum` accumulates `yy[ii] += xx[jj]` in a float32 array; `Hdc.rollingSum` (and with it every theorem
of C17, e.g. `rolling_all_valid`: "the cell is the exact window sum") sums in `Int`.  `Hdc.rollingSumR R` is the model with a
rounding `R.rnd` after every addition (Hdc/Model/RoundAcc.lean).  This file states when the two agree
(`window · M ≤ R.B`, M a bound of the valid data), shows that the bound is needed, and instantiates it for binary32.
`|x| ≤ M` is written `x.natAbs ≤ M`; the `abs` forms are given alongside.
-/
namespace Hdc.C17round
open Hdc

/-- **Exactness below the bound.**  If the valid cells are bounded by `M` in absolute value and `window · M` does not exceed
    the exactness range of the accumulator format, rounding after every addition changes nothing: the rounding-aware model
    is the exact model, and all of C17 applies to what the float accumulator computes.
    (No hypothesis on `nodata`, on the window (0 and `> len(xx)` included), or on the cells equal to `nodata`.) -/
theorem rollingSumR_eq_exact (R : IntRound) (xx : List Int) (window M : Nat) (nodata : Int)
    (hB : window * M ≤ R.B) (hM : ∀ x ∈ xx, x ≠ nodata → x.natAbs ≤ M) :
    rollingSumR R xx window nodata = rollingSum xx window nodata := by
  unfold rollingSumR rollingSum
  apply List.map_congr_left
  intro ii _
  by_cases h1 : ii + 1 < window
  · simp only [if_pos h1]
  · simp only [if_neg h1]
    split
    · rfl
    · rw [foldl_add_sum, Int.zero_add]
      apply accR_exact_of_bound R _ M
      · intro x hx
        rw [List.mem_filter] at hx
        exact hM x (List.mem_of_mem_drop (List.mem_of_mem_take hx.1)) (by simpa using hx.2)
      · refine Nat.le_trans (Nat.mul_le_mul_right M ?_) hB
        refine Nat.le_trans (List.length_filter_le _ _) ?_
        rw [List.length_take]
        exact Nat.min_le_left _ _

/-- the same with `|·|` -/
theorem rollingSumR_eq_exact_abs (R : IntRound) (xx : List Int) (window : Nat) (M : Int) (nodata : Int)
    (hB : (window : Int) * M ≤ R.B) (hM : ∀ x ∈ xx, x ≠ nodata → |x| ≤ M) :
    rollingSumR R xx window nodata = rollingSum xx window nodata := by
  by_cases hM0 : 0 ≤ M
  · refine rollingSumR_eq_exact R xx window M.toNat nodata ?_ (fun x hx hn => ?_)
    · have : ((window * M.toNat : Nat) : Int) ≤ R.B := by
        push_cast; rw [Int.toNat_of_nonneg hM0]; exact hB
      exact_mod_cast this
    · have := hM x hx hn
      rw [Int.abs_eq_natAbs] at this
      omega
  · -- a negative bound: there is no valid cell at all
    refine rollingSumR_eq_exact R xx window 0 nodata (by simp) (fun x hx hn => ?_)
    have := hM x hx hn
    have := abs_nonneg x
    omega

/-- the accessor form (the first `window - 1` positions dropped) -/
theorem rollingSumAccR_eq_exact (R : IntRound) (xx : List Int) (window M : Nat) (nodata : Int)
    (hB : window * M ≤ R.B) (hM : ∀ x ∈ xx, x ≠ nodata → x.natAbs ≤ M) :
    rollingSumAccR R xx window nodata = rollingSumAcc xx window nodata := by
  rw [rollingSumAccR, rollingSumAcc, rollingSumR_eq_exact R xx window M nodata hB hM]

/-- Hence `rolling_all_valid` for the ROUNDED accumulator, under the bound: a complete window without nodata yields the
    exact window sum. -/
theorem rollingR_all_valid (R : IntRound) (xx : List Int) (w ii M : Nat) (nd : Int) (hw : 1 ≤ w)
    (h1 : w ≤ ii + 1) (h2 : ii < xx.length) (hB : w * M ≤ R.B) (hM : ∀ x ∈ xx, x ≠ nd → x.natAbs ≤ M)
    (hv : ∀ v ∈ C17.window xx w ii, v ≠ nd) :
    (rollingSumR R xx w nd)[ii]? = some (C17.window xx w ii).sum := by
  rw [rollingSumR_eq_exact R xx w M nd hB hM]
  exact C17.rolling_all_valid xx w ii nd hw h1 h2 hv

/-! ### the bound is needed: a toy format -/

-- the toy format `IntRound.toy`: integers up to 4 exact, above that only the even ones (Hdc/Model/RoundAcc.lean)

/-- NEGATIVE witness: window 2, data bounded by M = 3, `2 · 3 = 6 > 4 = B`: the rounded accumulator returns 4, the exact
    model 5. -/
theorem toy_differs :
    rollingSumR IntRound.toy [3, 2] 2 (-1) = [-1, 4] ∧ rollingSum [3, 2] 2 (-1) = [-1, 5] := by decide

/-- the bound is sharp for the toy format: `window · M = B + 1` fails (window 1, M = 5), `window · M = B` is exact for ALL data
    (`rollingSumR_eq_exact`) -/
theorem toy_sharp : rollingSumR IntRound.toy [5] 1 (-1) ≠ rollingSum [5] 1 (-1) := by decide

example (xx : List Int) (h : ∀ x ∈ xx, x ≠ (-1) → x.natAbs ≤ 2) :
    rollingSumR IntRound.toy xx 2 (-1) = rollingSum xx 2 (-1) :=
  rollingSumR_eq_exact IntRound.toy xx 2 2 (-1) (by decide) h

/-- so the conclusion of `rolling_all_valid` ("the exact window sum") FAILS for the rounded accumulator outside the bound -/
theorem toy_all_valid_fails : (rollingSumR IntRound.toy [3, 2] 2 (-1))[1]? ≠ some (C17.window [3, 2] 2 1).sum := by decide

/-! ### binary32: B = 2^24 -/

/-- **int16 data.**  For every format exact up to 2^24 (binary32) and data of absolute value ≤ 32768 (every int16 value;
    nodata cells excepted, they are not added), every window ≤ 512 is summed exactly: 512 · 32768 = 2^24. -/
theorem rollingSumR_int16_exact (R : IntRound) (hR : B32 ≤ R.B) (xx : List Int) (window : Nat) (nodata : Int)
    (hw : window ≤ 512) (h16 : ∀ x ∈ xx, x ≠ nodata → x.natAbs ≤ 32768) :
    rollingSumR R xx window nodata = rollingSum xx window nodata := by
  refine rollingSumR_eq_exact R xx window 32768 nodata ?_ h16
  have : window * 32768 ≤ 512 * 32768 := Nat.mul_le_mul_right _ hw
  have h24 : B32 = 512 * 32768 := by decide
  omega

/-- in general for binary32: windows up to `2^24 / M` -/
theorem rollingSumR_f32_exact (xx : List Int) (window M : Nat) (nodata : Int) (hB : window * M ≤ 2 ^ 24)
    (hM : ∀ x ∈ xx, x ≠ nodata → x.natAbs ≤ M) :
    rollingSumR IntRound.f32 xx window nodata = rollingSum xx window nodata :=
  rollingSumR_eq_exact IntRound.f32 xx window M nodata hB hM

/-- for a float64 accumulator (not what `rolling_sum` uses; `mean_grp`, `do_mean` do): windows up to `2^53 / M` -/
theorem rollingSumR_f64_exact (xx : List Int) (window M : Nat) (nodata : Int) (hB : window * M ≤ 2 ^ 53)
    (hM : ∀ x ∈ xx, x ≠ nodata → x.natAbs ≤ M) :
    rollingSumR IntRound.f64 xx window nodata = rollingSum xx window nodata :=
  rollingSumR_eq_exact IntRound.f64 xx window M nodata hB hM

/-! ### the audit's input on the integer-level binary32 rounding `IntRound.f32` (= `rne 24`) -/

/-- int16 input `[30000]*1000 + [1]*1000`, window 2000 (2000 · 30000 > 2^24): the float32 accumulator reaches 3.0e7 after
    the first 1000 cells (30000·k is a multiple of 16 below 2^28, hence representable) and then absorbs each `+ 1` (ties to
    even); the exact sum is 30001000. -/
theorem audit_accR :
    accR IntRound.f32 (List.replicate 1000 30000 ++ List.replicate 1000 1) = 30000000 ∧
    (List.replicate 1000 30000 ++ List.replicate 1000 1).sum = 30001000 := by
  constructor
  · have h1 : ∀ k : Nat, k ≤ 1000 → IntRound.f32.rnd (k * 30000) = k * 30000 := fun k hk => by
      have := rne_rnd_of_dvd 24 (by decide) 4 (k * 30000) (by omega) (by omega)
      rwa [Int.natCast_mul] at this
    have h2 : IntRound.f32.rnd (30000000 + 1) = 30000000 := by decide +kernel
    rw [accR, accRFrom_append, accRFrom_replicate_exact _ _ _ h1]
    exact accRFrom_replicate_absorb _ _ _ h2 _
  · decide +kernel

theorem audit_rolling :
    (rollingSumR IntRound.f32 (List.replicate 1000 30000 ++ List.replicate 1000 1) 2000 (-9999))[1999]?
      = some 30000000 ∧
    (rollingSum (List.replicate 1000 30000 ++ List.replicate 1000 1) 2000 (-9999))[1999]? = some 30001000 := by
  have hlen : (List.replicate 1000 (30000 : Int) ++ List.replicate 1000 1).length = 2000 := by
    rw [List.length_append, List.length_replicate, List.length_replicate]
  -- the window ending at 1999 is the whole series, and holds no nodata
  have hwin : C17.window (List.replicate 1000 30000 ++ List.replicate 1000 1) 2000 1999
      = List.replicate 1000 30000 ++ List.replicate 1000 1 := List.take_of_length_le (Nat.le_of_eq hlen)
  have hv : ∀ v ∈ C17.window (List.replicate 1000 30000 ++ List.replicate 1000 1) 2000 1999, v ≠ -9999 := by
    intro v hv
    rw [hwin] at hv
    rcases List.mem_append.mp hv with h | h <;> rw [List.eq_of_mem_replicate h] <;> decide
  constructor
  · rw [rollingSumR_all_valid _ _ _ _ _ (by omega) (by omega) (by omega) hv, ← C17.window, hwin, audit_accR.1]
  · rw [C17.rolling_all_valid _ _ _ _ (by omega) (by omega) (by omega) hv, hwin]
    decide +kernel

/-- the smallest such input: `2^24 + 1` is not a binary32 number -/
theorem f32_smallest : rollingSumR IntRound.f32 [16777216, 1] 2 (-1) = [-1, 16777216] ∧
    rollingSum [16777216, 1] 2 (-1) = [-1, 16777217] := by
  constructor <;> decide +kernel

end Hdc.C17round
