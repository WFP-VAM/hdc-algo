import Hdc.Lemmas.StatsTI
import Mathlib.Tactic.NormNum
import Mathlib.Tactic.IntervalCases
/-
C20  Temporal interpolation (`ops/tinterpolate.py`; model `scatterMarks`, `setLast`, `runMeans`,
`tinterp` in Hdc/Model/Stats.lean).

Python: temp = template.copy(); w = template.copy(); walk the template, at each nonzero cell put
the next observation; temp[-1] = x[-1]; z = ws2d(temp, 1e-5, w); for each maximal run of equal
consecutive labels the band is round(sum of z over the run / run length).  The model returns the
pair (sum, run length) per run; rounding is outside the model.

Formal statements (α any linearly ordered field; `fn l i` = `l[i]`, 0 outside; `rank t i` =
number of nonzero template cells strictly before `i`; `runs labels` = maximal runs of equal
consecutive labels = `labels.splitBy (· == ·)`; `spanSums f s ks` = for consecutive spans of
lengths `ks` starting at `s` the pairs `(Σ_{i in span} f i, length)`):

Contract x t labels :  every cell of t is 0 or 1;  t.count 1 = x.length;
                       t.length = labels.length;  4 ≤ t.length

 1. scatterMarks_length      (scatterMarks t x).length = t.length                    (unconditional)
    scatterMarks_spec        Contract → for i < t.length:
                               (scatterMarks t x)[i] = if t[i] = 0 then 0 else x[rank t i]
                             (with rank_lt : t[i] ≠ 0 → rank t i < x.length)
    scatterMarks_spec_general  no contract: (scatterMarks t x)[i]? =
                               t[i]?.map (fun v => if v = 0 then 0 else x.getD (rank t i) v)
                             (a mark beyond the last observation keeps its template value)
    temp_spec                Contract → at every mark i the vector handed to the smoother,
                             setLast (scatterMarks t x) x[-1], holds x[rank t i]  (incl. the last cell)
 2. runMeans_spec            labels.length ≤ z.length →
                               runMeans (labels.zip z) none =
                                 (((runs labels).map length).splitLengths z).map (c ↦ (c.sum, c.length))
    runMeans_spec_sum        … = spanSums (fn z) 0 ((runs labels).map length)
    runMeans_entry           j < (runs labels).length → entry j =
                               (Σ_{i ∈ [runStart j, runStart j + runLen j)} z_i , runLen j)
    runMeans_length          number of entries = (runs labels).length
    runMeans_counts          the counts are the run lengths, in order
    runMeans_counts_sum      Σ counts = labels.length
    runMeans_truncate        in general `zip` truncates: labels may be replaced by
                             labels.take z.length
    runs_flatten, runs_ne_nil, runs_const, runs_adjacent_ne : `runs` really are the maximal runs
    tinterp_length, tinterp_counts   t.length = labels.length → one output entry per run, the
                             counts are the run lengths
    runs_length_distinct, tinterp_length_distinct   ContiguousLabels labels →
                             number of runs (output entries) = number of distinct labels
    contiguous_of_sorted     non-decreasing labels are contiguous
 3. tinterp_const            Contract, 2 ≤ x.length, 0 < lam, all observations = c →
                               tinterp lam x t labels = (runs labels).map (r ↦ (|r|·c, |r|))
 4. tinterp_curve            Contract, 2 ≤ x.length, 0 < lam, x[rank t i] = a + b·i at every mark i →
                               the daily curve is z_i = a + b·i for every day i < t.length
    tinterp_linear           same hypotheses →
                               tinterp lam x t labels = spanSums (i ↦ a + b·i) 0 ((runs labels).map length)
    tinterp_linear_entry     entry j = (Σ_{i ∈ run j} (a + b·i), runLen j)
    tinterp_linear_mean      entry j = (k·(a + b·(s + (k−1)/2)), k), s = runStart j, k = runLen j:
                             the period mean is the line at the midpoint of the period
 5. tinterp_inputs_unchanged the model is a pure function; the weights passed to the smoother are
                             the ORIGINAL template, not the vector the observations were written to
                             (definitional).  Whether the Python routine mutates its arguments is
                             checked on the Python side.

Remarks.
 * "labels form contiguous runs" (`ContiguousLabels`) is part of the informal contract but no
   statement about values needs it: code and model work on maximal runs of equal CONSECUTIVE
   labels.  It is kept out of `Contract` and only used to identify the number of runs with the
   number of distinct labels.
 * `hline` is stated with `x[rank t i]? = some _`, i.e. it includes that the observation exists.
 * `temp[-1] = x[-1]`: if the last template cell is a mark, its rank is x.length − 1 under the
   contract, so the overwrite changes nothing; otherwise its weight is 0 and the smoother never
   looks at it (C06core.ws2d_affine only reads cells with nonzero weight).
-/
namespace Hdc.C20
open Hdc.C01 (fn InContract)

set_option linter.unusedSectionVars false

variable {α : Type} [Field α] [LinearOrder α] [IsStrictOrderedRing α]

/-! ### Specification side (independent of the model code) -/

/-- number of marks (nonzero template cells) strictly before position `i` -/
def rank (t : List α) (i : ℕ) : ℕ := (t.take i).countP (fun v => decide (v ≠ 0))

/-- maximal runs of equal consecutive labels -/
def runs (labels : List Int) : List (List Int) := labels.splitBy (· == ·)

/-- length of run `j` (0 if there is no such run) -/
def runLen (labels : List Int) (j : ℕ) : ℕ := ((runs labels).map List.length).getD j 0

/-- first day of run `j` -/
def runStart (labels : List Int) (j : ℕ) : ℕ := (((runs labels).map List.length).take j).sum

/-- for consecutive spans of lengths `ks` starting at day `s`: (Σ of `f` over the span, length) -/
def spanSums (f : ℕ → α) : ℕ → List ℕ → List (α × ℕ)
  | _, [] => []
  | s, k :: ks => (∑ i ∈ Finset.Ico s (s + k), f i, k) :: spanSums f (s + k) ks

/-- each label value occupies one contiguous block: a label never comes back after a different
    label has intervened (not needed by any statement about values below) -/
def ContiguousLabels (labels : List Int) : Prop :=
  ∀ (l₁ l₂ l₃ : List Int) (u v : Int), labels = l₁ ++ u :: l₂ ++ v :: l₃ → u ∈ l₃ → v = u

/-- the contract of `tinterpolate` -/
structure Contract (x t : List α) (labels : List Int) : Prop where
  bin : ∀ v ∈ t, v = 0 ∨ v = 1
  ones : t.count 1 = x.length
  len : t.length = labels.length
  four : 4 ≤ t.length

/-! ### Bridge to the lemma file -/

theorem rank_eq (t : List α) (i : ℕ) : rank t i = Stats.marksBefore t i := rfl

theorem spanSums_eq (f : ℕ → α) (s : ℕ) (ks : List ℕ) : spanSums f s ks = Stats.spanSums f s ks := by
  induction ks generalizing s with
  | nil => rfl
  | cons k ks ih => rw [spanSums, Stats.spanSums, ih]

variable {x t : List α} {labels : List Int} {lam : α}

/-! ### `runs` are the maximal runs -/

theorem runs_flatten (labels : List Int) : (runs labels).flatten = labels :=
  List.flatten_splitBy _ _

theorem runs_ne_nil (labels : List Int) : ∀ r ∈ runs labels, r ≠ [] :=
  fun _ hr => List.ne_nil_of_mem_splitBy hr

/-- inside a run neighbouring labels are equal (hence all are) -/
theorem runs_const (labels : List Int) : ∀ r ∈ runs labels, r.IsChain (· = ·) := by
  intro r hr
  have := List.isChain_of_mem_splitBy hr
  exact this.imp (fun _ _ h => by simpa using h)

/-- maximality: the last label of a run differs from the first label of the next run -/
theorem runs_adjacent_ne (labels : List Int) :
    (runs labels).IsChain fun r r' => ∃ h h', r.getLast h ≠ r'.head h' := by
  have := List.isChain_getLast_head_splitBy (· == ·) labels
  exact this.imp (fun _ _ ⟨h, h', hne⟩ => ⟨h, h', by simpa using hne⟩)

theorem runs_length_sum (labels : List Int) : ((runs labels).map List.length).sum = labels.length :=
  Stats.sum_length_splitBy _ _

/-- with contiguous labels the number of runs is the number of distinct labels -/
theorem runs_length_distinct (labels : List Int) (h : ContiguousLabels labels) :
    (runs labels).length = labels.toFinset.card := by
  -- a label equal to its successor extends the first run; a different one opens a new run and,
  -- the labels being contiguous, does not occur again
  unfold runs
  induction labels with
  | nil => simp
  | cons a l ih =>
    have ih := ih fun l₁ l₂ l₃ u v e => h (a :: l₁) l₂ l₃ u v (by rw [e]; rfl)
    cases l with
    | nil => rfl
    | cons b l =>
      rw [Stats.splitBy_beq_cons]
      by_cases hab : b = a
      · subst hab
        rw [Stats.splitBy_beq_cons] at ih
        simpa using ih
      · have hnot : a ∉ b :: l := fun hm =>
          hab (h [] [] l a b rfl ((List.mem_cons.1 hm).resolve_left (Ne.symm hab)))
        rw [List.takeWhile_cons_of_neg (by simpa using hab),
          List.dropWhile_cons_of_neg (by simpa using hab), List.length_cons, ih,
          List.toFinset_cons (a := a), Finset.card_insert_of_notMem (by rwa [List.mem_toFinset])]

/-- non-decreasing labels (period numbers) are contiguous -/
theorem contiguous_of_sorted (labels : List Int) (h : labels.Pairwise (· ≤ ·)) :
    ContiguousLabels labels := by
  intro l₁ l₂ l₃ u v hl hu
  subst hl
  rw [List.pairwise_append] at h
  obtain ⟨_, h2, h3⟩ := h
  have huv : u ≤ v := h3 u (by simp) v (by simp)
  have hvu : v ≤ u := (List.pairwise_cons.1 h2).1 u hu
  exact le_antisymm hvu huv

/-! ### 1. scattering the observations -/

theorem scatterMarks_length (t x : List α) : (scatterMarks t x).length = t.length :=
  Stats.scatterMarks_length t x

theorem scatterMarks_spec_general (t x : List α) (i : ℕ) :
    (scatterMarks t x)[i]? =
      t[i]?.map (fun v => if v = 0 then 0 else x.getD (rank t i) v) :=
  Stats.scatterMarks_getElem? t x i

theorem rank_lt (h : Contract x t labels) (i : ℕ) (hi : i < t.length) (hm : t[i] ≠ 0) :
    rank t i < x.length := by
  rw [← h.ones, ← Stats.countP_ne_zero_of_bin t h.bin]
  exact Stats.marksBefore_lt_of_mark t i hi hm

theorem scatterMarks_spec (h : Contract x t labels) (i : ℕ) (hi : i < t.length) :
    (scatterMarks t x)[i]'(by rw [scatterMarks_length]; exact hi) =
      if hm : t[i] = 0 then 0 else x[rank t i]'(rank_lt h i hi hm) := by
  rw [List.getElem_eq_iff, scatterMarks_spec_general, List.getElem?_eq_getElem hi, Option.map_some]
  congr 1
  by_cases hm : t[i] = 0
  · rw [if_pos hm, dif_pos hm]
  · rw [if_neg hm, dif_neg hm, List.getD_eq_getElem?_getD,
      List.getElem?_eq_getElem (rank_lt h i hi hm), Option.getD_some]

/-- the vector handed to the smoother: at every mark (the last cell included) it holds the
    observation belonging to that mark -/
theorem temp_spec (h : Contract x t labels) (i : ℕ) (hi : i < t.length) (hm : t[i] ≠ 0) :
    fn (setLast (scatterMarks t x) (x.getLastD (nat 0))) i = x[rank t i]'(rank_lt h i hi hm) := by
  have hr := rank_lt h i hi hm
  unfold fn
  rw [Stats.setLast_eq, List.getD_eq_getElem?_getD, List.getElem?_set, scatterMarks_length]
  by_cases hl : t.length - 1 = i
  · -- the last cell is a mark: its rank is `x.length - 1`, so `x[-1]` is its own observation
    have h1 := Stats.marksBefore_last_of_mark t (by omega) (by simpa [hl] using hm)
    rw [Stats.countP_ne_zero_of_bin t h.bin, h.ones, hl, ← rank_eq] at h1
    rw [if_pos hl, if_pos (by omega), Option.getD_some, List.getLastD_eq_getLast?,
      List.getLast?_eq_getElem?, show x.length - 1 = rank t i by omega,
      List.getElem?_eq_getElem hr, Option.getD_some]
  · rw [if_neg hl, scatterMarks_spec_general]
    simp [hi, hm, hr]

/-! ### 2. run sums -/

theorem runMeans_spec (labels : List Int) (z : List α) (hz : labels.length ≤ z.length) :
    runMeans (labels.zip z) none =
      (((runs labels).map List.length).splitLengths z).map (fun c => (c.sum, c.length)) :=
  Stats.runMeans_none labels z hz

theorem runMeans_spec_sum (labels : List Int) (z : List α) (hz : labels.length ≤ z.length) :
    runMeans (labels.zip z) none = spanSums (fn z) 0 ((runs labels).map List.length) := by
  rw [spanSums_eq]; exact Stats.runMeans_spanSums labels z hz

theorem spanSums_getElem? (f : ℕ → α) (s : ℕ) (ks : List ℕ) (j : ℕ) :
    (spanSums f s ks)[j]? = ks[j]?.map (fun k =>
      (∑ i ∈ Finset.Ico (s + (ks.take j).sum) (s + (ks.take j).sum + k), f i, k)) := by
  induction ks generalizing s j with
  | nil => simp [spanSums]
  | cons k ks ih =>
    cases j with
    | zero => simp [spanSums]
    | succ j => simp [spanSums, ih, add_assoc]

theorem spanSums_runs_entry (f : ℕ → α) (labels : List Int) (j : ℕ) (hj : j < (runs labels).length) :
    (spanSums f 0 ((runs labels).map List.length))[j]? =
      some (∑ i ∈ Finset.Ico (runStart labels j) (runStart labels j + runLen labels j), f i,
        runLen labels j) := by
  have hj' : j < ((runs labels).map List.length).length := by simpa using hj
  rw [spanSums_getElem?, List.getElem?_eq_getElem hj', Option.map_some, zero_add]
  have : runLen labels j = ((runs labels).map List.length)[j] := by
    unfold runLen; rw [List.getD_eq_getElem?_getD, List.getElem?_eq_getElem hj', Option.getD_some]
  rw [this]; rfl

theorem runMeans_entry (labels : List Int) (z : List α) (hz : labels.length ≤ z.length) (j : ℕ)
    (hj : j < (runs labels).length) :
    (runMeans (labels.zip z) none)[j]? =
      some (∑ i ∈ Finset.Ico (runStart labels j) (runStart labels j + runLen labels j), fn z i,
        runLen labels j) := by
  rw [runMeans_spec_sum labels z hz, spanSums_runs_entry _ _ _ hj]

theorem runMeans_length (labels : List Int) (z : List α) (hz : labels.length ≤ z.length) :
    (runMeans (labels.zip z) none).length = (runs labels).length := by
  rw [runMeans_spec_sum labels z hz, spanSums_eq, Stats.spanSums_length, List.length_map]

theorem runMeans_counts (labels : List Int) (z : List α) (hz : labels.length ≤ z.length) :
    (runMeans (labels.zip z) none).map Prod.snd = (runs labels).map List.length := by
  rw [runMeans_spec_sum labels z hz, spanSums_eq, Stats.spanSums_snd]

theorem runMeans_counts_sum (labels : List Int) (z : List α) (hz : labels.length ≤ z.length) :
    ((runMeans (labels.zip z) none).map Prod.snd).sum = labels.length := by
  rw [runMeans_counts labels z hz, runs_length_sum]

/-- `zip` truncates to the shorter list -/
theorem runMeans_truncate (labels : List Int) (z : List α) :
    runMeans (labels.zip z) none = runMeans ((labels.take z.length).zip z) none := by
  congr 1
  induction labels generalizing z with
  | nil => simp
  | cons a l ih =>
    cases z with
    | nil => simp
    | cons y ys => simp [← ih ys]

/-- the output of `tinterp` has one entry per run, the counts are the run lengths (no hypothesis
    besides equal lengths of template and labels) -/
theorem tinterp_length (lam : α) (x t : List α) (labels : List Int) (hlen : t.length = labels.length) :
    (tinterp lam x t labels).length = (runs labels).length :=
  runMeans_length labels _ (by rw [Stats.tinterp_z_length, hlen])

theorem tinterp_counts (lam : α) (x t : List α) (labels : List Int) (hlen : t.length = labels.length) :
    (tinterp lam x t labels).map Prod.snd = (runs labels).map List.length :=
  runMeans_counts labels _ (by rw [Stats.tinterp_z_length, hlen])

/-- with contiguous labels: one output entry per distinct label -/
theorem tinterp_length_distinct (lam : α) (x t : List α) (labels : List Int)
    (hlen : t.length = labels.length) (h : ContiguousLabels labels) :
    (tinterp lam x t labels).length = labels.toFinset.card := by
  rw [tinterp_length lam x t labels hlen, runs_length_distinct labels h]

/-! ### 4. observations on a straight line in day number -/

theorem tinterp_curve (h : Contract x t labels) (h2 : 2 ≤ x.length) (hlam : 0 < lam) (a b : α)
    (hline : ∀ i (hi : i < t.length), t[i] ≠ 0 → x[rank t i]? = some (a + b * (i : α))) :
    ∀ i < t.length,
      fn (ws2d (setLast (scatterMarks t x) (x.getLastD (nat 0))) lam t) i = a + b * (i : α) := by
  have hlen := Stats.temp_length t x (x.getLastD (nat 0))
  have hc : InContract (setLast (scatterMarks t x) (x.getLastD (nat 0))) t lam := by
    refine ⟨by rw [hlen]; exact h.four, hlen.symm, hlam, ?_, ?_⟩
    · intro v hv; rcases h.bin v hv with rfl | rfl <;> simp
    · exact Stats.two_marks_of_count t (by rw [h.ones]; exact h2)
  intro i hi
  refine C01.ws2d_affine hc a b (fun k hk => ?_) i (by rw [hlen]; exact hi)
  have hk' : k < t.length := by
    by_contra hge
    exact hk (by simp [fn, List.getD_eq_getElem?_getD, List.getElem?_eq_none (not_lt.1 hge)])
  have hm : t[k] ≠ 0 := by rwa [C01.fn_of_lt _ _ hk'] at hk
  rw [temp_spec h k hk' hm]
  exact Option.some.inj ((List.getElem?_eq_getElem _).symm.trans (hline k hk' hm))

theorem tinterp_linear (h : Contract x t labels) (h2 : 2 ≤ x.length) (hlam : 0 < lam) (a b : α)
    (hline : ∀ i (hi : i < t.length), t[i] ≠ 0 → x[rank t i]? = some (a + b * (i : α))) :
    tinterp lam x t labels =
      spanSums (fun i => a + b * (i : α)) 0 ((runs labels).map List.length) := by
  unfold tinterp
  simp only []
  rw [spanSums_eq, Stats.runMeans_spanSums _ _ (by rw [Stats.tinterp_z_length, h.len])]
  refine Stats.spanSums_congr _ _ _ _ fun i _ hi => ?_
  rw [Stats.sum_length_splitBy, zero_add, ← h.len] at hi
  exact tinterp_curve h h2 hlam a b hline i hi

theorem tinterp_linear_entry (h : Contract x t labels) (h2 : 2 ≤ x.length) (hlam : 0 < lam)
    (a b : α)
    (hline : ∀ i (hi : i < t.length), t[i] ≠ 0 → x[rank t i]? = some (a + b * (i : α)))
    (j : ℕ) (hj : j < (runs labels).length) :
    (tinterp lam x t labels)[j]? =
      some (∑ i ∈ Finset.Ico (runStart labels j) (runStart labels j + runLen labels j),
        (a + b * (i : α)), runLen labels j) := by
  rw [tinterp_linear h h2 hlam a b hline, spanSums_runs_entry _ _ _ hj]

/-- the period mean of a line is the line at the midpoint of the period -/
theorem tinterp_linear_mean (h : Contract x t labels) (h2 : 2 ≤ x.length) (hlam : 0 < lam)
    (a b : α)
    (hline : ∀ i (hi : i < t.length), t[i] ≠ 0 → x[rank t i]? = some (a + b * (i : α)))
    (j : ℕ) (hj : j < (runs labels).length) :
    (tinterp lam x t labels)[j]? =
      some ((runLen labels j : α) *
          (a + b * ((runStart labels j : α) + ((runLen labels j : α) - 1) / 2)),
        runLen labels j) := by
  rw [tinterp_linear_entry h h2 hlam a b hline j hj, Stats.sum_Ico_affine]

/-! ### 3. constant observations -/

theorem spanSums_const (c : α) (s : ℕ) (ks : List ℕ) :
    spanSums (fun _ => c) s ks = ks.map (fun (k : ℕ) => ((k : α) * c, k)) := by
  induction ks generalizing s with
  | nil => rfl
  | cons k ks ih => simp [spanSums, ih, Finset.sum_const, Nat.card_Ico]

theorem tinterp_const (h : Contract x t labels) (h2 : 2 ≤ x.length) (hlam : 0 < lam) (c : α)
    (hc : ∀ v ∈ x, v = c) :
    tinterp lam x t labels = (runs labels).map (fun r => ((r.length : α) * c, r.length)) := by
  have hline : ∀ i (hi : i < t.length), t[i] ≠ 0 →
      x[rank t i]? = some (c + 0 * (i : α)) := by
    intro i hi hm
    have hr := rank_lt h i hi hm
    rw [List.getElem?_eq_getElem hr, hc _ (List.getElem_mem hr)]
    simp
  rw [tinterp_linear h h2 hlam c 0 hline]
  have : (fun i : ℕ => c + 0 * (i : α)) = fun _ => c := by funext i; simp
  rw [this, spanSums_const, List.map_map]
  rfl

/-! ### 5. purity -/

/-- The model is a pure function of `(lam, x, template, labels)`: it returns a new list and neither
    `template` nor `labels` is part of the output.  The one thing that can be said inside the model
    is that the weights of the smoother are the ORIGINAL template, not the vector into which the
    observations were written (the source works on two copies `temp`, `w`).  That the Python
    routine leaves its argument arrays untouched is checked on the Python side. -/
theorem tinterp_inputs_unchanged (lam : α) (x t : List α) (labels : List Int) :
    tinterp lam x t labels =
      runMeans (labels.zip (ws2d (setLast (scatterMarks t x) (x.getLastD (nat 0))) lam t)) none :=
  rfl

/-! ### Non-vacuity -/

/-- six days, marks on days 0, 3, 5 (the last cell is a mark), two periods of three days -/
theorem ex_contract : Contract (α := ℚ) [2, 5, 7] [1, 0, 0, 1, 0, 1] [7, 7, 7, 8, 8, 8] where
  bin := by simp
  ones := by simp
  len := by decide
  four := by decide

/-- the observations 2, 5, 7 lie on the line 2 + i at the marks i = 0, 3, 5 -/
theorem ex_line : ∀ i (hi : i < ([1, 0, 0, 1, 0, 1] : List ℚ).length),
    ([1, 0, 0, 1, 0, 1] : List ℚ)[i] ≠ 0 →
      ([2, 5, 7] : List ℚ)[rank ([1, 0, 0, 1, 0, 1] : List ℚ) i]? = some (2 + 1 * (i : ℚ)) := by
  intro i hi hm
  simp only [List.length_cons, List.length_nil] at hi
  interval_cases i <;> simp [rank] at hm ⊢ <;> norm_num

/-- `tinterp_linear` applied: period sums 2+3+4 and 5+6+7 -/
example (lam : ℚ) (hlam : 0 < lam) :
    tinterp lam [2, 5, 7] [1, 0, 0, 1, 0, 1] [7, 7, 7, 8, 8, 8] = [(9, 3), (18, 3)] := by
  rw [tinterp_linear ex_contract (by decide) hlam 2 1 ex_line]
  have : runs [7, 7, 7, 8, 8, 8] = [[7, 7, 7], [8, 8, 8]] := by decide
  rw [this]
  simp [spanSums, Finset.sum_Ico_eq_sum_range, Finset.sum_range_succ]
  norm_num

/-- constant observations, last template cell NOT a mark (so `temp[-1] = x[-1]` writes into a
    cell of weight 0), three periods of lengths 2, 3, 1 -/
theorem ex_contract' : Contract (α := ℚ) [4, 4, 4] [1, 0, 1, 0, 1, 0] [1, 1, 2, 2, 2, 3] where
  bin := by simp
  ones := by simp
  len := by decide
  four := by decide

example (lam : ℚ) (hlam : 0 < lam) :
    tinterp lam [4, 4, 4] [1, 0, 1, 0, 1, 0] [1, 1, 2, 2, 2, 3] = [(8, 2), (12, 3), (4, 1)] := by
  rw [tinterp_const ex_contract' (by decide) hlam 4 (by simp)]
  have : runs [1, 1, 2, 2, 2, 3] = [[1, 1], [2, 2, 2], [3]] := by decide
  rw [this]
  norm_num

example : ContiguousLabels [7, 7, 7, 8, 8, 8] :=
  contiguous_of_sorted _ (by decide)

end Hdc.C20
