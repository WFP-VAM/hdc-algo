import Hdc.Gen.GlueAnomalies
import Mathlib.Algebra.Field.Basic
import Mathlib.Algebra.Order.Field.Rat
import Mathlib.Tactic.NormNum
/-
GenGlueAnomalies  The GENERATED translation of `Anomalies.ratio` / `Anomalies.diff` (Hdc/Gen/GlueAnomalies.lean) over an abstract
carrier: x = the accessed object, r = the reference, o = the offset.

  gen_anomalies_ratio_eq            ratio x r o = (x + o) / (r + o) * 100                       (any carrier with + * / and 100)
  gen_anomalies_diff_eq             diff x r o = (x + o) − (r + o)                              (any carrier with + −)
  gen_anomalies_ratio_default_eq    ratio x r (default offset) = x / r * 100                    (a carrier where a + 0 = a)
  gen_anomalies_diff_default_eq     diff x r (default offset) = x − r
  gen_anomalies_diff_offset_free    diff x r o = x − r                                          (additive commutative group: exact arithmetic;
                                                                                                 false in floating point)
  gen_anomalies_ratio_self          r + o ≠ 0 → ratio r r o = 100                               (field)
  gen_anomalies_ratio_eq_100_iff    r + o ≠ 0 → (ratio x r o = 100 ↔ x = r)                     (field of characteristic 0)
  gen_anomalies_ratio_pointwise     on arrays `ι → K`: (ratio x r o) i = ratio (x i) (r i) (o i)   (and the same for diff)
`r + o ≠ 0` is needed wherever the quotient is given a value: at r + o = 0 NumPy returns inf / nan (and warns), a field's
convention x / 0 = 0 is NOT what is claimed here, hence the hypothesis (counterexample below: ratio (−1) (−1) 1 is 0 in ℚ, not 100).
-/
namespace Hdc.GenGlue
open Hdc.Gen.Glue

theorem gen_anomalies_ratio_eq {α : Type} [Add α] [Mul α] [Div α] [OfNat α 100] (x r o : α) :
    anomalies_ratio x r o = (x + o) / (r + o) * 100 := rfl

theorem gen_anomalies_diff_eq {α : Type} [Add α] [Sub α] (x r o : α) :
    anomalies_diff x r o = (x + o) - (r + o) := rfl

/-- the default offset is 0 and then the ratio is x / r * 100 -/
theorem gen_anomalies_ratio_default_eq {α : Type} [DivisionRing α] (x r : α) :
    anomalies_ratio_default x r = x / r * 100 := by
  simp only [anomalies_ratio_default, anomalies_ratio, add_zero]

theorem gen_anomalies_diff_default_eq {α : Type} [AddGroup α] (x r : α) :
    anomalies_diff_default x r = x - r := by
  simp only [anomalies_diff_default, anomalies_diff, add_zero]

/-- in exact arithmetic the difference anomaly does not depend on the offset -/
theorem gen_anomalies_diff_offset_free {α : Type} [AddCommGroup α] (x r o : α) :
    anomalies_diff x r o = x - r := by
  simp only [anomalies_diff, add_sub_add_right_eq_sub]

theorem gen_anomalies_ratio_self {α : Type} [Field α] (r o : α) (h : r + o ≠ 0) :
    anomalies_ratio r r o = 100 := by
  simp only [anomalies_ratio, div_self h, one_mul]

theorem gen_anomalies_ratio_eq_100_iff {α : Type} [Field α] [CharZero α] (x r o : α) (h : r + o ≠ 0) :
    anomalies_ratio x r o = 100 ↔ x = r := by
  have h100 : (100 : α) ≠ 0 := by norm_num
  simp only [anomalies_ratio]
  constructor
  · intro e
    have e1 : (x + o) / (r + o) = 1 := by
      have := mul_right_cancel₀ h100 (e.trans (one_mul (100 : α)).symm)
      exact this
    rw [div_eq_one_iff_eq h] at e1
    exact add_right_cancel e1
  · rintro rfl
    rw [div_self h, one_mul]

/-- element-wise on arrays (functions from an index set into a field) -/
theorem gen_anomalies_ratio_pointwise {ι K : Type} [Field K] (x r o : ι → K) (i : ι) :
    anomalies_ratio x r o i = anomalies_ratio (x i) (r i) (o i) ∧
    anomalies_diff x r o i = anomalies_diff (x i) (r i) (o i) := ⟨rfl, rfl⟩

/-! non-vacuity and necessity -/
example : anomalies_ratio (12 : ℚ) 10 0 = 120 ∧ anomalies_ratio (11 : ℚ) 9 1 = 120 ∧ anomalies_diff (12 : ℚ) 10 7 = 2 := by
  simp only [anomalies_ratio, anomalies_diff]; norm_num
example : anomalies_ratio_default (12 : ℚ) 10 = 120 ∧ anomalies_diff_default (12 : ℚ) 10 = 2 := by
  simp only [anomalies_ratio_default, anomalies_diff_default, anomalies_ratio, anomalies_diff]; norm_num
/- `r + o ≠ 0` is necessary: with r + o = 0 the field's quotient is 0, so `ratio r r o = 100` fails -/
example : anomalies_ratio (-1 : ℚ) (-1) 1 ≠ 100 := by
  simp only [anomalies_ratio]; norm_num
/- the ratio DOES depend on the offset (no offset-free law) -/
example : anomalies_ratio (12 : ℚ) 10 0 ≠ anomalies_ratio (12 : ℚ) 10 10 := by
  simp only [anomalies_ratio]; norm_num
/- commutativity / associativity is necessary for `diff` to be offset-free: saturating natural numbers (`Nat` subtraction) -/
example : anomalies_diff (1 : Nat) 3 0 = 0 ∧ (1 : Int) - 3 ≠ 0 := by decide

end Hdc.GenGlue
