import Hdc.Gen.GlueAutocorrAcc
import Hdc.Model.AccPx
/-
GenGlueAutocorrAcc  The GENERATED translation of the accessor `PixelAlgorithms.autocorr` (Hdc/Gen/GlueAutocorrAcc.lean) equals the
decision model (Hdc/Model/AccPx.lean): `dims[0] == "time"` -> `autocorr_tyx` on the data with the nodata attribute (dask: time
re-chunked to ONE chunk iff there is more than one, `map_blocks` with dtype float32 and drop_axis=0), result dims = dims[1:], coords
without time; otherwise `apply_ufunc(autocorr, xx, nodata, core dim time, float32)`.  A missing nodata attribute only warns.
-/
namespace Hdc.GenGluePx
open Hdc Hdc.PyGlue Hdc.Gen.Glue

variable {Obj V Arr Data Coords Dims Res : Type} [Inhabited Data]

theorem gen_autocorr_acc_eq_model (obj : Obj) (an : Obj → Option V) (fd : Obj → String) (isdask : Obj → Bool)
    (nch : Obj → Int) (rechunk : Obj → Obj) (data_of : Obj → Arr) (mb : Arr → Option V → String → Int → Data)
    (call : Arr → Option V → Data) (cwt : Obj → Coords) (dt : Obj → Dims) (mkda : Data → Dims → Coords → Res)
    (ap : Obj → Option V → List String → Res) :
    autocorr_acc obj an fd isdask nch rechunk data_of mb call cwt dt mkda ap
      = .ok (match (autocorrPlan (fd obj) (isdask obj) (nch obj) (an obj)).1 with
             | .tyxEager nd => mkda (call (data_of obj) nd) (dt obj) (cwt obj)
             | .tyxDask r nd =>
               let xx := if r then rechunk obj else obj
               mkda (mb (data_of xx) nd "float32" 0) (dt xx) (cwt xx)
             | .ufunc nd => ap obj nd ["float32"],
             (autocorrPlan (fd obj) (isdask obj) (nch obj) (an obj)).2) := by
  dsimp only [autocorr_acc, autocorrPlan]
  generalize isdask obj = c, an obj = nd, decide (nch obj ≠ 1) = r
  by_cases h1 : fd obj = "time"
  · simp only [h1, decide_true, if_true]
    cases nd <;> cases c <;> cases r <;> rfl
  · simp only [h1, decide_false, if_false, Bool.false_eq_true]
    cases nd <;> rfl

/-- time first, eager: the kernel on the data with the nodata ATTRIBUTE; dims[1:], coords without time -/
theorem gen_autocorr_acc_tyx_eager (obj : Obj) (an : Obj → Option V) (fd : Obj → String) (isdask : Obj → Bool)
    (nch : Obj → Int) (rechunk : Obj → Obj) (data_of : Obj → Arr) (mb : Arr → Option V → String → Int → Data)
    (call : Arr → Option V → Data) (cwt : Obj → Coords) (dt : Obj → Dims) (mkda : Data → Dims → Coords → Res)
    (ap : Obj → Option V → List String → Res) (h1 : fd obj = "time") (h2 : isdask obj = false) :
    autocorr_acc obj an fd isdask nch rechunk data_of mb call cwt dt mkda ap
      = .ok (mkda (call (data_of obj) (an obj)) (dt obj) (cwt obj), (an obj).isNone) := by
  rw [gen_autocorr_acc_eq_model]; simp [autocorrPlan, h1, h2]

/-- time first, dask with SEVERAL time chunks: re-chunked first; everything downstream reads the re-chunked object -/
theorem gen_autocorr_acc_tyx_dask_rechunk (obj : Obj) (an : Obj → Option V) (fd : Obj → String) (isdask : Obj → Bool)
    (nch : Obj → Int) (rechunk : Obj → Obj) (data_of : Obj → Arr) (mb : Arr → Option V → String → Int → Data)
    (call : Arr → Option V → Data) (cwt : Obj → Coords) (dt : Obj → Dims) (mkda : Data → Dims → Coords → Res)
    (ap : Obj → Option V → List String → Res) (h1 : fd obj = "time") (h2 : isdask obj = true) (h3 : nch obj ≠ 1) :
    autocorr_acc obj an fd isdask nch rechunk data_of mb call cwt dt mkda ap
      = .ok (mkda (mb (data_of (rechunk obj)) (an obj) "float32" 0) (dt (rechunk obj)) (cwt (rechunk obj)), (an obj).isNone) := by
  rw [gen_autocorr_acc_eq_model]; simp [autocorrPlan, h1, h2, h3]

/-- time first, dask with ONE time chunk: no re-chunking -/
theorem gen_autocorr_acc_tyx_dask_single (obj : Obj) (an : Obj → Option V) (fd : Obj → String) (isdask : Obj → Bool)
    (nch : Obj → Int) (rechunk : Obj → Obj) (data_of : Obj → Arr) (mb : Arr → Option V → String → Int → Data)
    (call : Arr → Option V → Data) (cwt : Obj → Coords) (dt : Obj → Dims) (mkda : Data → Dims → Coords → Res)
    (ap : Obj → Option V → List String → Res) (h1 : fd obj = "time") (h2 : isdask obj = true) (h3 : nch obj = 1) :
    autocorr_acc obj an fd isdask nch rechunk data_of mb call cwt dt mkda ap
      = .ok (mkda (mb (data_of obj) (an obj) "float32" 0) (dt obj) (cwt obj), (an obj).isNone) := by
  rw [gen_autocorr_acc_eq_model]; simp [autocorrPlan, h1, h2, h3]

/-- time NOT first: apply_ufunc over the core dimension time, float32 -/
theorem gen_autocorr_acc_ufunc (obj : Obj) (an : Obj → Option V) (fd : Obj → String) (isdask : Obj → Bool)
    (nch : Obj → Int) (rechunk : Obj → Obj) (data_of : Obj → Arr) (mb : Arr → Option V → String → Int → Data)
    (call : Arr → Option V → Data) (cwt : Obj → Coords) (dt : Obj → Dims) (mkda : Data → Dims → Coords → Res)
    (ap : Obj → Option V → List String → Res) (h1 : fd obj ≠ "time") :
    autocorr_acc obj an fd isdask nch rechunk data_of mb call cwt dt mkda ap
      = .ok (ap obj (an obj) ["float32"], (an obj).isNone) := by
  rw [gen_autocorr_acc_eq_model]; simp [autocorrPlan, h1]

-- non-vacuity (dask, three time chunks, nodata attribute present: re-chunked, no warning)
example : autocorr_acc (Obj := String) (V := Int) (Arr := String) (Data := String × Option Int × String × Int) (Coords := String)
    (Dims := String) (Res := (String × Option Int × String × Int) × String × String)
    "x" (fun _ => some 0) (fun _ => "time") (fun _ => true) (fun _ => 3) (fun o => o ++ "1") (fun o => o ++ ".data")
    (fun a nd d ax => (a, nd, d, ax)) (fun a nd => (a, nd, "", -1)) (fun o => o ++ ".coords-time") (fun o => o ++ ".dims[1:]")
    (fun d dm c => (d, dm, c)) (fun o nd _ => ((o, nd, "", -1), "", ""))
    = .ok ((("x1.data", some 0, "float32", 0), "x1.dims[1:]", "x1.coords-time"), false) := by
  rw [gen_autocorr_acc_eq_model]; rfl

end Hdc.GenGluePx
