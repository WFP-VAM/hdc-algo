import Hdc.Gen.GlueCalIndices
import Hdc.Lemmas.GenGlueCal
import Hdc.Props.C09
/-
GenGlueCalIndices  The GENERATED translation of `hdc/algo/utils.py::get_calibration_indices` (Hdc/Gen/GlueCalIndices.lean, two
variants: `groups` absent / given) equals the hand models `Hdc.calIndices` / `Hdc.calIndicesGrp` the C09 theorems are about.

Correspondence: `time` = the datetime64 values of the index as integers; the model's `b`, `e` are `np.datetime64(begin)`,
`np.datetime64(end)` (parameter `datetime64`); `groups : List ℕ` are the int16 labels (the program takes any integers; a
negative label matches no `ix` of `range(num_groups)`, like a label ≥ num_groups); model `numGroups` = `num_groups` when given,
else `len(np.unique(np.array(groups)))` (parameter `np_unique_len`).
Hypotheses, and an input outside each where program and model differ:
  * `Ascending time` + `SearchsortedSpec` (NumPy's contract for searchsorted needs a sorted array; on `[3, 1, 2]` NumPy's binary
    search for 2 from the left returns 0 or 3 depending on the probe sequence, the model's `takeWhile` count is 0)
  * grouped: `groups.length = time.length` (a shorter mask: NumPy raises IndexError, the model's `zip` truncates),
    `time.length ≤ 32767` + `Int16TableSpec` (a group whose window ends beyond position 32767: OverflowError / the model's index)
-/
namespace Hdc.GenGlue
open Hdc Hdc.PyGlue Hdc.Gen.Glue

set_option linter.unusedVariables false

section
variable {D : Type}

/-- without groups: the pair `(searchLeft time b, searchRight time e)` of the model -/
theorem gen_cal_indices_eq_model (dt : D → Int) (ss : List Int → Int → String → Except Exc Int)
    (time : List Int) (b e : D) (ng : Option Int)
    (hasc : C09.Ascending time) (hss : SearchsortedSpec ss) :
    get_calibration_indices dt ss time (b, e) ng
      = .ok (((calIndices time (dt b) (dt e)).1 : Int), ((calIndices time (dt b) (dt e)).2 : Int)) := by
  unfold get_calibration_indices
  simp only [(hss time _ hasc).1, (hss time _ hasc).2]
  glue_eval
  rfl

/-- with groups: one row `[start, stop]` per group `0 .. num_groups-1`, the model's indices inside the group's sub-axis -/
theorem gen_cal_indices_grp_eq_model (dt : D → Int) (ss : List Int → Int → String → Except Exc Int)
    (ul : List Int → Int) (arr16 : List (List Int) → Except Exc (List (List Int)))
    (time : List Int) (b e : D) (groups : List Nat) (ng : Option Nat) (k : Nat)
    (hasc : C09.Ascending time) (hss : SearchsortedSpec ss) (h16 : Int16TableSpec arr16)
    (hlen : groups.length = time.length) (hsmall : time.length ≤ 32767)
    (hk : ng.getD (ul (groups.map Int.ofNat)).toNat = k) (hul : ng = none → 0 ≤ ul (groups.map Int.ofNat)) :
    get_calibration_indices_grp dt ss ul arr16 time (b, e) (groups.map Int.ofNat) (ng.map Int.ofNat)
      = .ok ((calIndicesGrp time groups k (dt b) (dt e)).map fun p => [(p.1 : Int), (p.2 : Int)]) := by
  have hkk : (ng.map Int.ofNat).getD (ul (groups.map Int.ofNat)) = (k : Int) := by
    cases ng with
    | none =>
      have := hul rfl
      simp only [Option.getD_none] at hk
      simp only [Option.map_none, Option.getD_none]
      omega
    | some v => exact congrArg Int.ofNat hk
  -- one pass of the desugared comprehension: mask selection = `gatherGrp`, searchsorted on the (ascending) sub-axis = the
  -- model's searches
  have hm : ∀ g : Nat, ((groups.map Int.ofNat).map fun x => decide (x = (g : Int))) = groups.map fun k => decide (k = g) := by
    intro g; rw [List.map_map]; apply List.map_congr_left; intro a _; simp
  have hsel := fun g => maskSelect_eq_gatherGrp time groups g hlen
  have hsl := fun g v => (hss (gatherGrp time groups g) v (gatherGrp_ascending time hasc groups g)).1
  have hsr := fun g v => (hss (gatherGrp time groups g) v (gatherGrp_ascending time hasc groups g)).2
  unfold get_calibration_indices_grp
  extract_lets _ _ _ _ _ kloop
  refine (arg_default _ _ kloop).trans ?_
  simp +zetaDelta only [hkk, intOf_some, ok_bind]
  rw [forIn_range_rows k (fun g => [((calIndices (gatherGrp time groups g) (dt b) (dt e)).1 : Int),
    ((calIndices (gatherGrp time groups g) (dt b) (dt e)).2 : Int)]) _
    (by intro g acc; simp only [hm, hsel, hsl, hsr, ok_bind, pure_eq, calIndices])]
  rw [ok_bind, h16]
  · simp [calIndicesGrp, gatherGrp]
  · intro r hr v hv
    obtain ⟨g, _, rfl⟩ := List.mem_map.1 hr
    have h1 := C09.cal_indices_fit_int16 (gatherGrp time groups g) (dt b) (dt e)
    have h2 := Hdc.Spi.gatherGrp_length_le g groups time
    simp only [List.mem_cons, List.not_mem_nil, or_false] at hv
    rcases hv with rfl | rfl <;> omega

end

/-! ### C09 read off the translated source -/

/-- the window is exact, both ends inclusive (`C09.window_exact`), for the indices the translated function returns -/
theorem gen_cal_indices_window_exact {D : Type} (dt : D → Int) (ss : List Int → Int → String → Except Exc Int)
    (time : List Int) (b e : D) (ng : Option Int) (hasc : C09.Ascending time) (hss : SearchsortedSpec ss) :
    ∃ i j : Nat, get_calibration_indices dt ss time (b, e) ng = .ok ((i : Int), (j : Int)) ∧
      ∀ k (hk : k < time.length), (i ≤ k ∧ k < j) ↔ (dt b ≤ time[k] ∧ time[k] ≤ dt e) :=
  ⟨_, _, gen_cal_indices_eq_model dt ss time b e ng hasc hss, fun k hk => C09.window_exact time hasc _ _ k hk⟩

/-! ### Non-vacuity (a searchsorted that satisfies the specification: the model's own) -/

def ssEx (a : List Int) (v : Int) (side : String) : Except Exc Int :=
  if side = "left" then .ok (Py.searchLeft a v : Nat) else if side = "right" then .ok (Py.searchRight a v : Nat)
  else .error .valueError

theorem ssEx_spec : SearchsortedSpec ssEx := fun a v _ => ⟨rfl, rfl⟩

def arr16Ex (t : List (List Int)) : Except Exc (List (List Int)) :=
  if t.all (fun r => r.all fun v => decide (-32768 ≤ v ∧ v ≤ 32767)) then .ok t else .error .overflowError

theorem arr16Ex_spec : Int16TableSpec arr16Ex := by
  intro t h
  unfold arr16Ex
  rw [if_pos]
  simp only [List.all_eq_true, decide_eq_true_eq]
  exact h

example : get_calibration_indices (D := Int) id ssEx [1, 3, 5, 7, 9] (3, 7) none = .ok (1, 4) :=
  (gen_cal_indices_eq_model _ _ _ _ _ _ (by unfold C09.Ascending; decide) ssEx_spec).trans (by decide)

example : get_calibration_indices_grp (D := Int) id ssEx (fun g => ((Py.unique g).length : Int)) arr16Ex [1, 2, 3, 4, 5, 6] (2, 6)
    [0, 1, 0, 1, 0, 1] none = .ok [[1, 3], [0, 3]] :=
  (gen_cal_indices_grp_eq_model id ssEx (fun g => ((Py.unique g).length : Int)) arr16Ex [1, 2, 3, 4, 5, 6] 2 6
    [0, 1, 0, 1, 0, 1] none 2 (by unfold C09.Ascending; decide) ssEx_spec arr16Ex_spec rfl (by decide) (by decide)
    (by intro _; decide)).trans (by decide)

end Hdc.GenGlue
