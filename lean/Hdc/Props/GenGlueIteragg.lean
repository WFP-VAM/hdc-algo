import Hdc.Gen.GlueIteragg
import Hdc.Lemmas.GenGlueIteragg
import Hdc.Props.C19
import Mathlib.Tactic.SplitIfs
/-
GenGlueIteragg  The GENERATED translation of `IterativeAggregation._iteragg` (Hdc/Gen/GlueIteragg.lean, regenerated from
hdc/algo/accessors.py on every run) equals the hand model `Hdc.iterAgg` (Hdc/Model/Discrete.lean) the C19 theorems are about.

Correspondence of the arguments
  * `size`     = `self._obj[dim].size` = `self._obj.sizes[dim]` (two spellings in the source: parameters `dim_size`, `sizes_dim`,
                 both instantiated with `size`: an xarray fact)
  * model `n`  = the source's `n` when given (`n : Option ℕ`, the source takes any int: negative `n` is outside the model), else `size`
  * model `beginLoc : Option ℤ` = `none` when the source's `begin is None`, else `some r` with `r` the ONE element of
                 `_index.get_indexer([begin], method=method)` (`loc l`; pandas returns -1 for a label it cannot locate);
                 the same for `endLoc`.  A `KeyError` of `get_indexer` is the second outcome: ValueError (`gen_iteragg_keyError_*`),
                 any other exception propagates unchanged (`gen_iteragg_other_exc_begin`).
  * the model's windows `(jj, ii)` are the yielded objects `aggObj … jj ii`: `self._obj[{dim: slice(jj, ii)}]` with its attributes,
                 reduced by `func` when one is given and re-expanded along time.  What these library calls compute is OUTSIDE this
                 theorem (parameters `mk_region`, `select`, `reduce`, `expand_dims`); instantiated with pairs and identities the
                 program returns exactly the model's windows (`gen_iteragg_windows`).
Hypotheses: `has_dim = true` (otherwise ValueError: `gen_iteragg_no_dim`) and `n ≠ 0` for the effective `n`
  (otherwise AssertionError: `gen_iteragg_n_zero`; the model has no assertion - for `n = none` on an EMPTY axis the model
  returns `ok []` where the source raises AssertionError: a difference between model and source outside the documented use).
Method: the results of `get_indexer` are rewritten in first (an unknown outcome would make `glue_eval` carry both branches of
`tryExcept` through the rest of the program), then the straight-line part is evaluated symbolically for each combination of given
optionals; the loop is `forIn_rangeDown_iterWindows`, whose hypothesis about the loop body holds by `rfl` once `ok_yield_ite` has
folded the three ways the body builds the yielded object into the branches of `aggObj`.
-/
namespace Hdc.GenGlue
open Hdc Hdc.PyGlue Hdc.Gen.Glue

section
variable {Lbl Obj : Type}

/-- the object yielded for the window `[jj, ii)`, in terms of the library parameters -/
def aggObj (mk_region : Int → Int → Obj) (select : Obj → Int → Int → Obj) (func_given : Bool) (reduce : Obj → Obj)
    (dim_is_time : Bool) (expand_dims : Obj → Int → Obj) (jj ii : Int) : Obj :=
  let o := select (mk_region jj ii) jj ii
  if func_given then (if dim_is_time then expand_dims (reduce o) ii else reduce o) else o

/-- the model's result read as a result of the program: windows ↦ yielded objects, the model's only error is ValueError -/
def liftAgg (F : Int → Int → Obj) : Except AggErr (List (Nat × Nat)) → Except Exc (List Obj)
  | .ok l => .ok (l.map fun p => F (p.1 : Int) (p.2 : Int))
  | .error _ => .error .valueError

/-- The translated `_iteragg` equals the hand model `iterAgg`. -/
theorem gen_iteragg_eq_model (size : Nat) (n : Option Nat) (gi : Option Lbl → Except Exc Int) (loc : Lbl → Int)
    (mk : Int → Int → Obj) (sel : Obj → Int → Int → Obj) (fg : Bool) (red : Obj → Obj) (dt : Bool) (ex : Obj → Int → Obj)
    (b e : Option Lbl)
    (hb : ∀ l, b = some l → gi (some l) = .ok (loc l))
    (he : ∀ l, e = some l → gi (some l) = .ok (loc l))
    (hn : n.getD size ≠ 0) :
    iteragg true size gi size mk sel fg red dt ex (n.map Int.ofNat) b e
      = liftAgg (aggObj mk sel fg red dt ex) (iterAgg size (n.getD size) (b.map loc) (e.map loc)) := by
  have hm : (n.map Int.ofNat).getD (size : Int) = ((n.getD size : Nat) : Int) := by cases n <;> rfl
  rw [iteragg_n_getD, hm]
  generalize n.getD size = m at hn ⊢
  have loop (B E : Int) (hE : 0 ≤ E) f hf := forIn_rangeDown_iterWindows (aggObj mk sel fg red dt ex) m E hE f hf B []
  unfold iteragg
  rcases b with _ | lb <;> rcases e with _ | le
  · glue_eval
    glue_norm
    simp only [Int.natCast_eq_zero, hn, if_false, Int.sub_sub_self, and_true, ok_yield_ite]
    rw [loop _ 0 (Int.le_refl 0)]
    · rfl
    · exact fun _ _ _ => rfl
  · rw [he le rfl]
    glue_eval
    glue_norm
    simp only [Int.natCast_eq_zero, hn, if_false, Int.sub_sub_self, and_true, ok_yield_ite, iterAgg]
    by_cases h2 : loc le < 0
    · rw [if_pos h2, if_pos h2]
      rfl
    rw [if_neg h2, if_neg h2, loop _ (loc le) (by omega)]
    · rfl
    · exact fun _ _ _ => rfl
  · rw [hb lb rfl]
    glue_eval
    glue_norm
    simp only [Int.natCast_eq_zero, hn, if_false, Int.sub_sub_self, and_true, ok_yield_ite, iterAgg]
    by_cases h1 : loc lb + 1 = 0
    · rw [if_pos h1, if_pos h1]
      rfl
    rw [if_neg h1, if_neg h1, loop _ 0 (Int.le_refl 0)]
    · rfl
    · exact fun _ _ _ => rfl
  · rw [hb lb rfl, he le rfl]
    glue_eval
    glue_norm
    simp only [Int.natCast_eq_zero, hn, if_false, Int.sub_sub_self, and_true, ok_yield_ite, iterAgg]
    by_cases h1 : loc lb + 1 = 0
    · rw [if_pos h1, if_pos h1]
      rfl
    by_cases h2 : loc le < 0
    · rw [if_neg h1, if_pos h2, if_neg h1, if_pos h2]
      rfl
    rw [if_neg h1, if_neg h2, if_neg h1, if_neg h2, loop _ (loc le) (by omega)]
    · rfl
    · exact fun _ _ _ => rfl

/-- The list of WINDOWS: with pairs for the yielded objects (`mk_region := Prod.mk`, the other library calls the identity) the
    program returns exactly the model's windows, in the model's order. -/
theorem gen_iteragg_windows (size : Nat) (n : Option Nat) (gi : Option Lbl → Except Exc Int) (loc : Lbl → Int)
    (fg dt : Bool) (b e : Option Lbl)
    (hb : ∀ l, b = some l → gi (some l) = .ok (loc l))
    (he : ∀ l, e = some l → gi (some l) = .ok (loc l))
    (hn : n.getD size ≠ 0) :
    iteragg (Obj := Int × Int) true size gi size Prod.mk (fun o _ _ => o) fg id dt (fun o _ => o) (n.map Int.ofNat) b e
      = liftAgg Prod.mk (iterAgg size (n.getD size) (b.map loc) (e.map loc)) := by
  rw [gen_iteragg_eq_model size n gi loc _ _ fg _ dt _ b e hb he hn]
  congr 1
  funext jj ii
  cases fg <;> cases dt <;> rfl

/-- a missing dimension: ValueError, whatever the other arguments -/
theorem gen_iteragg_no_dim (ds sd : Int) (gi : Option Lbl → Except Exc Int)
    (mk : Int → Int → Obj) (sel : Obj → Int → Int → Obj) (fg : Bool) (red : Obj → Obj) (dt : Bool) (ex : Obj → Int → Obj)
    (n : Option Int) (b e : Option Lbl) :
    iteragg false ds gi sd mk sel fg red dt ex n b e = .error .valueError := rfl

/-- `n = 0` (given, or by default on an empty axis): AssertionError -/
theorem gen_iteragg_n_zero (ds sd : Int) (gi : Option Lbl → Except Exc Int)
    (mk : Int → Int → Obj) (sel : Obj → Int → Int → Obj) (fg : Bool) (red : Obj → Obj) (dt : Bool) (ex : Obj → Int → Obj)
    (n : Option Int) (b e : Option Lbl) (hn : n.getD ds = 0) :
    iteragg true ds gi sd mk sel fg red dt ex n b e = .error .assertionError := by
  rw [iteragg_n_getD, hn]
  rfl

/-- the second outcome of the lookup of `begin`: a `KeyError` of `get_indexer` becomes ValueError -/
theorem gen_iteragg_keyError_begin (ds sd : Int) (gi : Option Lbl → Except Exc Int)
    (mk : Int → Int → Obj) (sel : Obj → Int → Int → Obj) (fg : Bool) (red : Obj → Obj) (dt : Bool) (ex : Obj → Int → Obj)
    (n : Option Int) (l : Lbl) (e : Option Lbl) (hn : n.getD ds ≠ 0) (hk : gi (some l) = .error .keyError) :
    iteragg true ds gi sd mk sel fg red dt ex n (some l) e = .error .valueError :=
  iteragg_begin_error ds sd gi mk sel fg red dt ex n l e .keyError hn hk

/-- … any other exception of the lookup propagates unchanged -/
theorem gen_iteragg_other_exc_begin (ds sd : Int) (gi : Option Lbl → Except Exc Int)
    (mk : Int → Int → Obj) (sel : Obj → Int → Int → Obj) (fg : Bool) (red : Obj → Obj) (dt : Bool) (ex : Obj → Int → Obj)
    (n : Option Int) (l : Lbl) (e : Option Lbl) (x : Exc) (hn : n.getD ds ≠ 0) (hk : gi (some l) = .error x)
    (hx : x ≠ .keyError) :
    iteragg true ds gi sd mk sel fg red dt ex n (some l) e = .error x := by
  rw [iteragg_begin_error ds sd gi mk sel fg red dt ex n l e x hn hk, if_neg hx]

/-- the lookup of `end` (after a successful lookup of `begin`): a `KeyError` becomes ValueError -/
theorem gen_iteragg_keyError_end (ds sd : Int) (gi : Option Lbl → Except Exc Int)
    (mk : Int → Int → Obj) (sel : Obj → Int → Int → Obj) (fg : Bool) (red : Obj → Obj) (dt : Bool) (ex : Obj → Int → Obj)
    (n : Option Int) (b : Option Lbl) (l : Lbl) (hn : n.getD ds ≠ 0) (hne : b ≠ some l)
    (hb : ∀ lb, b = some lb → ∃ r, gi (some lb) = .ok r) (hk : gi (some l) = .error .keyError) :
    iteragg true ds gi sd mk sel fg red dt ex n b (some l) = .error .valueError := by
  rw [iteragg_n_getD]
  unfold iteragg
  rcases b with _ | lb
  · rw [hk]
    glue_eval
    glue_norm
    rw [if_neg hn]
    rfl
  · obtain ⟨r, hr⟩ := hb lb rfl
    rw [hr, hk]
    glue_eval
    glue_norm
    rw [if_neg hn]
    split_ifs <;> rfl

/-! ### C19 read off the translated source -/

/-- a label `get_indexer` cannot locate (-1) raises ValueError: `begin` … -/
theorem gen_iteragg_unlocatable_begin (size : Nat) (n : Option Nat) (gi : Option Lbl → Except Exc Int) (loc : Lbl → Int)
    (mk : Int → Int → Obj) (sel : Obj → Int → Int → Obj) (fg : Bool) (red : Obj → Obj) (dt : Bool) (ex : Obj → Int → Obj)
    (l : Lbl) (e : Option Lbl) (hb : gi (some l) = .ok (-1))
    (he : ∀ l, e = some l → gi (some l) = .ok (loc l)) (hn : n.getD size ≠ 0) :
    iteragg true size gi size mk sel fg red dt ex (n.map Int.ofNat) (some l) e = .error .valueError := by
  classical
  have hloc : ∀ l', e = some l' → gi (some l') = .ok ((fun x => if x = l then (-1 : Int) else loc x) l') := by
    intro l' hl'
    by_cases h : l' = l
    · subst h; simpa using hb
    · simpa [h] using he l' hl'
  rw [gen_iteragg_eq_model size n gi (fun x => if x = l then (-1 : Int) else loc x) mk sel fg red dt ex (some l) e
    (by intro l' hl'; cases hl'; simpa using hb) hloc hn]
  simp only [Option.map_some, if_true, C19.iterAgg_unlocatable_begin]
  rfl

/-- … located labels never raise, and the yielded objects are those of exactly the windows of `n` steps whose last step
    lies between `end` and `begin` inclusive, newest first (`C19.iterAgg_located`, `C19.iterWindows_mem`) -/
theorem gen_iteragg_located (size n : Nat) (gi : Option Lbl → Except Exc Int) (fg dt : Bool) (lb le : Lbl) (bi ei : Nat)
    (hb : gi (some lb) = .ok bi) (he : gi (some le) = .ok ei) (hn : 0 < n) :
    ∃ ws : List (Nat × Nat),
      iteragg (Obj := Int × Int) true size gi size Prod.mk (fun o _ _ => o) fg id dt (fun o _ => o) (some (n : Int))
        (some lb) (some le) = .ok (ws.map fun p => ((p.1 : Int), (p.2 : Int))) ∧
      (∀ jj ii, (jj, ii) ∈ ws ↔ (ii = jj + n ∧ ei < ii ∧ ii ≤ bi + 1)) ∧
      ws.Pairwise (fun p q => q.2 < p.2) := by
  classical
  refine ⟨iterWindows n ei (bi + 1), ?_, fun jj ii => C19.iterWindows_mem n ei (bi + 1) jj ii hn,
    C19.iterWindows_sorted n ei (bi + 1)⟩
  have := gen_iteragg_windows size (some n) gi (fun x => if x = lb then (bi : Int) else (ei : Int)) fg dt (some lb) (some le)
    (by intro l hl; cases hl; simpa using hb)
    (by intro l hl; cases hl
        by_cases h : le = lb
        · subst h; simpa using hb
        · simpa [h] using he)
    (by simpa using Nat.pos_iff_ne_zero.mp hn)
  simp only [Option.map_some, Int.ofNat_eq_natCast] at this
  rw [this]
  by_cases h : le = lb
  · subst h
    have hbe : (bi : Int) = ei := by
      rw [hb] at he; injection he
    have hbe' : bi = ei := by omega
    subst hbe'
    simp [liftAgg, C19.iterAgg_located]
  · simp [h, liftAgg, C19.iterAgg_located]

end

/-! ### Non-vacuity: concrete calls (labels = positions, `get_indexer` = "the position, -1 when outside the axis") -/

/-- a stand-in for `_index.get_indexer([x])` on the axis `0 .. 4` -/
def locEx (l : Int) : Int := if 0 ≤ l ∧ l < 5 then l else -1
def giEx : Option Int → Except Exc Int
  | some l => .ok (locEx l)
  | none => .ok (-1)

example : iteragg (Obj := Int × Int) true 5 giEx 5 Prod.mk (fun o _ _ => o) true id true (fun o _ => o) (some 2) none none
    = .ok [(3, 5), (2, 4), (1, 3), (0, 2)] :=
  (gen_iteragg_windows 5 (some 2) giEx locEx true true none none (by intro l h; cases h) (by intro l h; cases h)
    (by decide)).trans rfl

example : iteragg (Obj := Int × Int) true 5 giEx 5 Prod.mk (fun o _ _ => o) false id false (fun o _ => o) (some 2)
    (some 3) (some 1) = .ok [(2, 4), (1, 3), (0, 2)] :=
  (gen_iteragg_windows 5 (some 2) giEx locEx false false (some 3) (some 1) (by intro l h; cases h; rfl)
    (by intro l h; cases h; rfl) (by decide)).trans rfl

/-- a label outside the axis: ValueError -/
example : iteragg (Obj := Int × Int) true 5 giEx 5 Prod.mk (fun o _ _ => o) false id false (fun o _ => o) (some 2)
    (some 7) none = .error .valueError :=
  (gen_iteragg_windows 5 (some 2) giEx locEx false false (some 7) none (by intro l h; cases h; rfl)
    (by intro l h; cases h) (by decide)).trans rfl

/-- the default `n` (the whole axis): one window -/
example : iteragg (Obj := Int × Int) true 5 giEx 5 Prod.mk (fun o _ _ => o) false id false (fun o _ => o) none none none
    = .ok [(0, 5)] :=
  (gen_iteragg_windows 5 none giEx locEx false false none none (by intro l h; cases h) (by intro l h; cases h)
    (by decide)).trans rfl

end Hdc.GenGlue
