import Hdc.Gen.GlueLinspace
import Hdc.Lemmas.GenGlueLinspace
import Hdc.Props.C09
/-
GenGlueLinspace  The GENERATED translation of `hdc/algo/utils.py::to_linspace` (Hdc/Gen/GlueLinspace.lean) equals the hand model
`Hdc.toLinspace` (Hdc/Model/Discrete.lean): the index of every label among the sorted distinct labels, and the keys.

The source computes more than the model says (`idx[idx == keys.size] = 0`, the mask `keys[idx] == x`, `np.where(mask, values[idx],
0)`): the theorem shows these steps are the identity, because every label of `x` is one of the keys.
Hypothesis: `np.searchsorted(keys, v)` on a STRICTLY ASCENDING `keys` is element-wise the model's `searchLeft` (NumPy's contract
on a sorted array; nothing is assumed for unsorted arrays).  `x` is one-dimensional (translator note).
-/
namespace Hdc.GenGlue
open Hdc Hdc.PyGlue Hdc.Gen.Glue Hdc.Spi

variable {L : Type} [LinearOrder L]

/-- assumed behaviour of the vectorised `np.searchsorted(keys, v)` (side = 'left') on strictly ascending keys -/
def SearchsortedVecSpec (ssv : List L → List L → List Int) : Prop :=
  ∀ keys vs : List L, keys.Pairwise (· < ·) → ssv keys vs = vs.map fun v => ((Py.searchLeft keys v : Nat) : Int)

theorem gen_to_linspace_eq_model (ssv : List L → List L → List Int) (hss : SearchsortedVecSpec ssv) (x : List L) :
    to_linspace ssv x = .ok ((toLinspace x).1.map Int.ofNat, (toLinspace x).2) := by
  unfold to_linspace toLinspace
  have hsorted := unique_sorted x
  simp only [npSort_of_sorted _ hsorted, hss _ _ hsorted]
  -- no index equals `keys.size`: the masked assignment changes nothing
  rw [maskAssign_none, ok_bind]
  -- `keys[idx]` gives the labels back, so the mask is all true, and `values[idx] = idx`
  · rw [gather_of _ x _ id, ok_bind, List.map_id, zipWithArr_self, ok_bind,
      gather_of _ x _ fun v => ((Py.searchLeft (Py.unique x) v : Nat) : Int), ok_bind]
    · simp only [decide_true]
      rw [npWhereS_all_true, ok_bind, List.map_map]
      rfl
    · exact fun v hv => getItem_range _ _ (searchLeft_unique_spec x v hv).1
    · intro v hv
      obtain ⟨hlt, heq⟩ := searchLeft_unique_spec x v hv
      rw [getItem_natCast _ _ hlt, heq]
      rfl
  · intro i hi
    obtain ⟨v, hv, rfl⟩ := List.mem_map.1 hi
    have := (searchLeft_unique_spec x v hv).1
    exact decide_eq_false (by simp only [len]; omega)

/-! ### C09 read off the translated source -/

/-- the indices the translated `to_linspace` returns point at the label among the returned keys, and equal indices ⇔ equal
    labels (`C09.toLinspace_spec`) -/
theorem gen_to_linspace_spec (ssv : List L → List L → List Int) (hss : SearchsortedVecSpec ssv) (x : List L) :
    ∃ (idx : List Nat) (keys : List L), to_linspace ssv x = .ok (idx.map Int.ofNat, keys) ∧
      keys.Pairwise (· < ·) ∧ (∀ v, v ∈ keys ↔ v ∈ x) ∧ idx.length = x.length ∧
      ∀ i j (hi : i < x.length) (hj : j < x.length), idx[i]? = idx[j]? ↔ x[i] = x[j] := by
  refine ⟨(toLinspace x).1, (toLinspace x).2, gen_to_linspace_eq_model ssv hss x, C09.toLinspace_keys_sorted x,
    C09.toLinspace_keys_mem x, C09.toLinspace_idx_length x, ?_⟩
  intro i j hi hj
  rw [List.getElem?_eq_getElem ((C09.toLinspace_idx_length x).symm ▸ hi),
    List.getElem?_eq_getElem ((C09.toLinspace_idx_length x).symm ▸ hj), Option.some.injEq]
  exact C09.toLinspace_idx_eq_iff x i j hi hj

/-! ### Non-vacuity -/

example : to_linspace (L := Int) (fun keys vs => vs.map fun v => ((Py.searchLeft keys v : Nat) : Int)) [30, 10, 30, 20]
    = .ok ([2, 0, 2, 1], [10, 20, 30]) :=
  (gen_to_linspace_eq_model _ (fun _ _ _ => rfl) [30, 10, 30, 20]).trans (by decide)

end Hdc.GenGlue
