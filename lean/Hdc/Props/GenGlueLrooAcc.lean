import Hdc.Gen.GlueLrooAcc
import Hdc.Model.AccPx
/-
GenGlueLrooAcc  The GENERATED translation of the accessor `PixelAlgorithms.lroo` (Hdc/Gen/GlueLrooAcc.lean): MissingTimeError without
a time dimension, otherwise `apply_ufunc(ops.lroo, ..)` over the core dimension `time`, output dtype int32, attributes kept.
-/
namespace Hdc.GenGluePx
open Hdc Hdc.PyGlue Hdc.Gen.Glue

variable {Res : Type}

theorem gen_lroo_acc_eq_model (ct : Bool) (ap : List (List String) → List String → Bool → Res) :
    lroo_acc ct ap = (lrooAccCheck ct).map fun _ => ap [["time"]] ["int32"] true := by
  cases ct <;> rfl

theorem gen_lroo_acc_no_time (ap : List (List String) → List String → Bool → Res) :
    lroo_acc false ap = .error .missingTimeError := rfl

/-- the kernel call: core dimension `time`, ONE output of dtype int32, keep_attrs=True -/
theorem gen_lroo_acc_call (ap : List (List String) → List String → Bool → Res) :
    lroo_acc true ap = .ok (ap [["time"]] ["int32"] true) := rfl

-- non-vacuity
example : lroo_acc true (fun cd dt ka => (cd, dt, ka)) = .ok ([["time"]], ["int32"], true) := rfl

end Hdc.GenGluePx
