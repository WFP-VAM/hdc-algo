import Hdc.Gen.GlueMeanGrp
import Hdc.Model.GlueExt
/-
GenGlueMeanGrp  The GENERATED translation of the accessor `PixelAlgorithms.mean_grp` (Hdc/Gen/GlueMeanGrp.lean) equals the
decision function `Hdc.meanGrpAcc` (Hdc/Model/GlueExt.lean), and the precedence of the `nodata`
argument over the `nodata` attribute.
-/
namespace Hdc.GenGlue
open Hdc Hdc.PyGlue Hdc.Gen.Glue

variable {Grp V Res : Type}

/-- the translated accessor: the model's outcome, the kernel applied to the model's arguments -/
theorem gen_mean_grp_acc_eq_model (ct : Bool) (an : Option V) (a16 : Grp → List Int) (tsz : Int) (us : List Int → Int)
    (ap : List Int → Int → Option V → Res) (g : Grp) (nd : Option V) :
    mean_grp_acc ct an a16 tsz us ap g nd
      = (meanGrpAcc ct nd an (a16 g) tsz (us (a16 g))).map fun r => ap r.1 r.2.1 (some r.2.2) := by
  dsimp only [mean_grp_acc, meanGrpAcc, len]
  by_cases h : ((a16 g).length : Int) = tsz
  · simp only [h, ne_eq, not_true_eq_false, decide_false, if_false, Bool.false_eq_true]
    cases ct <;> cases nd <;> cases an <;> rfl
  · simp only [h, ne_eq, not_false_eq_true, decide_true, if_true]
    cases ct <;> cases nd <;> cases an <;> rfl

/-- precedence: an argument wins over the attribute; without an argument the attribute is used; neither: ValueError -/
theorem resolveNodata_arg (v : V) (attr : Option V) : resolveNodata (some v) attr = some v := rfl
theorem resolveNodata_attr (attr : Option V) : resolveNodata none attr = attr := rfl

theorem gen_mean_grp_acc_nodata_precedence (an : Option V) (a16 : Grp → List Int) (us : List Int → Int)
    (ap : List Int → Int → Option V → Res) (g : Grp) (v : V) :
    mean_grp_acc true an a16 (a16 g).length us ap g (some v) = .ok (ap (a16 g) (us (a16 g)) (some v)) := by
  rw [gen_mean_grp_acc_eq_model]
  simp [meanGrpAcc, resolveNodata, Except.map]

theorem gen_mean_grp_acc_nodata_attribute (a16 : Grp → List Int) (us : List Int → Int)
    (ap : List Int → Int → Option V → Res) (g : Grp) (w : V) :
    mean_grp_acc true (some w) a16 (a16 g).length us ap g none = .ok (ap (a16 g) (us (a16 g)) (some w)) := by
  rw [gen_mean_grp_acc_eq_model]
  simp [meanGrpAcc, resolveNodata, Except.map]

theorem gen_mean_grp_acc_no_nodata (a16 : Grp → List Int) (tsz : Int) (us : List Int → Int)
    (ap : List Int → Int → Option V → Res) (g : Grp) :
    mean_grp_acc true (none : Option V) a16 tsz us ap g none = .error .valueError := by
  rw [gen_mean_grp_acc_eq_model]
  simp [meanGrpAcc, resolveNodata, Except.map]

/-- non-vacuity -/
example : mean_grp_acc (Grp := List Int) (V := Int) (Res := List Int × Int × Option Int) true (some 7) id 3
    (fun l => (Hdc.Py.unique l).length) (fun a b c => (a, b, c)) [0, 1, 0] (some (-1)) = .ok ([0, 1, 0], 2, some (-1)) := by
  rw [gen_mean_grp_acc_eq_model]; rfl
example : mean_grp_acc (Grp := List Int) (V := Int) (Res := List Int × Int × Option Int) true (some 7) id 4
    (fun l => (Hdc.Py.unique l).length) (fun a b c => (a, b, c)) [0, 1, 0] (some (-1)) = .error .valueError := by
  rw [gen_mean_grp_acc_eq_model]; rfl

end Hdc.GenGlue
