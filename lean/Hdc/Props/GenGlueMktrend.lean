import Hdc.Gen.GlueMktrend
import Hdc.Model.AccPx
/-
GenGlueMktrend  The GENERATED translation of the accessor `PixelAlgorithms.mktrend` (Hdc/Gen/GlueMktrend.lean) equals the decision
model (Hdc/Model/AccPx.lean): nodata attribute None -> `_mann_kendall_trend_gu` WITHOUT a nodata argument (and a warning), else
`_mann_kendall_trend_gu_nd` WITH it; four outputs float32, float32, float32, int8; merged under tau, pvalue, slope, trend in this
order; `trend.attrs["nodata"] = -2`.  Never raises.
-/
namespace Hdc.GenGluePx
open Hdc Hdc.PyGlue Hdc.Gen.Glue

variable {V Outs Ds : Type} [Inhabited Outs]

theorem gen_mktrend_acc_eq_model (an : Option V) (ap : List String → Outs) (apnd : Option V → List String → Outs)
    (mg : Outs → List String → Ds) (st : Ds → Int → Ds) :
    mktrend_acc an ap apnd mg st
      = .ok (st (mg (match (mktrendKernel an).1 with
                     | .plain => ap mkTrendDtypes
                     | .withNodata v => apnd (some v) mkTrendDtypes) mkTrendNames) mkTrendNodata,
             (mktrendKernel an).2) := by
  cases an <;> rfl

/-- no nodata attribute: the kernel without nodata, warning raised -/
theorem gen_mktrend_acc_no_nodata (ap : List String → Outs) (apnd : Option V → List String → Outs)
    (mg : Outs → List String → Ds) (st : Ds → Int → Ds) :
    mktrend_acc none ap apnd mg st
      = .ok (st (mg (ap ["float32", "float32", "float32", "int8"]) ["tau", "pvalue", "slope", "trend"]) (-2), true) := rfl

/-- nodata attribute `v`: the nodata kernel with `v`, no warning -/
theorem gen_mktrend_acc_nodata (v : V) (ap : List String → Outs) (apnd : Option V → List String → Outs)
    (mg : Outs → List String → Ds) (st : Ds → Int → Ds) :
    mktrend_acc (some v) ap apnd mg st
      = .ok (st (mg (apnd (some v) ["float32", "float32", "float32", "int8"]) ["tau", "pvalue", "slope", "trend"]) (-2), false) := rfl

-- non-vacuity: outputs = the dtype list, the dataset = (name, dtype) pairs + the trend nodata attribute
example : mktrend_acc (V := Int) (Outs := List String) (Ds := List (String × String) × Option Int) (some 0)
    id (fun _ dt => dt) (fun o n => (n.zip o, none)) (fun d v => (d.1, some v))
    = .ok (([("tau", "float32"), ("pvalue", "float32"), ("slope", "float32"), ("trend", "int8")], some (-2)), false) := rfl

end Hdc.GenGluePx
