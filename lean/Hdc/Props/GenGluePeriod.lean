import Hdc.Gen.GluePeriod
import Hdc.Lemmas.GenGluePeriod
/-
GenGluePeriod  The GENERATED translation of the `.dekad` accessor (Hdc/Gen/GluePeriod.lean: `AccessorTimeBase.__init__`, the
properties of `Period`, and `DekadPeriod._period_cls = Dekad` instantiated with the GENERATED `Hdc.Gen.Dekad`) against the
declarative specification Hdc/Model/AccPeriod.lean (defined from year / month / day, never through the raw dekad integer).

The time axis is the list `ts` of its instants.  Notation: `AllDays ts := ∀ t ∈ ts, t.ValidDay` (real civil dates 0001-01-01 ..
9999-12-31), `AllValid ts := ∀ t ∈ ts, t.Valid` (additionally 0 ≤ microsecond of the day < 86400e6), `NoLast ts := ∀ t ∈ ts,
¬ t.inLastDekad` (no instant in 9999-12-d3, whose `end_date` needs `datetime(10000, 1, 1)`).

1 any period class (`cls : PeriodCls T P D`)
  gen_period_map_eq           idx / yidx / raw / label are `ts.map (fun t => cls.<f> (cls.ofInstant t))`, linspace is the map of `yidx − 1`
  gen_period_idx_pointwise    length preserved; element i of idx depends on instant i only (the same for the others by gen_period_map_eq)
  gen_period_ndays_pointwise, gen_period_start_date_pointwise, gen_period_end_date_pointwise
                              a successful result has the length of the axis and element i is the class's value on instant i
  gen_period_ndays_raises     an instant on which the class raises makes the accessor raise (also start_date / end_date)
  gen_period_midx_eq_idx      midx = (one DeprecationWarning with stacklevel 2, idx)
  gen_period_linspace_eq      linspace = yidx − 1 element-wise
2 the dekad class: refinement (AllDays; NoLast for ndays / end_date)
  gen_dekad_idx_refines, gen_dekad_midx_refines, gen_dekad_yidx_refines, gen_dekad_raw_refines, gen_dekad_label_refines,
  gen_dekad_linspace_refines (and every value in 0..35), gen_dekad_start_date_refines, gen_dekad_end_date_refines,
  gen_dekad_ndays_refines;  gen_dekad_last_raises: an instant of 9999-12-d3 makes ndays and end_date raise (NoLast is necessary)
3 consistency on every axis
  gen_dekad_instant_within    start_date[i] ≤ instant i ≤ end_date[i]                       (AllValid, NoLast)
  gen_dekad_ndays_span        end_date[i] + 1 µs − start_date[i] = ndays[i] days            (AllDays, NoLast)
  gen_dekad_label_parses_back `Dekad(label[i])` is the dekad of instant i                   (AllDays)
  gen_dekad_label_eq_iff      label[i] = label[j] ↔ instants i, j lie in the same dekad     (AllDays)
4 constructor
  gen_timebase_init_eq_spec   = the decision table `ctorSpec`;  gen_timebase_init_typeError / _valueError / _expands / _keeps
-/
namespace Hdc.GenGlue
open Hdc Hdc.Py Hdc.PyDate Hdc.PyGlue Hdc.Gen.Glue Hdc.AccPeriod Hdc.GenGluePeriod

def AllDays (ts : List Instant) : Prop := ∀ t ∈ ts, t.ValidDay
def AllValid (ts : List Instant) : Prop := ∀ t ∈ ts, t.Valid
def NoLast (ts : List Instant) : Prop := ∀ t ∈ ts, ¬ t.inLastDekad

/-! ## 1 any period class -/

section generic
variable {T P D : Type} (cls : PeriodCls T P D) (ts : List T)

theorem gen_period_map_eq :
    period_idx cls ts = ts.map (fun t => cls.idx (cls.ofInstant t)) ∧
    period_yidx cls ts = ts.map (fun t => cls.yidx (cls.ofInstant t)) ∧
    period_raw cls ts = ts.map (fun t => cls.raw (cls.ofInstant t)) ∧
    period_label cls ts = ts.map (fun t => cls.str (cls.ofInstant t)) ∧
    period_linspace cls ts = ts.map (fun t => cls.yidx (cls.ofInstant t) - 1) := by
  refine ⟨rfl, rfl, rfl, rfl, ?_⟩
  simp only [period_linspace, period_yidx, period_tseries, List.map_map]
  rfl

theorem gen_period_idx_pointwise :
    (period_idx cls ts).length = ts.length ∧
    ∀ i : Nat, (period_idx cls ts)[i]? = (ts[i]?).map (fun t => cls.idx (cls.ofInstant t)) := by
  simp only [period_idx, period_tseries, List.length_map, List.getElem?_map, implies_true, and_self]

theorem gen_period_ndays_pointwise {r : List Int} (h : period_ndays cls ts = .ok r) :
    r.length = ts.length ∧ ∀ (i : Nat) (t : T), ts[i]? = some t → ∃ v, cls.ndays (cls.ofInstant t) = .ok v ∧ r[i]? = some v :=
  mapM_ok_getElem _ ts r h

theorem gen_period_start_date_pointwise {r : List D} (h : period_start_date cls ts = .ok r) :
    r.length = ts.length ∧ ∀ (i : Nat) (t : T), ts[i]? = some t → ∃ v, cls.start_date (cls.ofInstant t) = .ok v ∧ r[i]? = some v :=
  mapM_ok_getElem _ ts r h

theorem gen_period_end_date_pointwise {r : List D} (h : period_end_date cls ts = .ok r) :
    r.length = ts.length ∧ ∀ (i : Nat) (t : T), ts[i]? = some t → ∃ v, cls.end_date (cls.ofInstant t) = .ok v ∧ r[i]? = some v :=
  mapM_ok_getElem _ ts r h

/-- an exception of the class on one instant is an exception of the accessor -/
theorem gen_period_ndays_raises {t : T} (ht : t ∈ ts) :
    ((∃ e, cls.ndays (cls.ofInstant t) = .error e) → ∃ e, period_ndays cls ts = .error e) ∧
    ((∃ e, cls.start_date (cls.ofInstant t) = .error e) → ∃ e, period_start_date cls ts = .error e) ∧
    ((∃ e, cls.end_date (cls.ofInstant t) = .error e) → ∃ e, period_end_date cls ts = .error e) :=
  ⟨mapM_error_of_mem (fun x => cls.ndays (cls.ofInstant x)) ts t ht,
   mapM_error_of_mem (fun x => cls.start_date (cls.ofInstant x)) ts t ht,
   mapM_error_of_mem (fun x => cls.end_date (cls.ofInstant x)) ts t ht⟩

theorem gen_period_midx_eq_idx : period_midx cls ts = ([PyWarning.deprecationWarning 2], period_idx cls ts) := rfl

theorem gen_period_linspace_eq : period_linspace cls ts = (period_yidx cls ts).map (fun v => v - 1) := rfl

end generic

/-! ## 2 the dekad class: refinement -/

theorem gen_dekad_idx_refines {ts : List Instant} (h : AllDays ts) : period_idx dekadCls ts = ts.map dekadIdx :=
  List.map_congr_left fun t ht => idx_spec (h t ht)

theorem gen_dekad_midx_refines {ts : List Instant} (h : AllDays ts) : (period_midx dekadCls ts).2 = ts.map dekadIdx :=
  gen_dekad_idx_refines h

theorem gen_dekad_yidx_refines {ts : List Instant} (h : AllDays ts) : period_yidx dekadCls ts = ts.map dekadYidx :=
  List.map_congr_left fun t ht => yidx_spec (h t ht)

theorem gen_dekad_raw_refines {ts : List Instant} (h : AllDays ts) : period_raw dekadCls ts = ts.map dekadRaw :=
  List.map_congr_left fun t ht => raw_spec (h t ht)

theorem gen_dekad_label_refines {ts : List Instant} (h : AllDays ts) : period_label dekadCls ts = ts.map dekadLabel :=
  List.map_congr_left fun t ht => str_spec (h t ht)

theorem gen_dekad_linspace_refines {ts : List Instant} (h : AllDays ts) :
    period_linspace dekadCls ts = ts.map dekadLinspace ∧ ∀ v ∈ period_linspace dekadCls ts, 0 ≤ v ∧ v ≤ 35 := by
  have e : period_linspace dekadCls ts = ts.map dekadLinspace := by
    rw [gen_period_linspace_eq, gen_dekad_yidx_refines h, List.map_map]
    rfl
  refine ⟨e, ?_⟩
  rw [e]
  intro v hv
  obtain ⟨t, ht, rfl⟩ := List.mem_map.1 hv
  obtain ⟨h1, h2, h3, h4, h5, h6⟩ := h t ht
  have := daysInMonth_bounds t.year t.month
  unfold dekadLinspace dekadYidx dekadIdx
  omega

theorem gen_dekad_start_date_refines {ts : List Instant} (h : AllDays ts) :
    period_start_date dekadCls ts = .ok (ts.map dekadStart) :=
  mapM_ok_of_forall _ _ ts fun t ht => start_spec (h t ht)

theorem gen_dekad_end_date_refines {ts : List Instant} (h : AllDays ts) (hl : NoLast ts) :
    period_end_date dekadCls ts = .ok (ts.map dekadEnd) :=
  mapM_ok_of_forall _ _ ts fun t ht => end_spec (h t ht) (hl t ht)

theorem gen_dekad_ndays_refines {ts : List Instant} (h : AllDays ts) (hl : NoLast ts) :
    period_ndays dekadCls ts = .ok (ts.map dekadNdays) :=
  mapM_ok_of_forall _ _ ts fun t ht => ndays_spec (h t ht) (hl t ht)

/-- `NoLast` is necessary: one instant of 9999-12-d3 and `ndays`, `end_date` raise (`datetime(10000, 1, 1)`) -/
theorem gen_dekad_last_raises {ts : List Instant} {t : Instant} (ht : t ∈ ts) (hv : t.ValidDay) (hl : t.inLastDekad) :
    (∃ e, period_ndays dekadCls ts = .error e) ∧ (∃ e, period_end_date dekadCls ts = .error e) :=
  ⟨(gen_period_ndays_raises dekadCls ts ht).1 ⟨_, ndays_last' hv hl⟩,
   (gen_period_ndays_raises dekadCls ts ht).2.2 ⟨_, end_last hv hl⟩⟩

/-! ## 3 consistency on every axis -/

theorem gen_dekad_instant_within {ts : List Instant} (h : AllValid ts) (hl : NoLast ts) :
    ∃ S E, period_start_date dekadCls ts = .ok S ∧ period_end_date dekadCls ts = .ok E ∧
      S.length = ts.length ∧ E.length = ts.length ∧
      ∀ (i : Nat) (t : Instant) (s e : DateTime), ts[i]? = some t → S[i]? = some s → E[i]? = some e →
        s.totalUs ≤ t.totalUs ∧ t.totalUs ≤ e.totalUs := by
  have hd : AllDays ts := fun t ht => (h t ht).1
  refine ⟨_, _, gen_dekad_start_date_refines hd, gen_dekad_end_date_refines hd hl, by simp, by simp, ?_⟩
  intro i t s e ht hs he
  simp only [List.getElem?_map, ht, Option.map_some, Option.some.injEq] at hs he
  subst hs; subst he
  exact start_le_end_spec t (h t (List.mem_of_getElem? ht))

theorem gen_dekad_ndays_span {ts : List Instant} (h : AllDays ts) (hl : NoLast ts) :
    ∃ S E N, period_start_date dekadCls ts = .ok S ∧ period_end_date dekadCls ts = .ok E ∧ period_ndays dekadCls ts = .ok N ∧
      N.length = ts.length ∧
      ∀ (i : Nat) (s e : DateTime) (n : Int), S[i]? = some s → E[i]? = some e → N[i]? = some n →
        e.totalUs + 1 - s.totalUs = n * usPerDay := by
  refine ⟨_, _, _, gen_dekad_start_date_refines h, gen_dekad_end_date_refines h hl, gen_dekad_ndays_refines h hl, by simp, ?_⟩
  intro i s e n hs he hn
  simp only [List.getElem?_map] at hs he hn
  cases hti : ts[i]? with
  | none => simp [hti] at hs
  | some t =>
    simp only [hti, Option.map_some, Option.some.injEq] at hs he hn
    subst hs; subst he; subst hn
    exact ndays_span_spec t

/-- every label parses back (`Dekad(label)`) to the raw integer of the same instant's dekad -/
theorem gen_dekad_label_parses_back {ts : List Instant} (h : AllDays ts) :
    List.mapM Hdc.Gen.Dekad.ofStr (period_label dekadCls ts) = .ok (period_raw dekadCls ts) ∧
    period_raw dekadCls ts = ts.map dekadRaw := by
  refine ⟨?_, gen_dekad_raw_refines h⟩
  unfold period_label
  rw [List.mapM_map]
  refine mapM_ok_of_forall _ _ ts fun t ht => ?_
  show Hdc.Gen.Dekad.ofStr (Hdc.Gen.Dekad.str (Hdc.Gen.Dekad.ofDate t.year t.month t.day)) = .ok (Hdc.Gen.Dekad.raw _)
  rw [C11.raw_eq]
  exact C11.ofStr_str_ok (inRange_of (h t ht))

theorem gen_dekad_label_eq_iff {ts : List Instant} (h : AllDays ts) {i j : Nat} {a b : Instant}
    (ha : ts[i]? = some a) (hb : ts[j]? = some b) :
    (period_label dekadCls ts)[i]? = (period_label dekadCls ts)[j]? ↔ sameDekad a b := by
  have va := h a (List.mem_of_getElem? ha)
  have vb := h b (List.mem_of_getElem? hb)
  simp only [period_label, period_tseries, List.getElem?_map, ha, hb, Option.map_some, Option.some.injEq]
  rw [← ofDate_eq_iff va vb]
  exact ⟨C11.str_injective (inRange_of va) (inRange_of vb), congrArg Hdc.Gen.Dekad.str⟩

/-! ## 4 constructor -/

section ctor
variable {Obj : Type} (isdt hasT inD : Obj → Bool) (ex : Obj → Obj) (o : Obj)

theorem gen_timebase_init_eq_spec :
    timebase_init isdt hasT inD ex o =
      match ctorSpec (isdt o) (hasT o) (inD o) ex o with
      | .typeError => .error .typeError
      | .valueError => .error .valueError
      | .stored x => .ok x := by
  unfold timebase_init ctorSpec
  dsimp only
  cases isdt o <;> cases hasT o <;> cases inD o <;> rfl

/-- not a datetime64 array: TypeError, whatever else holds -/
theorem gen_timebase_init_typeError (h : isdt o = false) : timebase_init isdt hasT inD ex o = .error .typeError := by
  rw [gen_timebase_init_eq_spec]; simp [ctorSpec, h]

/-- datetime64 but no `time` attribute: ValueError -/
theorem gen_timebase_init_valueError (h1 : isdt o = true) (h2 : hasT o = false) :
    timebase_init isdt hasT inD ex o = .error .valueError := by
  rw [gen_timebase_init_eq_spec]; simp [ctorSpec, h1, h2]

/-- `time` is not a dimension: the object is stored with `expand_dims("time")` applied -/
theorem gen_timebase_init_expands (h1 : isdt o = true) (h2 : hasT o = true) (h3 : inD o = false) :
    timebase_init isdt hasT inD ex o = .ok (ex o) := by
  rw [gen_timebase_init_eq_spec]; simp [ctorSpec, h1, h2, h3]

/-- `time` is a dimension: the object is stored unchanged -/
theorem gen_timebase_init_keeps (h1 : isdt o = true) (h2 : hasT o = true) (h3 : inD o = true) :
    timebase_init isdt hasT inD ex o = .ok o := by
  rw [gen_timebase_init_eq_spec]; simp [ctorSpec, h1, h2, h3]

end ctor

/-! ## 5 non-vacuity and necessity of the hypotheses -/

/-- 2024-02-29T23:59:59 and two more instants -/
def exAxis : List Instant := [⟨2024, 2, 29, 86399000000⟩, ⟨2024, 3, 1, 0⟩, ⟨2023, 12, 31, 1⟩]

example : AllValid exAxis ∧ AllDays exAxis ∧ NoLast exAxis := by
  refine ⟨?_, ?_, ?_⟩ <;> intro t ht <;> simp only [exAxis, List.mem_cons, List.not_mem_nil, or_false] at ht <;>
    rcases ht with rfl | rfl | rfl <;> decide
example : period_label dekadCls exAxis = ["202402d3", "202403d1", "202312d3"] := by decide
example : period_idx dekadCls exAxis = [3, 1, 3] ∧ period_yidx dekadCls exAxis = [6, 7, 36] ∧
    period_linspace dekadCls exAxis = [5, 6, 35] ∧ period_raw dekadCls exAxis = [72869, 72870, 72863] := by decide
example : period_ndays dekadCls exAxis = .ok [9, 10, 11] := by rfl
example : period_start_date dekadCls exAxis = .ok [⟨738937, 0⟩, ⟨738946, 0⟩, ⟨738875, 0⟩] := by rfl
example : period_end_date dekadCls exAxis = .ok [⟨738945, 86399999999⟩, ⟨738955, 86399999999⟩, ⟨738885, 86399999999⟩] := by rfl
example : exAxis.map dekadNdays = [9, 10, 11] ∧ exAxis.map dekadLinspace = [5, 6, 35] := by decide
example : sameDekad ⟨2024, 2, 21, 0⟩ ⟨2024, 2, 29, 5⟩ ∧ ¬ sameDekad ⟨2024, 2, 20, 0⟩ ⟨2024, 2, 21, 0⟩ := by
  unfold sameDekad; decide

/- AllDays is necessary: day 0 (program 3, specification 0), month 13 (program: yidx wraps to 1, specification 37) -/
example : period_idx dekadCls [⟨2024, 2, 0, 0⟩] = [3] ∧ [(⟨2024, 2, 0, 0⟩ : Instant)].map dekadIdx = [0] := by decide
example : period_yidx dekadCls [⟨2024, 13, 1, 0⟩] = [1] ∧ [(⟨2024, 13, 1, 0⟩ : Instant)].map dekadYidx = [37] := by decide
/- the year range is necessary for the dates: year 10000 has no `datetime` -/
example : period_start_date dekadCls [⟨10000, 1, 1, 0⟩] = .error .valueError := by rfl
/- NoLast is necessary (gen_dekad_last_raises): 9999-12-25 -/
example : period_ndays dekadCls [⟨9999, 12, 25, 0⟩] = .error .valueError ∧
    period_end_date dekadCls [⟨9999, 12, 25, 0⟩] = .error .valueError ∧
    period_start_date dekadCls [⟨9999, 12, 25, 0⟩] = .ok [⟨3652049, 0⟩] := by
  refine ⟨?_, ?_, ?_⟩ <;> rfl
/- the microsecond range (AllValid) is necessary for `instant ≤ end_date`: 2 days' worth of microseconds on the 10th -/
example : ¬ ((⟨2024, 1, 10, 2 * 86400000000⟩ : Instant).totalUs ≤ (dekadEnd ⟨2024, 1, 10, 2 * 86400000000⟩).totalUs) := by decide
example : ¬ ((dekadStart ⟨2024, 1, 1, -1⟩).totalUs ≤ (⟨2024, 1, 1, -1⟩ : Instant).totalUs) := by decide
/- constructor -/
example : timebase_init (fun _ : Nat => true) (fun _ => true) (fun o => o % 2 == 0) (fun o => o + 1) 3 = .ok 4 := by rfl
example : timebase_init (fun _ : Nat => true) (fun _ => true) (fun o => o % 2 == 0) (fun o => o + 1) 4 = .ok 4 := by rfl
example : timebase_init (fun _ : Nat => false) (fun _ => false) (fun _ => false) id 4 = .error .typeError := by rfl
example : timebase_init (fun _ : Nat => true) (fun _ => false) (fun _ => false) id 4 = .error .valueError := by rfl

end Hdc.GenGlue
