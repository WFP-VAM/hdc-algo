import Hdc.Gen.GlueRollingSumAcc
import Hdc.Model.AccPx
/-
GenGlueRollingSumAcc  The GENERATED translation of the accessor `RollingWindowAlgos.sum` (Hdc/Gen/GlueRollingSumAcc.lean): the nodata
ARGUMENT wins over the attribute, neither -> ValueError; the kernel is called with (window_size, nodata) in this order along
`dimension`; the result is trimmed by exactly `window_size - 1` leading cells (per pixel, on the list of cells along `dimension`).
-/
namespace Hdc.GenGluePx
open Hdc Hdc.PyGlue Hdc.Gen.Glue

variable {V C : Type}

theorem gen_rolling_sum_acc_eq_model (an : Option V) (ap : Int → Option V → List C) (ws : Int) (nd : Option V) :
    rolling_sum_acc an ap ws nd
      = (rollingSumNodata nd an).map fun v => slice (ap ws (some v)) (some (ws - 1)) none := by
  unfold rolling_sum_acc rollingSumNodata resolveNodata
  rcases nd with _ | v <;> rcases an with _ | w <;> rfl

/-- for a window of at least one cell the slice `[..., window_size - 1:]` drops exactly the first `window_size - 1` cells -/
theorem slice_from_eq_trimLeading (cells : List C) (ws : Int) (h : 1 ≤ ws) :
    slice cells (some (ws - 1)) none = trimLeading cells ws := by
  unfold slice trimLeading
  have h0 : ¬ (ws - 1 < 0) := by omega
  simp only [h0, if_false]
  by_cases hle : ws - 1 ≤ (cells.length : Int)
  · have : (min (ws - 1) (cells.length : Int)).toNat = (ws - 1).toNat := by rw [Int.min_eq_left hle]
    rw [this, List.take_of_length_le (by simp)]
  · have h1 : (min (ws - 1) (cells.length : Int)).toNat = cells.length := by
      rw [Int.min_eq_right (by omega)]; simp
    rw [h1, List.drop_of_length_le (Nat.le_refl _), List.drop_of_length_le (by omega)]
    simp

/-- the nodata argument wins over the attribute -/
theorem gen_rolling_sum_acc_arg (an : Option V) (ap : Int → Option V → List C) (ws : Int) (v : V) (h : 1 ≤ ws) :
    rolling_sum_acc an ap ws (some v) = .ok (trimLeading (ap ws (some v)) ws) := by
  rw [gen_rolling_sum_acc_eq_model, ← slice_from_eq_trimLeading _ _ h]; rfl

/-- without an argument the attribute is used -/
theorem gen_rolling_sum_acc_attr (ap : Int → Option V → List C) (ws : Int) (w : V) (h : 1 ≤ ws) :
    rolling_sum_acc (some w) ap ws none = .ok (trimLeading (ap ws (some w)) ws) := by
  rw [gen_rolling_sum_acc_eq_model, ← slice_from_eq_trimLeading _ _ h]; rfl

/-- neither: ValueError, the kernel is not called -/
theorem gen_rolling_sum_acc_no_nodata (ap : Int → Option V → List C) (ws : Int) :
    rolling_sum_acc (none : Option V) ap ws none = .error .valueError := by
  rw [gen_rolling_sum_acc_eq_model]; rfl

/-- output length: the kernel returns `n` cells, the accessor `n - window_size + 1` (none when the window is longer than the axis) -/
theorem gen_rolling_sum_acc_length (an : Option V) (ap : Int → Option V → List C) (ws : Int) (nd : Option V) (out : List C)
    (h : 1 ≤ ws) (hok : rolling_sum_acc an ap ws nd = .ok out) :
    ∃ v, rollingSumNodata nd an = .ok v ∧ (out.length : Int) = max 0 (((ap ws (some v)).length : Int) - ws + 1) := by
  rw [gen_rolling_sum_acc_eq_model] at hok
  rcases hv : rollingSumNodata nd an with e | v
  · rw [hv] at hok; cases hok
  · rw [hv] at hok
    refine ⟨v, rfl, ?_⟩
    have : out = trimLeading (ap ws (some v)) ws := by
      rw [← slice_from_eq_trimLeading _ _ h]; injection hok with hok; exact hok.symm
    rw [this, trimLeading, List.length_drop]
    omega

-- non-vacuity: a kernel returning as many cells as the axis has (here 5), window 3: 3 cells remain, the argument wins
example : rolling_sum_acc (V := Int) (C := Int × Option Int) (some 7)
    (fun w nd => [(w, nd), (w + 1, nd), (w + 2, nd), (w + 3, nd), (w + 4, nd)]) 3 (some (-1))
    = .ok [(5, some (-1)), (6, some (-1)), (7, some (-1))] := rfl
-- `1 ≤ window_size` is needed: for window_size = 0 the slice `[..., -1:]` keeps only the LAST cell (not all 5 + 1)
example : rolling_sum_acc (V := Int) (C := Int) (some 7) (fun _ _ => [10, 11, 12, 13, 14]) 0 none = .ok [14] := rfl
example : trimLeading [10, 11, 12, 13, 14] (0 : Int) = [10, 11, 12, 13, 14] := rfl

end Hdc.GenGluePx
