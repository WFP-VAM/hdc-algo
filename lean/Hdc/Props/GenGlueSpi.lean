import Hdc.Gen.GlueSpi
import Hdc.Props.GenGlueCalIndices
import Hdc.Lemmas.GenGlueSpi
/-
GenGlueSpi  The GENERATED translation of the accessor `PixelAlgorithms.spi` (Hdc/Gen/GlueSpi.lean; two variants: `groups`
absent / given) validates the calibration window exactly like the hand models `Hdc.spiWindow` / `Hdc.spiWindowGrp`, hands the
model's indices to the kernel call and records the model's `spiAttrs`.
-/
namespace Hdc.GenGlue
open Hdc Hdc.PyGlue Hdc.Gen.Glue

set_option linter.unusedSimpArgs false

section
variable {V Res : Type}

/-- the accessor's result in terms of the models: rejected windows raise ValueError, an accepted window `(i, j)` goes to the
    kernel call `K i j` and the attributes `spiAttrs` are recorded by `A` -/
def spiResult (K : Nat → Nat → Res) (A : Res → Int → Int → Res) (tix : List Int) (cb ce : Option Int) : Except Exc Res :=
  match spiWindow tix cb ce with
  | .error _ => .error .valueError
  | .ok (i, j) =>
    match spiAttrs tix (C09.beginOf tix cb) (C09.endOf tix ce) with
    | (some a, some b) => .ok (A (K i j) a b)
    | _ => .error .indexError

theorem gen_spi_eq_model (an : Option V) (tix : List Int) (dt : Option Int → Int)
    (ss : List Int → Int → String → Except Exc Int) (ap : Option V → Int → Int → Res) (au : Res → Int → Int → Res)
    (cb ce : Option Int) (nd : Option V)
    (hasc : C09.Ascending tix) (hne : tix ≠ []) (hss : SearchsortedSpec ss) (hdt : ∀ t, dt (some t) = t)
    (hnd : (nd.orElse fun _ => an).isSome) :
    spi true an tix dt ss ap au cb ce nd
      = spiResult (fun i j => ap (nd.orElse fun _ => an) i j) au tix cb ce := by
  obtain ⟨t0, ts, rfl⟩ := List.exists_cons_of_ne_nil hne
  have hl : (t0 :: ts).getLast? = some (ts.getLast?.getD t0) := List.getLast?_cons
  generalize ts.getLast?.getD t0 = tl at hl
  -- walk through the join points of the `do` block, each kept as a local definition so that no continuation is copied
  unfold spi
  extract_lets _ _ _ _ kb _ kn
  refine (nodata_default nd an hnd kb).trans ?_
  dsimp -zeta only [kb]
  extract_lets ke
  refine (bound_default cb (v := t0) rfl ke).trans ?_
  dsimp -zeta only [ke]
  extract_lets kr
  refine (bound_default ce (v := tl) (by rw [getItem_neg_one, hl]) kr).trans ?_
  dsimp -zeta only [kr]
  simp -zeta only [raise_guard]
  simp +zetaDelta only [intOf_some, ok_bind, slice_last, slice_first, hl, List.head?_cons,
    gen_cal_indices_eq_model dt ss _ _ _ none hasc hss, hdt, attrs_eval]
  simp only [List.map_cons, List.map_nil, truthArr_single, ok_bind]
  simp only [spiResult, spiWindow, hl, List.head?_cons, C09.beginOf, C09.endOf, List.headD_cons, List.getLastD_eq_getLast?,
    Option.getD_some, ge_iff_le, gt_iff_lt, decide_eq_true_eq, Nat.cast_le]
  generalize calIndices (t0 :: ts) _ _ = ij
  obtain ⟨i, j⟩ := ij
  simp only [short_window_guard]
  split_ifs <;> rfl

/-- the accessor's result with groups: `K` gets the table of the per-group windows -/
def spiResultGrp (K : List (List Int) → Res) (A : Res → Int → Int → Res) (tix : List Int) (groups : List Nat) (k : Nat)
    (cb ce : Option Int) : Except Exc Res :=
  match spiWindowGrp tix groups k cb ce with
  | .error _ => .error .valueError
  | .ok ws =>
    match spiAttrs tix (C09.beginOf tix cb) (C09.endOf tix ce) with
    | (some a, some b) => .ok (A (K (rowsOf ws)) a b)
    | _ => .error .indexError

theorem gen_spi_grp_eq_model {Grp Key : Type} (an : Option V) (tix : List Int) (tls : Grp → List Int × List Key)
    (lt : Int) (a16 : List Int → List Int) (dt : Option Int → Int)
    (ss : List Int → Int → String → Except Exc Int) (ul : List Int → Int)
    (arr16 : List (List Int) → Except Exc (List (List Int)))
    (apg : List Int → Int → Option V → List (List Int) → Res) (au : Res → Int → Int → Res)
    (cb ce : Option Int) (nd : Option V) (g : Grp) (groups : List Nat) (keys : List Key)
    (hasc : C09.Ascending tix) (hne : tix ≠ []) (hss : SearchsortedSpec ss) (hdt : ∀ t, dt (some t) = t)
    (hnd : (nd.orElse fun _ => an).isSome)
    (hlin : tls g = (groups.map Int.ofNat, keys)) (hlt : lt = tix.length)
    (ha16 : a16 (groups.map Int.ofNat) = groups.map Int.ofNat)
    (h16 : Int16TableSpec arr16) (hlen : groups.length = tix.length) (hsmall : tix.length ≤ 32767) :
    spi_grp true an tix tls lt a16 dt ss ul arr16 apg au cb ce nd g
      = spiResultGrp (fun t => apg (groups.map Int.ofNat) keys.length (nd.orElse fun _ => an) t) au tix groups keys.length
          cb ce := by
  obtain ⟨t0, ts, rfl⟩ := List.exists_cons_of_ne_nil hne
  have hl : (t0 :: ts).getLast? = some (ts.getLast?.getD t0) := List.getLast?_cons
  generalize ts.getLast?.getD t0 = tl at hl
  have hcal := gen_cal_indices_grp_eq_model dt ss ul arr16 (t0 :: ts) (some (cb.getD t0)) (some (ce.getD tl)) groups
    (some keys.length) keys.length hasc hss h16 hlen hsmall rfl (by intro h; cases h)
  simp only [hdt, Option.map_some, Int.ofNat_eq_natCast] at hcal
  change _ = Except.ok (rowsOf _) at hcal
  unfold spi_grp
  extract_lets _ _ _ _ _ _ _ _ _ _ kb _ kn
  refine (nodata_default nd an hnd kb).trans ?_
  dsimp -zeta only [kb]
  extract_lets ke
  refine (bound_default cb (v := t0) rfl ke).trans ?_
  dsimp -zeta only [ke]
  extract_lets kr
  refine (bound_default ce (v := tl) (by rw [getItem_neg_one, hl]) kr).trans ?_
  dsimp -zeta only [kr]
  simp -zeta only [raise_guard]
  simp +zetaDelta only [intOf_some, ok_bind, slice_last, slice_first, hl, List.head?_cons, hlin, ha16, hlt, len, List.length_map,
    hlen, hcal, attrs_eval, npCol_rows0, npCol_rows1, zipWithArr_map, any_reversed_rows]
  simp only [List.map_cons, List.map_nil, truthArr_single, ok_bind, ne_eq, not_true_eq_false, decide_false,
    Bool.false_eq_true, if_false]
  simp only [spiResultGrp, spiWindowGrp, hl, List.head?_cons, C09.beginOf, C09.endOf, List.headD_cons,
    List.getLastD_eq_getLast?, Option.getD_some, gt_iff_lt, decide_eq_true_eq]
  generalize calIndicesGrp (t0 :: ts) groups keys.length _ _ = ws
  by_cases h3 : (ws.any fun (i, j) => decide (j ≤ i)) = true
  · simp only [if_pos h3]
    split_ifs <;> rfl
  · rw [any_short_rows ws (Bool.not_eq_true _ ▸ h3)]
    split_ifs <;> rfl

/-! ### the other outcomes -/

/-- no time dimension: MissingTimeError -/
theorem gen_spi_no_timedim (an : Option V) (tix : List Int) (dt : Option Int → Int)
    (ss : List Int → Int → String → Except Exc Int) (ap : Option V → Int → Int → Res) (au : Res → Int → Int → Res)
    (cb ce : Option Int) (nd : Option V) :
    spi false an tix dt ss ap au cb ce nd = .error .missingTimeError :=
  rfl

/-- neither the `nodata` argument nor the attribute: ValueError.  (`gen_spi_eq_model` shows the precedence: the argument when
    given, else the attribute - `nd.orElse fun _ => an`.) -/
theorem gen_spi_no_nodata (tix : List Int) (dt : Option Int → Int)
    (ss : List Int → Int → String → Except Exc Int) (ap : Option V → Int → Int → Res) (au : Res → Int → Int → Res)
    (cb ce : Option Int) :
    spi true none tix dt ss ap au cb ce none = .error .valueError :=
  rfl

/-- an EMPTY axis with a defaulted bound: the source raises IndexError (`tix[0]`) where the model `spiWindow [] _ _` says
    ValueError - the kind of the exception differs (both reject).  With both bounds given the source raises ValueError (the
    truth value of an empty comparison), like the model. -/
theorem gen_spi_empty_axis_default (an : Option V) (dt : Option Int → Int)
    (ss : List Int → Int → String → Except Exc Int) (ap : Option V → Int → Int → Res) (au : Res → Int → Int → Res)
    (ce : Option Int) (v : V) :
    spi true an [] dt ss ap au none ce (some v) = .error .indexError :=
  rfl

theorem gen_spi_empty_axis_given (an : Option V) (dt : Option Int → Int)
    (ss : List Int → Int → String → Except Exc Int) (ap : Option V → Int → Int → Res) (au : Res → Int → Int → Res)
    (b e : Int) (v : V) :
    spi true an [] dt ss ap au (some b) (some e) (some v) = .error .valueError :=
  rfl

/-- with groups: a label array of another length than the axis is rejected -/
theorem gen_spi_grp_length_mismatch {Grp Key : Type} (an : Option V) (tix : List Int) (tls : Grp → List Int × List Key)
    (lt : Int) (a16 : List Int → List Int) (dt : Option Int → Int)
    (ss : List Int → Int → String → Except Exc Int) (ul : List Int → Int)
    (arr16 : List (List Int) → Except Exc (List (List Int)))
    (apg : List Int → Int → Option V → List (List Int) → Res) (au : Res → Int → Int → Res)
    (b e : Int) (v : V) (g : Grp) (t0 : Int) (ts : List Int) (htix : tix = t0 :: ts)
    (h1 : ¬ (t0 :: ts).getLast (by simp) < b) (h2 : ¬ e < t0)
    (hlt : lt = tix.length) (hlen : ((tls g).1.length : Int) ≠ lt) :
    spi_grp true an tix tls lt a16 dt ss ul arr16 apg au (some b) (some e) (some v) g = .error .valueError := by
  subst htix
  have hl : (t0 :: ts).getLast? = some ((t0 :: ts).getLast (by simp)) := List.getLast?_eq_some_getLast _
  generalize (t0 :: ts).getLast (by simp) = tl at hl h1
  unfold spi_grp
  glue_eval
  simp only [slice_last, slice_first, hl, List.head?_cons, List.map_cons, List.map_nil, truthArr_single, gt_iff_lt,
    decide_eq_true_eq, h1, h2, if_false, len, hlen, not_false_eq_true, if_true]
  glue_eval
  simp only [gt_iff_lt, decide_eq_true_eq, h1, h2, if_false, len, hlen, not_false_eq_true, if_true, decide_true, decide_false,
    Bool.false_eq_true]
  rfl

/-! ### C09 read off the translated accessor -/

theorem spiWindow_bounds (t0 : Int) (ts : List Int) (cb ce : Option Int) :
    spiWindow (t0 :: ts) cb ce
      = spiWindow (t0 :: ts) (some (C09.beginOf (t0 :: ts) cb)) (some (C09.endOf (t0 :: ts) ce)) := by
  simp only [spiWindow, List.getLast?_cons, List.head?_cons, C09.beginOf, C09.endOf, Option.getD_some, List.headD_cons,
    List.getLastD_eq_getLast?]

/-- the accessor (no groups) rejects with ValueError exactly the windows that hold fewer than two steps; an accepted window
    `(i, j)` is the model's, it goes to the kernel, and the recorded attributes are the first and the last step inside it -/
theorem gen_spi_spec (an : Option V) (tix : List Int) (dt : Option Int → Int)
    (ss : List Int → Int → String → Except Exc Int) (ap : Option V → Int → Int → Res) (au : Res → Int → Int → Res)
    (cb ce : Option Int) (nd : Option V)
    (hasc : C09.Ascending tix) (hne : tix ≠ []) (hss : SearchsortedSpec ss) (hdt : ∀ t, dt (some t) = t)
    (hnd : (nd.orElse fun _ => an).isSome) :
    ((C09.windowSteps tix (C09.beginOf tix cb) (C09.endOf tix ce)).length < 2 →
      spi true an tix dt ss ap au cb ce nd = .error .valueError) ∧
    (¬ (C09.windowSteps tix (C09.beginOf tix cb) (C09.endOf tix ce)).length < 2 →
      ∃ (i j : Nat) (hi : i < tix.length) (hj : j - 1 < tix.length),
        (i, j) = calIndices tix (C09.beginOf tix cb) (C09.endOf tix ce) ∧ 2 ≤ j - i ∧
        spi true an tix dt ss ap au cb ce nd = .ok (au (ap (nd.orElse fun _ => an) i j) tix[i] tix[j - 1])) := by
  rw [gen_spi_eq_model an tix dt ss ap au cb ce nd hasc hne hss hdt hnd]
  obtain ⟨t0, ts, rfl⟩ := List.exists_cons_of_ne_nil hne
  have hspec := C09.spiWindow_spec (t0 :: ts) hasc cb ce
  constructor
  · intro hlt
    rw [if_pos hlt] at hspec
    simp only [spiResult, hspec]
  · intro hge
    rw [if_neg hge] at hspec
    generalize hij : calIndices (t0 :: ts) (C09.beginOf (t0 :: ts) cb) (C09.endOf (t0 :: ts) ce) = ij at hspec
    obtain ⟨i, j⟩ := ij
    have hok := hspec
    rw [spiWindow_bounds] at hok
    obtain ⟨hi, hj, hattr, _, _, _⟩ := C09.spiAttrs_spec (t0 :: ts) hasc _ _ i j hok
    obtain ⟨_, h2, _⟩ := C09.spiWindow_ok (t0 :: ts) hasc cb ce i j hspec
    refine ⟨i, j, hi, hj, rfl, h2, ?_⟩
    simp only [spiResult, hspec, hattr]

end

/-! ### Non-vacuity -/

example : spi (V := Int) (Res := (Option Int × Int × Int) × Int × Int) true (some (-9999)) [1, 3, 5, 7, 9]
    (fun o => o.getD 0) ssEx (fun nd a b => ((nd, a, b), 0, 0)) (fun r a b => (r.1, a, b)) (some 2) (some 8) none
    = .ok ((some (-9999), 1, 4), 3, 7) :=
  (gen_spi_eq_model _ _ _ _ _ _ _ _ _ (by unfold C09.Ascending; decide) (by decide) ssEx_spec (fun _ => rfl) rfl).trans
    (by decide)

/-- a one-step window is rejected -/
example : spi (V := Int) (Res := (Option Int × Int × Int) × Int × Int) true (some (-9999)) [1, 3, 5, 7, 9]
    (fun o => o.getD 0) ssEx (fun nd a b => ((nd, a, b), 0, 0)) (fun r a b => (r.1, a, b)) (some 4) (some 6) (some 0)
    = .error .valueError :=
  (gen_spi_eq_model _ _ _ _ _ _ _ _ _ (by unfold C09.Ascending; decide) (by decide) ssEx_spec (fun _ => rfl) rfl).trans
    (by decide)

/-- two groups of three steps -/
example : spi_grp (V := Int) (Grp := Unit) (Key := Nat) (Res := List (List Int) × Int × Int) true none [1, 2, 3, 4, 5, 6]
    (fun _ => ([0, 1, 0, 1, 0, 1], [0, 1])) 6 id (fun o => o.getD 0) ssEx (fun _ => 2) arr16Ex
    (fun _ _ _ t => (t, 0, 0)) (fun r a b => (r.1, a, b)) none none (some 0) ()
    = .ok ([[0, 3], [0, 3]], 1, 6) :=
  (gen_spi_grp_eq_model (Key := Nat) none [1, 2, 3, 4, 5, 6] (fun _ => ([0, 1, 0, 1, 0, 1], [0, 1])) 6 id (fun o => o.getD 0)
    ssEx (fun _ => 2) arr16Ex _ _ none none (some 0) () [0, 1, 0, 1, 0, 1] [0, 1]
    (by unfold C09.Ascending; decide) (by decide) ssEx_spec (fun _ => rfl) rfl rfl rfl rfl arr16Ex_spec rfl
    (by decide)).trans (by decide)

end Hdc.GenGlue
