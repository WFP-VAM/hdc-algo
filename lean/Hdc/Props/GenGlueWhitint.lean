import Hdc.Gen.GlueWhitint
import Hdc.Lemmas.GenGlueWhit
/-
GenGlueWhitint  The GENERATED translation of the accessor `WhittakerSmoother.whitint` (Hdc/Gen/GlueWhitint.lean) equals the decision
table `Hdc.AccWhit.whitintPlan`, and the consequences C20 relies on: a dtype other than int16 raises NotImplementedError, the output
template is `np.zeros(k, dtype='u1')` with `k` = the number of DISTINCT daily labels, and that same array's `.size` is the declared
length of the output axis `newtime` (part of the matched literal text of the `apply_ufunc` call, together with `output_dtypes=['int16']`,
the core dims, `dask=` and `keep_attrs=`).
-/
namespace Hdc.GenGlue
open Hdc Hdc.PyGlue Hdc.Gen.Glue Hdc.AccWhit

variable {T TO DA : Type}

/-- REFINEMENT: the translated accessor is the plan, run by the kernel parameter (no hypothesis) -/
theorem gen_whitint_eq_plan (ct : Bool) (dt : String) (z : Int → TO) (ati : T → List Int → TO → DA) (labels : List Int) (t : T) :
    whitint ct dt z ati labels t = (whitintPlan ct dt labels t).map (runTI z ati) := by
  cases ct
  case false => rfl
  by_cases h : dt = "int16"
  · subst h
    rfl
  · simp only [whitint, whitintPlan, h, ne_eq, not_false_eq_true, decide_true, Bool.not_true, Bool.false_eq_true, if_false, if_true]
    rfl

/-- no time dimension: MissingTimeError (checked BEFORE the dtype) -/
theorem gen_whitint_no_time (dt : String) (z : Int → TO) (ati : T → List Int → TO → DA) (labels : List Int) (t : T) :
    whitint false dt z ati labels t = .error .missingTimeError := by
  rw [gen_whitint_eq_plan]; rfl

/-- a dtype other than int16 (`hdt`): NotImplementedError -/
theorem gen_whitint_not_int16 (dt : String) (z : Int → TO) (ati : T → List Int → TO → DA) (labels : List Int) (t : T)
    (hdt : dt ≠ "int16") :
    whitint true dt z ati labels t = .error .notImplementedError := by
  rw [gen_whitint_eq_plan]
  simp only [whitintPlan, hdt, Bool.not_true, Bool.false_eq_true, if_false, if_true, ne_eq, not_false_eq_true, except_map_error]

/-- int16 input: `tinterpolate(template, labels_daily, template_out)` with `template_out = np.zeros(k, 'u1')`,
    `k` = number of distinct labels; template and labels are passed unchanged, in this order -/
theorem gen_whitint_int16 (z : Int → TO) (ati : T → List Int → TO → DA) (labels : List Int) (t : T) :
    whitint true "int16" z ati labels t = .ok (ati t labels (z ((Hdc.Py.unique labels).length : Int))) := by
  rw [gen_whitint_eq_plan]; rfl

/-- the accessor succeeds ONLY for int16 input -/
theorem gen_whitint_ok_iff (ct : Bool) (dt : String) (z : Int → TO) (ati : T → List Int → TO → DA) (labels : List Int) (t : T) :
    (∃ r, whitint ct dt z ati labels t = .ok r) ↔ (ct = true ∧ dt = "int16") := by
  constructor
  · rintro ⟨r, h⟩
    rcases ct with _ | _
    · rw [gen_whitint_no_time] at h; exact nomatch h
    · by_cases hdt : dt = "int16"
      · exact ⟨rfl, hdt⟩
      · rw [gen_whitint_not_int16 _ _ _ _ _ hdt] at h; exact nomatch h
  · rintro ⟨rfl, rfl⟩
    exact ⟨_, gen_whitint_int16 z ati labels t⟩

/-! non-vacuity: the kernel records its arguments, `zeros_u1 n` is the list of n zeros -/
section examples
private def zX : Int → List Int := fun n => List.replicate n.toNat 0
private def atiX : String → List Int → List Int → String × List Int × List Int := fun t l o => (t, l, o)

/-- five daily labels, three distinct: an output template of three zeros -/
example : whitint true "int16" zX atiX [0, 0, 1, 2, 2] "tmpl" = .ok ("tmpl", [0, 0, 1, 2, 2], [0, 0, 0]) := by
  rw [gen_whitint_int16]; rfl
/-- outside `dt = "int16"` (`gen_whitint_int16`), and an instance of `hdt` -/
example : whitint true "float32" zX atiX [0, 0, 1, 2, 2] "tmpl" = .error .notImplementedError :=
  gen_whitint_not_int16 _ _ _ _ _ (by decide)
/-- `hdt` of `gen_whitint_not_int16` is necessary -/
example : whitint true "int16" zX atiX [0, 0, 1, 2, 2] "tmpl" ≠ .error .notImplementedError := by
  rw [gen_whitint_int16]; exact fun h => nomatch h
/-- outside `ct = true` -/
example : whitint false "int16" zX atiX [0, 0, 1, 2, 2] "tmpl" = .error .missingTimeError := gen_whitint_no_time ..
end examples

end Hdc.GenGlue
