import Hdc.Gen.GlueWhits
import Hdc.Lemmas.GenGlueWhit
/-
GenGlueWhits  The GENERATED translation of the accessor `WhittakerSmoother.whits` (Hdc/Gen/GlueWhits.lean, regenerated from the
current source by harness/py2lean_glue_whit.py) equals the decision table `Hdc.AccWhit.whitsPlan` (Hdc/Model/AccWhit.lean), and the
property-level consequences stated outright (C03, C02): the exceptions, `lambda = 10 ** sg` with the sgrid winning over `s`,
`p is not None` (NOT truthiness) selecting the asymmetric kernel, `nodata` passed unchanged in the slot after lambda.

The two `xarray.apply_ufunc(..)` calls are the library parameters `apply_pgu` / `apply_gu`, matched with their full literal text
(kernel, argument order, core dims, `dask=`, `keep_attrs=`): an edit of those literals fails the translation.
-/
namespace Hdc.GenGlue
open Hdc Hdc.PyGlue Hdc.Gen.Glue Hdc.AccWhit

variable {V SG L P DA : Type} [Inhabited DA]

/-- REFINEMENT: the translated accessor is the plan, run by the two kernel parameters (no hypothesis) -/
theorem gen_whits_eq_plan (ct : Bool) (pow10 : SG → L) (ap : Option L → V → Option P → DA) (ag : Option L → V → DA)
    (nd : V) (sg : Option SG) (s : Option L) (p : Option P) :
    whits ct pow10 ap ag nd sg s p = (whitsPlan ct pow10 nd sg s p).map (runFixed ap ag) := by
  cases ct <;> cases sg <;> cases s <;> cases p <;> rfl

/-- no time dimension: MissingTimeError, whatever the arguments -/
theorem gen_whits_no_time (pow10 : SG → L) (ap : Option L → V → Option P → DA) (ag : Option L → V → DA)
    (nd : V) (sg : Option SG) (s : Option L) (p : Option P) :
    whits false pow10 ap ag nd sg s p = .error .missingTimeError := by
  rw [gen_whits_eq_plan]; rfl

/-- neither `sg` nor `s`: ValueError (with a time dimension), whatever `p` -/
theorem gen_whits_no_lambda (pow10 : SG → L) (ap : Option L → V → Option P → DA) (ag : Option L → V → DA)
    (nd : V) (p : Option P) :
    whits true pow10 ap ag nd none none p = .error .valueError := by
  rw [gen_whits_eq_plan]; rfl

/-- `sg` given, no `p`: the SYMMETRIC kernel with `lambda = 10 ** sg` - whatever `s` is (the sgrid wins) - and `nodata` unchanged -/
theorem gen_whits_sg_wins (pow10 : SG → L) (ap : Option L → V → Option P → DA) (ag : Option L → V → DA)
    (nd : V) (g : SG) (s : Option L) :
    whits true pow10 ap ag nd (some g) s none = .ok (ag (some (pow10 g)) nd) := by
  rw [gen_whits_eq_plan]; rfl

/-- `sg` given, `p` given: the ASYMMETRIC kernel with `lambda = 10 ** sg` (whatever `s`), `nodata` after lambda, `p` last -/
theorem gen_whits_sg_wins_p (pow10 : SG → L) (ap : Option L → V → Option P → DA) (ag : Option L → V → DA)
    (nd : V) (g : SG) (s : Option L) (q : P) :
    whits true pow10 ap ag nd (some g) s (some q) = .ok (ap (some (pow10 g)) nd (some q)) := by
  rw [gen_whits_eq_plan]; rfl

/-- only `s` given, no `p`: the symmetric kernel with the constant `s` itself -/
theorem gen_whits_s_const (pow10 : SG → L) (ap : Option L → V → Option P → DA) (ag : Option L → V → DA)
    (nd : V) (l : L) :
    whits true pow10 ap ag nd none (some l) none = .ok (ag (some l) nd) := by
  rw [gen_whits_eq_plan]; rfl

/-- only `s` given, `p` given: the asymmetric kernel with the constant `s` -/
theorem gen_whits_s_const_p (pow10 : SG → L) (ap : Option L → V → Option P → DA) (ag : Option L → V → DA)
    (nd : V) (l : L) (q : P) :
    whits true pow10 ap ag nd none (some l) (some q) = .ok (ap (some l) nd (some q)) := by
  rw [gen_whits_eq_plan]; rfl

/-- `whits` tests `p is not None`, NOT the truth value of `p`: EVERY given `p` - `0.0` included - selects the asymmetric kernel
    (contrast `gen_whitsvc_p_zero_symmetric`, `gen_whitswcv_p_zero_symmetric`).  Whenever a lambda exists the outcome is
    `ws2dpgu(lmda, nodata, p)`; the symmetric parameter `ag` is not consulted. -/
theorem gen_whits_p_is_not_none (pow10 : SG → L) (ap : Option L → V → Option P → DA) (ag : Option L → V → DA)
    (nd : V) (sg : Option SG) (s : Option L) (q : P) (lmda : L) (hl : fixedLambda pow10 sg s = some lmda) :
    whits true pow10 ap ag nd sg s (some q) = .ok (ap (some lmda) nd (some q)) := by
  rw [gen_whits_eq_plan]
  simp only [whitsPlan, hl, Bool.not_true, Bool.false_eq_true, if_false, except_map_ok, runFixed]

/-- the kernel never receives `None` for lambda, and a successful call determines the plan: if `whits` succeeds then a lambda
    existed and the result is exactly one of the two kernels on `(lambda, nodata[, p])` -/
theorem gen_whits_ok_inv (pow10 : SG → L) (ap : Option L → V → Option P → DA) (ag : Option L → V → DA)
    (nd : V) (sg : Option SG) (s : Option L) (p : Option P) (r : DA) (h : whits true pow10 ap ag nd sg s p = .ok r) :
    ∃ lmda, fixedLambda pow10 sg s = some lmda ∧
      r = match p with | some q => ap (some lmda) nd (some q) | none => ag (some lmda) nd := by
  rw [gen_whits_eq_plan] at h
  rcases hl : fixedLambda pow10 sg s with _ | lmda
  · simp only [whitsPlan, hl] at h
    exact nomatch h
  · simp only [whitsPlan, hl] at h
    refine ⟨lmda, rfl, ?_⟩
    cases p <;> exact (Except.ok.inj h).symm

/-- the defaults of the `def` line (`sg=None, s=None, p=None`): `whits(nodata)` alone has no lambda - ValueError -/
theorem gen_whits_dflt (pow10 : SG → L) (ap : Option L → V → Option P → DA) (ag : Option L → V → DA) (nd : V) :
    whits_dflt true pow10 ap ag nd = .error .valueError := by
  unfold whits_dflt; rw [gen_whits_eq_plan]; rfl

/-! non-vacuity (V = L = P = SG = Int, the kernels record their arguments) and the role of each fixed argument -/
section examples
private def apX : Option Int → Int → Option Int → String × Option Int × Int × Option Int := fun l nd p => ("pgu", l, nd, p)
private def agX : Option Int → Int → String × Option Int × Int × Option Int := fun l nd => ("gu", l, nd, none)
private def p10 : Int → Int := fun g => 10 ^ g.toNat

example : whits true p10 apX agX (-3000) (some 2) (some 7) none = .ok ("gu", some 100, -3000, none) := by
  rw [gen_whits_sg_wins]; rfl
example : whits true p10 apX agX (-3000) (some 2) (some 7) (some 0) = .ok ("pgu", some 100, -3000, some 0) := by
  rw [gen_whits_sg_wins_p]; rfl
example : whits true p10 apX agX (-3000) none (some 7) none = .ok ("gu", some 7, -3000, none) := by
  rw [gen_whits_s_const]; rfl
/-- `gen_whits_p_is_not_none` with p = 0 -/
example : whits true p10 apX agX (-3000) none (some 7) (some 0) = .ok ("pgu", some 7, -3000, some 0) :=
  gen_whits_p_is_not_none p10 apX agX (-3000) none (some 7) 0 7 rfl
/-- outside `ct = true` (gen_whits_sg_wins ..): the same arguments without a time dimension raise -/
example : whits false p10 apX agX (-3000) (some 2) (some 7) none ≠ .ok ("gu", some 100, -3000, none) := by
  rw [gen_whits_no_time]; exact fun h => nomatch h
/-- outside `hl` of `gen_whits_p_is_not_none`: no lambda, no kernel -/
example : whits true p10 apX agX (-3000) none none (some 0) = .error .valueError := by
  rw [gen_whits_no_lambda]
/-- `gen_whits_no_lambda` needs BOTH absent: with `s` given the call succeeds -/
example : whits true p10 apX agX (-3000) none (some 7) none ≠ .error .valueError := by
  rw [gen_whits_s_const]; exact fun h => nomatch h
end examples

end Hdc.GenGlue
