import Hdc.Gen.GlueWhitsvc
import Hdc.Lemmas.GenGlueWhit
/-
GenGlueWhitsvc  The GENERATED translation of the accessor `WhittakerSmoother.whitsvc` (Hdc/Gen/GlueWhitsvc.lean) equals the decision
table `Hdc.AccWhit.whitsvcPlan` followed by the post-processing `sgridDataset` (the Dataset named after the input with the second
variable `sgrid = log10(lambda)` as float32), and the consequences C04 relies on.

`if p:` in the branch without `lc` is the Python TRUTH VALUE of an `Optional[float]`: the translator renders it through the explicit
parameter `p_nonzero : P → Bool` (`p is not None and p != 0`; NaN is truthy), while `if p is None:` in the `lc` branch is `p.isNone`.
The three `xarray.apply_ufunc(..)` calls and the two post-processing lines are library parameters matched with their full literal
text.
-/
namespace Hdc.GenGlue
open Hdc Hdc.PyGlue Hdc.Gen.Glue Hdc.AccWhit

variable {V LC SR P DA SGr DS LogS : Type} [Inhabited DA] [Inhabited SGr]

/-- REFINEMENT: the translated accessor is the plan, run by the three kernel parameters, then turned into the output Dataset
    (no hypothesis) -/
theorem gen_whitsvc_eq_plan (ct : Bool) (alc : V → Option P → Option LC → DA × SGr) (nz : P → Bool)
    (avp : V → Option P → Option SR → DA × SGr) (av : V → Option SR → DA × SGr)
    (td : DA → DS) (lg : SGr → LogS) (ss : DS → LogS → DS) (nd : V) (lc : Option LC) (sr : Option SR) (p : Option P) :
    whitsvc ct alc nz avp av td lg ss nd lc sr p
      = (whitsvcPlan ct nz nd lc sr p).map fun c => sgridDataset td lg ss (runV alc avp av c) := by
  rcases ct with _ | _
  · rfl
  rcases lc with _ | c
  · rcases sr with _ | r
    · cases p <;> rfl
    · rcases p with _ | q
      · rfl
      -- the one row that tests the truth value of `p`
      · show (if nz q = true then _ else _) = Except.map _ (if nz q = true then _ else _)
        cases nz q <;> rfl
  · cases p <;> rfl

/-- no time dimension: MissingTimeError -/
theorem gen_whitsvc_no_time (alc : V → Option P → Option LC → DA × SGr) (nz : P → Bool)
    (avp : V → Option P → Option SR → DA × SGr) (av : V → Option SR → DA × SGr)
    (td : DA → DS) (lg : SGr → LogS) (ss : DS → LogS → DS) (nd : V) (lc : Option LC) (sr : Option SR) (p : Option P) :
    whitsvc false alc nz avp av td lg ss nd lc sr p = .error .missingTimeError := by
  rw [gen_whitsvc_eq_plan]; rfl

/-- `lc` given and `p` None: ValueError (whatever `srange`) -/
theorem gen_whitsvc_lc_needs_p (alc : V → Option P → Option LC → DA × SGr) (nz : P → Bool)
    (avp : V → Option P → Option SR → DA × SGr) (av : V → Option SR → DA × SGr)
    (td : DA → DS) (lg : SGr → LogS) (ss : DS → LogS → DS) (nd : V) (c : LC) (sr : Option SR) :
    whitsvc true alc nz avp av td lg ss nd (some c) sr none = .error .valueError := by
  rw [gen_whitsvc_eq_plan]; rfl

/-- `lc` given (and a `p`, ANY value: the test is `p is None`): `ws2doptvplc(nodata, p, lc)` whatever `srange`; `nodata` first,
    `p` second, `lc` unchanged third; output = Dataset with `sgrid = log10(lambda)` (float32) -/
theorem gen_whitsvc_lc (alc : V → Option P → Option LC → DA × SGr) (nz : P → Bool)
    (avp : V → Option P → Option SR → DA × SGr) (av : V → Option SR → DA × SGr)
    (td : DA → DS) (lg : SGr → LogS) (ss : DS → LogS → DS) (nd : V) (c : LC) (sr : Option SR) (q : P) :
    whitsvc true alc nz avp av td lg ss nd (some c) sr (some q)
      = .ok (ss (td (alc nd (some q) (some c)).1) (lg (alc nd (some q) (some c)).2)) := by
  rw [gen_whitsvc_eq_plan]; rfl

/-- neither `lc` nor `srange`: ValueError (whatever `p`) -/
theorem gen_whitsvc_needs_lc_or_srange (alc : V → Option P → Option LC → DA × SGr) (nz : P → Bool)
    (avp : V → Option P → Option SR → DA × SGr) (av : V → Option SR → DA × SGr)
    (td : DA → DS) (lg : SGr → LogS) (ss : DS → LogS → DS) (nd : V) (p : Option P) :
    whitsvc true alc nz avp av td lg ss nd none none p = .error .valueError := by
  rw [gen_whitsvc_eq_plan]; rcases p with _ | q <;> rfl

/-- no `lc`, `srange`, a TRUTHY `p` (`hq`; in particular every p in (0, 1), e.g. 0.5): `ws2doptvp(nodata, p, srange)` -/
theorem gen_whitsvc_p_truthy_asymmetric (alc : V → Option P → Option LC → DA × SGr) (nz : P → Bool)
    (avp : V → Option P → Option SR → DA × SGr) (av : V → Option SR → DA × SGr)
    (td : DA → DS) (lg : SGr → LogS) (ss : DS → LogS → DS) (nd : V) (r : SR) (q : P) (hq : nz q = true) :
    whitsvc true alc nz avp av td lg ss nd none (some r) (some q)
      = .ok (ss (td (avp nd (some q) (some r)).1) (lg (avp nd (some q) (some r)).2)) := by
  rw [gen_whitsvc_eq_plan]
  simp only [whitsvcPlan, hq, Bool.not_true, Bool.false_eq_true, if_false, if_true, except_map_ok, runV, sgridDataset]

/-- CURRENT SOURCE, documented behaviour: without `lc` the test is `if p:`, so `p = 0.0` (`hq`: p is zero) silently selects the
    SYMMETRIC kernel `ws2doptv(nodata, srange)`; `p` is dropped -/
theorem gen_whitsvc_p_zero_symmetric (alc : V → Option P → Option LC → DA × SGr) (nz : P → Bool)
    (avp : V → Option P → Option SR → DA × SGr) (av : V → Option SR → DA × SGr)
    (td : DA → DS) (lg : SGr → LogS) (ss : DS → LogS → DS) (nd : V) (r : SR) (q : P) (hq : nz q = false) :
    whitsvc true alc nz avp av td lg ss nd none (some r) (some q)
      = .ok (ss (td (av nd (some r)).1) (lg (av nd (some r)).2)) := by
  rw [gen_whitsvc_eq_plan]
  simp only [whitsvcPlan, hq, Bool.not_true, Bool.false_eq_true, if_false, except_map_ok, runV, sgridDataset]

/-- no `lc`, `srange`, no `p`: the symmetric kernel `ws2doptv(nodata, srange)` -/
theorem gen_whitsvc_p_none_symmetric (alc : V → Option P → Option LC → DA × SGr) (nz : P → Bool)
    (avp : V → Option P → Option SR → DA × SGr) (av : V → Option SR → DA × SGr)
    (td : DA → DS) (lg : SGr → LogS) (ss : DS → LogS → DS) (nd : V) (r : SR) :
    whitsvc true alc nz avp av td lg ss nd none (some r) none
      = .ok (ss (td (av nd (some r)).1) (lg (av nd (some r)).2)) := by
  rw [gen_whitsvc_eq_plan]; rfl

/-- the second output: whenever `whitsvc` succeeds, the result is `set_sgrid d (log10_f32 lambda)` for the pair
    `(smoothed, lambda)` one of the three kernels returned, `d = to_dataset smoothed` -/
theorem gen_whitsvc_sgrid_is_log10_lambda (alc : V → Option P → Option LC → DA × SGr) (nz : P → Bool)
    (avp : V → Option P → Option SR → DA × SGr) (av : V → Option SR → DA × SGr)
    (td : DA → DS) (lg : SGr → LogS) (ss : DS → LogS → DS) (nd : V) (lc : Option LC) (sr : Option SR) (p : Option P) (out : DS)
    (h : whitsvc true alc nz avp av td lg ss nd lc sr p = .ok out) :
    ∃ c, whitsvcPlan true nz nd lc sr p = .ok c ∧
      out = ss (td (runV alc avp av c).1) (lg (runV alc avp av c).2) := by
  rw [gen_whitsvc_eq_plan] at h
  rcases hc : whitsvcPlan true nz nd lc sr p with e | c
  · rw [hc] at h; exact nomatch h
  · rw [hc] at h
    simp only [except_map_ok, Except.ok.injEq, sgridDataset] at h
    exact ⟨c, rfl, h.symm⟩

/-- the defaults of the `def` line (`lc=None, srange=None, p=None`): `whitsvc(nodata)` alone raises ValueError -/
theorem gen_whitsvc_dflt (alc : V → Option P → Option LC → DA × SGr) (nz : P → Bool)
    (avp : V → Option P → Option SR → DA × SGr) (av : V → Option SR → DA × SGr)
    (td : DA → DS) (lg : SGr → LogS) (ss : DS → LogS → DS) (nd : V) :
    whitsvc_dflt true alc nz avp av td lg ss nd = .error .valueError := by
  unfold whitsvc_dflt; rw [gen_whitsvc_eq_plan]; rfl

/-! non-vacuity: numbers are `Int` scaled by 10 (p = 5 stands for 0.5), `nz q = (q != 0)`; the kernels record their name and
    arguments, lambda = 100 -/
section examples
private abbrev R := (String × Int × Option Int × Option Int × Option Int) × Int
private def alcX : Int → Option Int → Option Int → R := fun nd p lc => (("optvplc", nd, p, lc, none), 100)
private def avpX : Int → Option Int → Option Int → R := fun nd p sr => (("optvp", nd, p, none, sr), 100)
private def avX : Int → Option Int → R := fun nd sr => (("optv", nd, none, none, sr), 100)
private def nzX : Int → Bool := fun q => q != 0
private abbrev DSX := (String × Int × Option Int × Option Int × Option Int) × Option Int
private def tdX : (String × Int × Option Int × Option Int × Option Int) → DSX := fun d => (d, none)
private def ssX : DSX → Int → DSX := fun d g => (d.1, some g)

/-- p = 0.5 (truthy): the asymmetric kernel - the regression `if p and p != 0.5` would not even translate -/
example : whitsvc true alcX nzX avpX avX tdX (fun l => l + 1) ssX (-3000) none (some 42) (some 5)
    = .ok (("optvp", -3000, some 5, none, some 42), some 101) :=
  gen_whitsvc_p_truthy_asymmetric alcX nzX avpX avX tdX (fun l => l + 1) ssX (-3000) 42 5 rfl
/-- outside `hq` of `.._p_truthy_asymmetric` (p = 0): the symmetric kernel, a different result -/
example : whitsvc true alcX nzX avpX avX tdX (fun l => l + 1) ssX (-3000) none (some 42) (some 0)
    = .ok (("optv", -3000, none, none, some 42), some 101) :=
  gen_whitsvc_p_zero_symmetric alcX nzX avpX avX tdX (fun l => l + 1) ssX (-3000) 42 0 rfl
/-- with `lc` even p = 0 keeps the asymmetric lc kernel (`p is None` test), and `srange` is ignored -/
example : whitsvc true alcX nzX avpX avX tdX (fun l => l + 1) ssX (-3000) (some 9) (some 42) (some 0)
    = .ok (("optvplc", -3000, some 0, some 9, none), some 101) :=
  gen_whitsvc_lc alcX nzX avpX avX tdX (fun l => l + 1) ssX (-3000) 9 (some 42) 0
/-- outside `ct = true`: no time dimension -/
example : whitsvc false alcX nzX avpX avX tdX (fun l => l + 1) ssX (-3000) (some 9) (some 42) (some 0) = .error .missingTimeError :=
  gen_whitsvc_no_time ..
/-- `gen_whitsvc_lc_needs_p` needs `p` None, `gen_whitsvc_needs_lc_or_srange` needs both absent: see the three successes above -/
example : whitsvc true alcX nzX avpX avX tdX (fun l => l + 1) ssX (-3000) none none (some 5) = .error .valueError :=
  gen_whitsvc_needs_lc_or_srange ..
end examples

end Hdc.GenGlue
