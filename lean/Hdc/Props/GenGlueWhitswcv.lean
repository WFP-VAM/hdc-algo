import Hdc.Gen.GlueWhitswcv
import Hdc.Lemmas.GenGlueWhit
/-
GenGlueWhitswcv  The GENERATED translation of the accessor `WhittakerSmoother.whitswcv` (Hdc/Gen/GlueWhitswcv.lean) equals the
decision table `Hdc.AccWhit.whitswcvPlan` followed by the post-processing `sgridDataset`, and the consequences C05 relies on: the
default grid `np.arange(-1.8, 4.2, 0.2)` in BOTH branches when no `srange` is given, a truthy `p` selecting `ws2dwcvp(nodata, p,
srange, robust)`, otherwise `ws2dwcv(nodata, srange, robust)`, `robust` passed through (default True).

`if p:` is the Python TRUTH VALUE of an `Optional[float]` (parameter `p_nonzero`).  The source spells the default grid twice
(`np.arange(-1.8, 4.2, 0.2, dtype=np.float64)` in the asymmetric branch, `np.arange(-1.8, 4.2, 0.2)` in the symmetric one): two
library parameters `d64`, `d`, both matched with their literals.  NumPy's `arange` of float arguments IS float64, i.e. `d64 = d`;
that fact about NumPy is the hypothesis `hd` of `gen_whitswcv_eq_plan_one_default` and of nothing else.
-/
namespace Hdc.GenGlue
open Hdc Hdc.PyGlue Hdc.Gen.Glue Hdc.AccWhit

variable {V SR P DA SGr DS LogS : Type} [Inhabited DA] [Inhabited SGr]

/-- REFINEMENT (no hypothesis): the translated accessor is the plan - with the default grid of the branch taken - run by the two
    kernel parameters, then turned into the output Dataset -/
theorem gen_whitswcv_eq_plan (ct : Bool) (nz : P → Bool) (d64 : SR) (awp : V → Option P → Option SR → Bool → DA × SGr) (d : SR)
    (aw : V → Option SR → Bool → DA × SGr) (td : DA → DS) (lg : SGr → LogS) (ss : DS → LogS → DS)
    (nd : V) (sr : Option SR) (p : Option P) (rb : Bool) :
    whitswcv ct nz d64 awp d aw td lg ss nd sr p rb
      = (whitswcvPlan ct nz (if pyTruthy nz p then d64 else d) nd sr p rb).map
          fun c => sgridDataset td lg ss (runGcv awp aw c) := by
  rcases ct with _ | _
  · rfl
  rcases p with _ | q
  · cases sr <;> rfl
  · rw [show pyTruthy nz (some q) = nz q from rfl]
    show (if nz q = true then _ else _) = Except.map _ (if nz q = true then _ else _)
    cases nz q <;> cases sr <;> rfl

/-- REFINEMENT with ONE default grid (`hd`: the two spellings of the default denote the same array) -/
theorem gen_whitswcv_eq_plan_one_default (ct : Bool) (nz : P → Bool) (d64 : SR) (awp : V → Option P → Option SR → Bool → DA × SGr)
    (d : SR) (aw : V → Option SR → Bool → DA × SGr) (td : DA → DS) (lg : SGr → LogS) (ss : DS → LogS → DS)
    (nd : V) (sr : Option SR) (p : Option P) (rb : Bool) (hd : d64 = d) :
    whitswcv ct nz d64 awp d aw td lg ss nd sr p rb
      = (whitswcvPlan ct nz d nd sr p rb).map fun c => sgridDataset td lg ss (runGcv awp aw c) := by
  rw [gen_whitswcv_eq_plan, hd, ite_self]

/-- no time dimension: MissingTimeError -/
theorem gen_whitswcv_no_time (nz : P → Bool) (d64 : SR) (awp : V → Option P → Option SR → Bool → DA × SGr) (d : SR)
    (aw : V → Option SR → Bool → DA × SGr) (td : DA → DS) (lg : SGr → LogS) (ss : DS → LogS → DS)
    (nd : V) (sr : Option SR) (p : Option P) (rb : Bool) :
    whitswcv false nz d64 awp d aw td lg ss nd sr p rb = .error .missingTimeError := by
  rw [gen_whitswcv_eq_plan]; rfl

/-- a TRUTHY `p` (`hq`): `ws2dwcvp(nodata, p, srange, robust)` with the given grid, or the asymmetric branch's default
    `np.arange(-1.8, 4.2, 0.2, dtype=np.float64)` when none is given; `robust` is passed through -/
theorem gen_whitswcv_p_truthy_asymmetric (nz : P → Bool) (d64 : SR) (awp : V → Option P → Option SR → Bool → DA × SGr) (d : SR)
    (aw : V → Option SR → Bool → DA × SGr) (td : DA → DS) (lg : SGr → LogS) (ss : DS → LogS → DS)
    (nd : V) (sr : Option SR) (q : P) (rb : Bool) (hq : nz q = true) :
    whitswcv true nz d64 awp d aw td lg ss nd sr (some q) rb
      = .ok (ss (td (awp nd (some q) (some (srangeOrDefault d64 sr)) rb).1)
                (lg (awp nd (some q) (some (srangeOrDefault d64 sr)) rb).2)) := by
  rw [gen_whitswcv_eq_plan]
  simp only [whitswcvPlan, pyTruthy, hq, Bool.not_true, Bool.false_eq_true, if_false, if_true, except_map_ok, runGcv, sgridDataset]

/-- CURRENT SOURCE, documented behaviour: the test is `if p:`, so `p = 0.0` (`hq`) silently selects the SYMMETRIC kernel
    `ws2dwcv(nodata, srange, robust)` (default grid `np.arange(-1.8, 4.2, 0.2)`); `p` is dropped -/
theorem gen_whitswcv_p_zero_symmetric (nz : P → Bool) (d64 : SR) (awp : V → Option P → Option SR → Bool → DA × SGr) (d : SR)
    (aw : V → Option SR → Bool → DA × SGr) (td : DA → DS) (lg : SGr → LogS) (ss : DS → LogS → DS)
    (nd : V) (sr : Option SR) (q : P) (rb : Bool) (hq : nz q = false) :
    whitswcv true nz d64 awp d aw td lg ss nd sr (some q) rb
      = .ok (ss (td (aw nd (some (srangeOrDefault d sr)) rb).1) (lg (aw nd (some (srangeOrDefault d sr)) rb).2)) := by
  rw [gen_whitswcv_eq_plan]
  simp only [whitswcvPlan, pyTruthy, hq, Bool.not_true, Bool.false_eq_true, if_false, except_map_ok, runGcv, sgridDataset]

/-- no `p`: the symmetric kernel `ws2dwcv(nodata, srange, robust)`, default grid `np.arange(-1.8, 4.2, 0.2)` -/
theorem gen_whitswcv_p_none_symmetric (nz : P → Bool) (d64 : SR) (awp : V → Option P → Option SR → Bool → DA × SGr) (d : SR)
    (aw : V → Option SR → Bool → DA × SGr) (td : DA → DS) (lg : SGr → LogS) (ss : DS → LogS → DS)
    (nd : V) (sr : Option SR) (rb : Bool) :
    whitswcv true nz d64 awp d aw td lg ss nd sr none rb
      = .ok (ss (td (aw nd (some (srangeOrDefault d sr)) rb).1) (lg (aw nd (some (srangeOrDefault d sr)) rb).2)) := by
  rw [gen_whitswcv_eq_plan]; rfl

/-- a given `srange` is used unchanged in BOTH branches (the defaults are not consulted) -/
theorem gen_whitswcv_srange_given (ct : Bool) (nz : P → Bool) (d64 d64' : SR) (awp : V → Option P → Option SR → Bool → DA × SGr)
    (d d' : SR) (aw : V → Option SR → Bool → DA × SGr) (td : DA → DS) (lg : SGr → LogS) (ss : DS → LogS → DS)
    (nd : V) (r : SR) (p : Option P) (rb : Bool) :
    whitswcv ct nz d64 awp d aw td lg ss nd (some r) p rb = whitswcv ct nz d64' awp d' aw td lg ss nd (some r) p rb := by
  rw [gen_whitswcv_eq_plan, gen_whitswcv_eq_plan]; rfl

/-- the defaults of the `def` line (`srange=None, p=None, robust=True`): `whitswcv(nodata)` is the ROBUST symmetric fit on the
    default grid -/
theorem gen_whitswcv_dflt (nz : P → Bool) (d64 : SR) (awp : V → Option P → Option SR → Bool → DA × SGr) (d : SR)
    (aw : V → Option SR → Bool → DA × SGr) (td : DA → DS) (lg : SGr → LogS) (ss : DS → LogS → DS) (nd : V) :
    whitswcv_dflt true nz d64 awp d aw td lg ss nd
      = .ok (ss (td (aw nd (some d) true).1) (lg (aw nd (some d) true).2)) := by
  unfold whitswcv_dflt; rw [gen_whitswcv_eq_plan]; rfl

/-! non-vacuity: numbers are `Int` scaled by 10, `nz q = (q != 0)`; the kernels record their name and arguments, lambda = 100;
    the default grid is the number 77 -/
section examples
private abbrev K := String × Int × Option Int × Option Int × Bool
private def awpX : Int → Option Int → Option Int → Bool → K × Int := fun nd p sr rb => (("wcvp", nd, p, sr, rb), 100)
private def awX : Int → Option Int → Bool → K × Int := fun nd sr rb => (("wcv", nd, none, sr, rb), 100)
private def nzW : Int → Bool := fun q => q != 0
private def tdW : K → K × Option Int := fun d => (d, none)
private def ssW : K × Option Int → Int → K × Option Int := fun d g => (d.1, some g)

example : whitswcv true nzW 77 awpX 77 awX tdW (fun l => l + 1) ssW (-3000) none (some 9) false
    = .ok (("wcvp", -3000, some 9, some 77, false), some 101) :=
  gen_whitswcv_p_truthy_asymmetric nzW 77 awpX 77 awX tdW (fun l => l + 1) ssW (-3000) none 9 false rfl
/-- outside `hq` (p = 0): the symmetric kernel -/
example : whitswcv true nzW 77 awpX 77 awX tdW (fun l => l + 1) ssW (-3000) none (some 0) false
    = .ok (("wcv", -3000, none, some 77, false), some 101) :=
  gen_whitswcv_p_zero_symmetric nzW 77 awpX 77 awX tdW (fun l => l + 1) ssW (-3000) none 0 false rfl
example : whitswcv true nzW 77 awpX 77 awX tdW (fun l => l + 1) ssW (-3000) (some 5) none true
    = .ok (("wcv", -3000, none, some 5, true), some 101) :=
  gen_whitswcv_p_none_symmetric nzW 77 awpX 77 awX tdW (fun l => l + 1) ssW (-3000) (some 5) true
example : whitswcv_dflt true nzW 77 awpX 77 awX tdW (fun l => l + 1) ssW (-3000)
    = .ok (("wcv", -3000, none, some 77, true), some 101) :=
  gen_whitswcv_dflt nzW 77 awpX 77 awX tdW (fun l => l + 1) ssW (-3000)
/-- `hd` of `gen_whitswcv_eq_plan_one_default` is necessary: with two DIFFERENT defaults (78 ≠ 77) and a truthy `p` the program
    uses the asymmetric branch's grid, the one-default plan the other -/
example : whitswcv true nzW 78 awpX 77 awX tdW (fun l => l + 1) ssW (-3000) none (some 9) false
    ≠ (whitswcvPlan true nzW (77 : Int) (-3000) none (some 9) false).map fun c => sgridDataset tdW (fun l => l + 1) ssW (runGcv awpX awX c) := by
  rw [gen_whitswcv_eq_plan]
  intro h
  have h' := congrArg (fun x => match x with | .ok (r : K × Option Int) => r.1.2.2.2.1 | .error _ => none) h
  exact absurd h' (by decide)
/-- outside `ct = true` -/
example : whitswcv false nzW 77 awpX 77 awX tdW (fun l => l + 1) ssW (-3000) none (some 9) false = .error .missingTimeError :=
  gen_whitswcv_no_time ..
end examples

end Hdc.GenGlue
