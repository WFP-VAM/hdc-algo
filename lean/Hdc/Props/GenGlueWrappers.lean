import Hdc.Gen.GlueWrappers
/-
GenGlueWrappers  The one-line generator wrappers `iteragg.sum / mean / full` and the accessor registry `HDC.__init__`, as the
summariser (harness/summarise_wrappers.py) reads them from the current source (Hdc/Gen/GlueWrappers.lean, data only), against the
documented table.  C19's statement is about "the NaN-skipping sum, NaN-skipping mean, or the stacked slices": which reduction each
wrapper hands to the translated `_iteragg` (Props/GenGlueIteragg.lean) is fixed here; every argument is forwarded in the order
`_iteragg` takes them; the defaults are those of the documentation.
-/
namespace Hdc.GenGlueWrappers
open Hdc.Gen.GlueWrappers

/-- a wrapper forwards its own parameters, in order, into the slots of `_iteragg` after the reduction -/
def Forwards (w : Wrapper) : Prop := w.forwarded = w.params ∧ "func" :: w.forwarded = iteraggParams

instance (w : Wrapper) : Decidable (Forwards w) := by unfold Forwards; infer_instance

/-- the reduction each wrapper passes: NaN-skipping sum, NaN-skipping mean, none (the stacked slices) -/
theorem wrappers_reductions :
    wrappers.map (fun w => (w.name, w.reduction)) = [("sum", "np.nansum"), ("mean", "np.nanmean"), ("full", "None")] := rfl

/-- every wrapper forwards n, dim, begin, end, method unchanged and in `_iteragg`'s order -/
theorem wrappers_forward : ∀ w ∈ wrappers, Forwards w := by decide

/-- the documented defaults: the whole axis (`n = None`), along `time`, no begin / end, exact label matching -/
theorem wrappers_defaults :
    ∀ w ∈ wrappers, w.params = ["n", "dim", "begin", "end", "method"] ∧ w.defaults = ["None", "'time'", "None", "None", "None"] := by decide

/-- the three wrappers differ ONLY in the reduction -/
theorem wrappers_differ_only_in_reduction :
    ∀ w ∈ wrappers, ∀ v ∈ wrappers, w.forwarded = v.forwarded ∧ w.params = v.params ∧ w.defaults = v.defaults := by decide

/-- `DataArray.hdc.<attr>` is the documented accessor class, each constructed on the wrapped object -/
theorem registry_documented :
    registry = [("algo", "PixelAlgorithms"), ("anom", "Anomalies"), ("iteragg", "IterativeAggregation"),
                ("rolling", "RollingWindowAlgos"), ("whit", "WhittakerSmoother"), ("zonal", "ZonalStatistics")] := rfl

/-- the registry is installed under the name `hdc` for Datasets and DataArrays -/
theorem registry_decorators :
    registryDecorators = ["xarray.register_dataset_accessor('hdc')", "xarray.register_dataarray_accessor('hdc')"] := rfl

/-- no attribute is bound twice (a later binding would silently win) -/
theorem registry_nodup : (registry.map (·.1)).Nodup := by decide

/-- negative example: a wrapper that swaps two forwarded arguments is rejected by `Forwards` -/
example : ¬ Forwards ⟨"sum", "np.nansum", ["n", "dim", "end", "begin", "method"], ["n", "dim", "begin", "end", "method"], []⟩ := by decide

end Hdc.GenGlueWrappers
