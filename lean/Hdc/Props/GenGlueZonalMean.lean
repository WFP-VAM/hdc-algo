import Hdc.Gen.GlueZonalMean
import Hdc.Model.AccPx
/-
GenGlueZonalMean  The GENERATED translation of the accessor `ZonalStatistics.mean` (Hdc/Gen/GlueZonalMean.lean) equals the decision
model (Hdc/Model/AccPx.lean): the four validation errors in order; NaN cells replaced by the nodata attribute BEFORE anything else
is read; both branches call `do_mean` with the same five arguments and `out_dtype=np.dtype(dtype).type`; the dask key carries the
content token iff `name` is a str; dims = (first dim, dim_name, "stat"), stat coordinate ["mean", "valid"], zone coordinate
`zone_ids`, `num_zones = len(zone_ids)`.
-/
namespace Hdc.GenGluePx
open Hdc Hdc.PyGlue Hdc.Gen.Glue

variable {Z DT Obj Attrs Coords Arr ZArr Tok Chunks V ZV Data Res : Type} [Inhabited Data]

/-- the five positional arguments + `out_dtype` of the `do_mean` call, read off the NaN-filled object -/
def zonalCallOf (fill : Obj → Obj) (npdt : DT → DT) (data_of : Obj → Arr) (zdata : ZArr) (nd_of : Obj → V) (znd : ZV)
    (obj : Obj) (zone_ids : List Z) (dtype : DT) : ZonalCall Arr ZArr V ZV DT :=
  { data := data_of (fill obj), zones := zdata, numZones := (zone_ids.length : Int), nodata := nd_of (fill obj),
    zonesNodata := znd, outDtype := npdt dtype }

theorem gen_zonal_mean_acc_eq_model (obj : Obj) (isds hasnd : Obj → Bool) (zda zhn : Bool) (fill : Obj → Obj)
    (attrs : Obj → Attrs) (fd : Obj → String) (mkc : String → Obj → String → List Z → String → List String → Coords)
    (npdt : DT → DT) (isdask : Obj → Bool) (data_of : Obj → Arr) (zdata : ZArr) (tok : Arr → ZArr → DT → Tok)
    (nwt : Option String → Tok → String) (mkch : Arr → Int → Chunks) (nd_of : Obj → V) (znd : ZV)
    (mb : Arr → ZArr → Int → V → ZV → Chunks → DT → Option String → Data) (call : Arr → ZArr → Int → V → ZV → DT → Data)
    (mkda : Data → String × String × String → Coords → Attrs → Option String → Res)
    (zone_ids : List Z) (dtype : DT) (dim_name : String) (name : Option String) :
    zonal_mean_acc obj isds hasnd zda zhn fill attrs fd mkc npdt isdask data_of zdata tok nwt mkch nd_of znd mb call mkda
        zone_ids dtype dim_name name
      = (zonalMeanChecks (isds obj) (hasnd obj) zda zhn).map fun _ =>
          let xx := fill obj
          let c := zonalCallOf fill npdt data_of zdata nd_of znd obj zone_ids dtype
          let data := if isdask xx
            then mb c.data c.zones c.numZones c.nodata c.zonesNodata (mkch c.data c.numZones) c.outDtype
                   (zonalDaskName name fun n => nwt n (tok c.data c.zones c.outDtype))
            else call c.data c.zones c.numZones c.nodata c.zonesNodata c.outDtype
          mkda data (zonalDims (fd xx) dim_name) (mkc (fd xx) xx dim_name zone_ids "stat" zonalStatCoord) (attrs xx) name := by
  dsimp only [zonal_mean_acc]
  generalize isds obj = a, hasnd obj = b, isdask (fill obj) = c
  -- the validations in the order of the source, then the two branches with / without a name
  cases a
  case true => rfl
  cases b
  case false => rfl
  cases zda
  case false => rfl
  cases zhn
  case false => rfl
  cases c <;> cases name <;> rfl

/-- the validations, in order -/
theorem gen_zonal_mean_acc_checks_order :
    zonalMeanChecks true false false false = .error .notImplementedError
    ∧ (∀ b c, zonalMeanChecks false false b c = .error .valueError)
    ∧ (∀ c, zonalMeanChecks false true false c = .error .valueError)
    ∧ zonalMeanChecks false true true false = .error .valueError
    ∧ zonalMeanChecks false true true true = .ok () := by
  refine ⟨rfl, ?_, ?_, rfl, rfl⟩
  · intro b c; rfl
  · intro c; rfl

/-- C12: when `da.map_blocks(do_mean, a.., chunks, out_dtype, name)` computes what `do_mean(a.., out_dtype)` computes, the accessor's
    result does not depend on whether the input is a dask collection -/
theorem gen_zonal_mean_acc_dask_eq_eager (obj : Obj) (isds hasnd : Obj → Bool) (zda zhn : Bool) (fill : Obj → Obj)
    (attrs : Obj → Attrs) (fd : Obj → String) (mkc : String → Obj → String → List Z → String → List String → Coords)
    (npdt : DT → DT) (data_of : Obj → Arr) (zdata : ZArr) (tok : Arr → ZArr → DT → Tok)
    (nwt : Option String → Tok → String) (mkch : Arr → Int → Chunks) (nd_of : Obj → V) (znd : ZV)
    (call : Arr → ZArr → Int → V → ZV → DT → Data)
    (mkda : Data → String × String × String → Coords → Attrs → Option String → Res)
    (zone_ids : List Z) (dtype : DT) (dim_name : String) (name : Option String) :
    zonal_mean_acc obj isds hasnd zda zhn fill attrs fd mkc npdt (fun _ => true) data_of zdata tok nwt mkch nd_of znd
        (fun a b k n1 n2 _ d _ => call a b k n1 n2 d) call mkda zone_ids dtype dim_name name
      = zonal_mean_acc obj isds hasnd zda zhn fill attrs fd mkc npdt (fun _ => false) data_of zdata tok nwt mkch nd_of znd
        (fun a b k n1 n2 _ d _ => call a b k n1 n2 d) call mkda zone_ids dtype dim_name name := by
  rw [gen_zonal_mean_acc_eq_model, gen_zonal_mean_acc_eq_model]
  rfl

/-- the dask key: token appended iff a name was given -/
theorem zonalDaskName_some (n : String) (f : Option String → String) : zonalDaskName (some n) f = some (f (some n)) := rfl
theorem zonalDaskName_none (f : Option String → String) : zonalDaskName none f = none := rfl

-- non-vacuity: everything recorded symbolically (dask branch, named)
example : zonal_mean_acc (Z := Int) (DT := String) (Obj := String) (Attrs := String) (Coords := String × List Int × String × List String)
    (Arr := String) (ZArr := String) (Tok := String) (Chunks := Int) (V := String) (ZV := String)
    (Data := String × Option String) (Res := (String × Option String) × (String × String × String) × Option String)
    "x" (fun _ => false) (fun _ => true) true true (fun o => o ++ "'") (fun _ => "attrs") (fun _ => "time")
    (fun a _ n z k s => (a ++ n, z, k, s)) (fun d => d ++ "_t") (fun _ => true) (fun o => o ++ ".data") "z.data"
    (fun a b d => a ++ b ++ d) (fun n t => (n.getD "") ++ "-" ++ t) (fun _ k => k) (fun o => o ++ ".nodata") "z.nodata"
    (fun a _ _ n1 _ _ d nm => (a ++ n1 ++ d, nm)) (fun a _ _ n1 _ d => (a ++ n1 ++ d, none))
    (fun data dims _ _ nm => (data, dims, nm)) [0, 1, 2] "f4" "zones" (some "nm")
    = .ok (("x'.datax'.nodataf4_t", some "nm-x'.dataz.dataf4_t"), ("time", "zones", "stat"), some "nm") := by
  rw [gen_zonal_mean_acc_eq_model]; rfl

end Hdc.GenGluePx
