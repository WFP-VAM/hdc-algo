import Hdc.Lemmas.GenKernelsAC
import Hdc.Gen.KAutocorrSums
import Std.Tactic.Do
/-
GenKAC  The GENERATED translation of the accumulation loop of `autocorr_1d_int` (Hdc/Gen/KAutocorrSums.lean, an imperative
`Id.run do` program over `Array Int` with Python index semantics, regenerated from the Python
source on every verification run) computes its hand model: `gen_autocorr_sums_eq_model`, `gen_autocorr_sums_short`.

Method (as in C01gen): the verification-condition generator `mvcgen` (Std.Do) is run on the generated
program with one invariant per loop, stated through the model (`AcInv`, Hdc/Lemmas/GenKernelsAC.lean).  One iteration and
the exit of the loop are lemmas of that file which take the position `pyRange a b = pref ++ cur :: suff` and the
reads `rd a cur` as the generator records them; what is left here is to decide the `if`s of the source.

The verification conditions are not addressed by their generated tags (`vc3.step.isTrue…`, which
change when the branching structure of the source is rearranged) but by what they are: every proof
ends with `all_goals first | ‹step› | ‹entry› | ‹exit›`, each alternative failing quickly on the
conditions of the other kinds.
-/
namespace Hdc.GenKernels
open Hdc Hdc.Gen.Kernels Std.Do

set_option mvcgen.warning false

/-! ### autocorr_sums: the ten accumulators of the lag-1 autocorrelation -/

/-- The translated accumulation loop of `autocorr_1d_int` returns the accumulators of the model
    (`none` = nodata cell; the counters of the model are naturals).  Any input: for the empty and the
    one-element series `data[:-1]` is empty, the loop does not run, and both sides are all zeros. -/
theorem gen_autocorr_sums_eq_model (data : List Int) (nodata : Int) :
    Gen.Kernels.autocorr_sums data.toArray nodata =
      (let s := Hdc.acAccum (data.map fun v => if v = nodata then none else some v) Hdc.ACSums.zero
       (s.sxy, s.sx_, s.sy_, (s.nxy : Int), s.sx, s.sxx, (s.nx : Int), s.sy, s.syy, (s.ny : Int))) := by
  show _ = acResult (acAccum (acOpt data nodata) ACSums.zero)
  generalize hres : Gen.Kernels.autocorr_sums data.toArray nodata = res
  apply Id.of_wp_run_eq hres
  mvcgen -trivial invariants
  -- state `(x, y, Sx_, Sy_, Sxy, nxy, Sx, Sxx, nx, Sy, Syy, ny)`; after `p` iterations the model,
  -- continued from cell `p` with the current accumulators, returns its final accumulators
  · ⇓⟨xs, s⟩ => ⌜AcInv data nodata xs.prefix.length s.2.2⌝
  all_goals first
    -- one iteration (one condition per combination of the three `if`s); the third condition is determined by the other
    -- two: the contradictory combinations go with `hxy`, in the others the `if`s of `acNext` are decided by `hx`, `hy`
    | (rename_i hx _ hy hxy hinv
       py_name x as x; py_name y as y
       refine (hinv.step_range ‹pyRange _ _ = _› x y rfl rfl).cast ?_
       simp only [Bool.and_eq_true, decide_eq_true_eq] at hx hy hxy
       simp only [acNext, ne_eq, hx, hy, not_true_eq_false, not_false_eq_true, and_self, and_false, false_and,
         if_true, if_false] at hxy ⊢ <;> with_reducible rfl)
    -- entry of the loop
    | exact AcInv.init data nodata
    -- exit of the loop
    | exact AcInv.final_range (data := data) ‹AcInv _ _ _ _›

/-- fewer than two cells: all accumulators are zero (source and model) -/
theorem gen_autocorr_sums_short (data : List Int) (nodata : Int) (h : data.length ≤ 1) :
    Gen.Kernels.autocorr_sums data.toArray nodata = (0, 0, 0, 0, 0, 0, 0, 0, 0, 0) := by
  rw [gen_autocorr_sums_eq_model]
  match data, h with
  | [], _ => rfl
  | [a], _ => simp [acAccum, ACSums.zero, nat]

/-! ### Non-vacuity: concrete inputs, evaluated on the model side -/

/-- pairs (1,2), (2,nodata), (nodata,4), (4,5) with nodata = −1 -/
example : Gen.Kernels.autocorr_sums [1, 2, -1, 4, 5].toArray (-1)
    = (22, 5, 7, 2, 7, 21, 3, 11, 45, 3) := by
  rw [gen_autocorr_sums_eq_model]
  rfl

example : Gen.Kernels.autocorr_sums [3].toArray (-1) = (0, 0, 0, 0, 0, 0, 0, 0, 0, 0) :=
  gen_autocorr_sums_short [3] (-1) (by decide)

end Hdc.GenKernels
