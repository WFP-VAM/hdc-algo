import Hdc.Props.GenKDoMeanB
/-
GenKDoMean  The GENERATED translation of `ops/zonal.py::do_mean` (Hdc/Gen/KDoMean.lean, written by
harness/py2lean_stats.py from the Python source on every run) computes the hand model `Hdc.zonalMean`, time step by time step.

The pixel cube `pixels` (T, Y, X) and the zone raster `z_pixels` (Y, X) are passed to the generated program FLATTENED
(row-major) together with their dimensions; `pixels[tix, rw, cl]` is cell `flat3 T Y X tix rw cl` of the flat array.  The
returned array is the flattening of the (T, num_zones, 2) result.  As for `mean_grp` the data cells are exact integers and
the floating results (the float64 accumulator `sums`, the output) are of an abstract type `β` with `F : FloatOps β`; the
division `sums[idx] / counts[idx]` is not evaluated, so the result holds the model's exact (sum, count) per zone.

`gen_do_mean_eq_model` assumes additions exact on ALL integers (`hadd`); it is the bounded theorem `gen_do_mean_eq_model_B`
of Hdc/Props/GenKDoMeanB.lean (where the loops are verified) at a bound above the data.
-/
namespace Hdc.GenKDoMean
open Hdc Hdc.Gen.Kernels Hdc.PyNpT Hdc.GenKernels

variable {β : Type}

/-- The translated `do_mean` returns, for every time step `tix` and every zone `k < num_zones`, the two cells
    `[mean, count]` given by the model's exact `(sum, count) = zoneStats (time step tix) zones nodata z_nodata k`:
    mean = `F.div (F.lit sum) (F.lit count)` if count > 0 and NaN otherwise, count = `F.lit count`.

    Hypotheses (the documented contract):
    * `hadd`: additions of integers are exact in the accumulator type (the model sums in `Int`);
    * `hp`, `hz`: the flat arrays have the sizes their dimensions say (T·Y·X and Y·X);
    * `hlab`: a zone label is `z_nodata` or non-negative ("zones have to be numbered … starting with 0").  A negative label
      other than `z_nodata` wraps around in `sums[z_idx]` (Python and Numba index semantics) and is counted for zone
      `num_zones + z_idx`, which the model does not do.  Labels `≥ num_zones` are allowed: source (store beyond the
      arrays, dropped by the translation; Numba does not check) and model ignore them.
    Any T, Y, X, num_zones ≥ 0 (also 0), any nodata values. -/
theorem gen_do_mean_eq_model (F : FloatOps β)
    (hadd : ∀ a b : Int, F.add (F.lit a) (F.lit b) = F.lit (a + b))
    (pixels zones : List Int) (t nr nc nz : Nat) (nd znd : Int)
    (hp : pixels.length = t * (nr * nc)) (hz : zones.length = nr * nc)
    (hlab : ∀ z ∈ zones, z = znd ∨ 0 ≤ z) :
    (Gen.Kernels.do_mean F pixels.toArray t nr nc zones.toArray nr nc nz nd znd).toList
      = (List.range t).flatMap fun tix =>
          (Hdc.zonalMean ((pixels.drop (tix * (nr * nc))).take (nr * nc)) zones nz nd znd).flatMap
            fun sc => [F.quot F.nan sc.1 sc.2, F.lit (sc.2 : ℕ)] :=
  gen_do_mean_eq_model_of_unbounded F hadd pixels zones t nr nc nz nd znd hp hz hlab

/-- The size of the result: T · num_zones · 2. -/
theorem gen_do_mean_size (F : FloatOps β)
    (hadd : ∀ a b : Int, F.add (F.lit a) (F.lit b) = F.lit (a + b))
    (pixels zones : List Int) (t nr nc nz : Nat) (nd znd : Int)
    (hp : pixels.length = t * (nr * nc)) (hz : zones.length = nr * nc)
    (hlab : ∀ z ∈ zones, z = znd ∨ 0 ≤ z) :
    (Gen.Kernels.do_mean F pixels.toArray t nr nc zones.toArray nr nc nz nd znd).size = t * (nz * 2) := by
  have h := congrArg List.length (gen_do_mean_eq_model F hadd pixels zones t nr nc nz nd znd hp hz hlab)
  rw [Array.length_toList] at h
  rw [h]
  exact zdone_length F pixels zones (nr * nc) nz nd znd t

/-! ### Non-vacuity: concrete inputs, evaluated on the model side -/

/-- two time steps of a 1 × 3 raster, zones `[0, 0, 1]`, three zones (zone 2 is empty), nodata = −1, zone nodata = −9;
    with the division kept as a pair (`FloatOps.pair`: NaN = (0, 0), `lit c = (c, 1)`) the means are the (sum, count) pairs -/
example : (Gen.Kernels.do_mean FloatOps.pair [4, -1, 6, 1, 2, 3].toArray ((2 : ℕ) : ℤ) ((1 : ℕ) : ℤ) ((3 : ℕ) : ℤ)
      [0, 0, 1].toArray ((1 : ℕ) : ℤ) ((3 : ℕ) : ℤ) ((3 : ℕ) : ℤ) (-1) (-9)).toList
    = [(4, 1), (1, 1), (6, 1), (1, 1), (0, 0), (0, 1),
       (3, 2), (2, 1), (3, 1), (1, 1), (0, 0), (0, 1)] := by
  rw [gen_do_mean_eq_model FloatOps.pair (fun _ _ => rfl) _ _ 2 1 3 3 (-1) (-9) (by decide) (by decide)
    (by decide)]
  decide

/-- over ℚ (NaN represented by −1): a 2 × 2 raster with a nodata zone cell and a label beyond `num_zones` -/
example : (Gen.Kernels.do_mean (⟨fun a => (a : ℚ), (· + ·), (· / ·), -1⟩ : FloatOps ℚ)
      [1, 2, 3, 4].toArray ((1 : ℕ) : ℤ) ((2 : ℕ) : ℤ) ((2 : ℕ) : ℤ)
      [0, -9, 0, 5].toArray ((2 : ℕ) : ℤ) ((2 : ℕ) : ℤ) ((2 : ℕ) : ℤ) (-1) (-9)).toList
    = [2, 2, -1, 0] := by
  rw [gen_do_mean_eq_model _ (fun a b => by push_cast; ring) _ _ 1 2 2 2 (-1) (-9) (by decide) (by decide)
    (by decide)]
  decide +kernel

end Hdc.GenKDoMean
