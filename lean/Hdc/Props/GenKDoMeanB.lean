import Hdc.Lemmas.GenKDoMeanB
import Hdc.Gen.KDoMean
import Std.Tactic.Do
/-
GenKDoMeanB  `Gen.Kernels.do_mean` = `Hdc.zonalMean` under a BOUNDED exactness of the floating addition.

Hdc/Props/GenKDoMean.lean assumes `hadd : ∀ a b, F.add (F.lit a) (F.lit b) = F.lit (a + b)`: float addition exact on ALL
integers, which no floating type of finite precision satisfies.  Here the hypothesis is what the float64 accumulator
`sums` provides,

    haddB : ∀ a b, |a| ≤ B → |b| ≤ B → |a + b| ≤ B → F.add (F.lit a) (F.lit b) = F.lit (a + b)        (B = 2^53 for float64)

and in exchange the data must keep every `sums[z]` within that range:

    hB : in every time step `tix < T`, for every zone `k < num_zones`, the absolute values of the cells counted for the
         zone sum to at most B (`Hdc.zoneAbsSum (time step tix) zones nodata z_nodata k ≤ B`, Hdc/Model/RoundAcc.lean).

`|n| ≤ B` is written `n.natAbs ≤ B`.

Method: `mvcgen`, one invariant per loop (four loops: time steps, rows, columns, zones of the output;
Hdc/Lemmas/GenKDoMean.lean, the step `sums[z_idx] += pix` in Hdc/Lemmas/GenKDoMeanB.lean), loop positions by `py_ranges` +
`py_subst_ranges`, conditions dispatched by shape.

What stays idealised (as in GenKDoMean.lean): the result cells are of the SAME abstract type `β` as the accumulator and
hold the unevaluated quotient `F.div (F.lit sum) (F.lit count)` and `F.lit count`: neither the division nor the store into
the `out_dtype` array (float32 by default: a count above 2^24, or a mean that is not a float32 number, is rounded by that
store) is modelled.  The int64 counter `counts` is exact (Int) - it would need 2^63 cells per zone to overflow.
-/
namespace Hdc.GenKDoMean
open Hdc Hdc.Gen.Kernels Hdc.PyNpT Hdc.GenKernels Std.Do

set_option mvcgen.warning false
set_option linter.unusedSimpArgs false

variable {β : Type}

/-- The translated `do_mean` returns, for every time step and every zone, `[mean, count]` given by the model's exact
    `(sum, count)` (as `gen_do_mean_eq_model`).

    Hypotheses: `haddB`, additions of integers are exact in the accumulator type AS LONG AS operands and result stay within
    `B`; `hB`, per time step and zone the absolute values of the counted cells sum to at most `B` (so every partial sum does,
    in any order of the cells); `hp`, `hz`, `hlab` as in `gen_do_mean_eq_model`. -/
theorem gen_do_mean_eq_model_B (F : FloatOps β) (B : ℕ)
    (haddB : ∀ a b : Int, a.natAbs ≤ B → b.natAbs ≤ B → (a + b).natAbs ≤ B →
      F.add (F.lit a) (F.lit b) = F.lit (a + b))
    (pixels zones : List Int) (t nr nc nz : Nat) (nd znd : Int)
    (hp : pixels.length = t * (nr * nc)) (hz : zones.length = nr * nc)
    (hlab : ∀ z ∈ zones, z = znd ∨ 0 ≤ z)
    (hB : ∀ tix < t, ∀ k < nz,
      zoneAbsSum ((pixels.drop (tix * (nr * nc))).take (nr * nc)) zones nd znd (k : ℕ) ≤ B) :
    (Gen.Kernels.do_mean F pixels.toArray t nr nc zones.toArray nr nc nz nd znd).toList
      = (List.range t).flatMap fun tix =>
          (Hdc.zonalMean ((pixels.drop (tix * (nr * nc))).take (nr * nc)) zones nz nd znd).flatMap
            fun sc => [F.quot F.nan sc.1 sc.2, F.lit (sc.2 : ℕ)] := by
  show _ = zdone F pixels zones (nr * nc) nz nd znd t
  replace hB : ∀ tix < t, ∀ k < nz, zasum nd znd (k : ℕ) (cells pixels zones (nr * nc) tix) ≤ B := hB
  generalize hres : Gen.Kernels.do_mean F pixels.toArray t nr nc zones.toArray nr nc nz nd znd = res
  apply Id.of_wp_run_eq hres
  mvcgen -trivial invariants
  -- time steps, state `(pix, z_idx, result, sums, counts)`
  · ⇓⟨xs, s⟩ => ⌜ROut F pixels zones t (nr * nc) nz nd znd xs.prefix.length s.2.2.1 s.2.2.2.1 s.2.2.2.2⌝
  -- rows, state `(pix, z_idx, sums, counts)`
  · ⇓⟨xs, s⟩ => by
      py_name cur as tix
      exact ⌜ZAcc F nd znd nz ((cells pixels zones (nr * nc) tix.toNat).take (xs.prefix.length * nc))
        s.2.2.1 s.2.2.2⌝
  -- columns, same state
  · ⇓⟨xs, s⟩ => by
      py_name cur as rw; py_name cur as tix
      exact ⌜ZAcc F nd znd nz
        ((cells pixels zones (nr * nc) tix.toNat).take (rw.toNat * nc + xs.prefix.length)) s.2.2.1 s.2.2.2⌝
  -- zones of the output, state `result`
  · ⇓⟨xs, s⟩ => by
      py_name cur as tix
      exact ⌜RIn F pixels zones t (nr * nc) nz nd znd tix.toNat xs.prefix.length s⌝
  all_goals
    py_ranges
    simp (config := {zetaDelta := true}) only [List.size_toArray,
      List.length_append, List.length_singleton, List.length_nil, pyRange_length,
      decide_eq_true_eq, Bool.and_eq_true, not_lt, Int.zero_add, Int.sub_zero, Int.toNat_natCast,
      Nat.zero_mul, Nat.add_zero, List.take_zero] at *
    py_subst_ranges
    try simp only [Int.toNat_natCast] at *
  all_goals first
    -- one cell: counted (`sums[z_idx] += pix; counts[z_idx] += 1`) / not counted
    | exact (ZAcc.cellB haddB hB hlab hp hz (by omega) (by omega) (by omega)
        ‹ZAcc _ _ _ _ (List.take (_ + _) _) _ _› rfl rfl).1 ‹_›
    | exact (ZAcc.cellB haddB hB hlab hp hz (by omega) (by omega) (by omega)
        ‹ZAcc _ _ _ _ (List.take (_ + _) _) _ _› rfl rfl).2 ‹_›
    -- entry of the loop over the columns
    | assumption
    -- exit of the loop over the columns: one more row
    | exact (‹ZAcc _ _ _ _ (List.take (_ + _) _) _ _›).cast (congrArg (fun n => List.take n _) (by ring))
    -- `sums[:] = 0; counts[:] = 0`
    | exact ZAcc.init F nd znd (‹ROut _ _ _ _ _ _ _ _ _ _ _ _›).ssize (‹ROut _ _ _ _ _ _ _ _ _ _ _ _›).csize
    -- one zone of the output: the mean or NaN, and the count
    | exact (‹RIn _ _ _ _ _ _ _ _ _ _ _›).step (by omega) (by omega) ‹ZAcc _ _ _ _ _ _ _› rfl rfl
        (by split <;> first | rfl | omega) rfl
    -- entry and exit of the loop over the zones
    | exact (‹ROut _ _ _ _ _ _ _ _ _ _ _ _›).enter
    | exact (‹RIn _ _ _ _ _ _ _ _ _ _ _›).exit (‹ZAcc _ _ _ _ _ _ _›).ssize (‹ZAcc _ _ _ _ _ _ _›).csize
    -- the allocations before the loops; the result after them
    | exact ROut.init F pixels zones t (nr * nc) nz nd znd
    | exact (‹ROut _ _ _ _ _ _ _ _ _ _ _ _›).final


/-- a sufficient condition: `Y·X` cells per time step of absolute value ≤ `M` with `Y·X·M ≤ B` -/
theorem zoneAbsSum_le (pix zones : List Int) (nd znd k : Int) (M : ℕ)
    (hM : ∀ x ∈ pix, x ≠ nd → x.natAbs ≤ M) : zoneAbsSum pix zones nd znd k ≤ pix.length * M := by
  unfold zoneAbsSum
  refine Nat.le_trans (sum_natAbs_le _ M ?_) (Nat.mul_le_mul_right M ?_)
  · intro p hp
    rw [List.mem_filter] at hp
    obtain ⟨v, z⟩ := p
    have hv : v ≠ nd := by have := hp.2; simp at this; exact this.1
    exact hM v (List.of_mem_zip hp.1).1 hv
  · refine Nat.le_trans (List.length_filter_le _ _) ?_
    rw [List.length_zip]; exact Nat.min_le_left _ _

/-- float64 accumulator, rasters of `Y·X` cells of absolute value ≤ `M` with `Y·X·M ≤ 2^53` (every int16 raster of up to
    2^38 cells, every int32 raster of up to 2^22 cells): the conclusion of `gen_do_mean_eq_model`. -/
theorem gen_do_mean_eq_model_f64 (F : FloatOps β)
    (haddB : ∀ a b : Int, a.natAbs ≤ B64 → b.natAbs ≤ B64 → (a + b).natAbs ≤ B64 →
      F.add (F.lit a) (F.lit b) = F.lit (a + b))
    (pixels zones : List Int) (t nr nc nz : Nat) (nd znd : Int) (M : ℕ)
    (hp : pixels.length = t * (nr * nc)) (hz : zones.length = nr * nc)
    (hlab : ∀ z ∈ zones, z = znd ∨ 0 ≤ z)
    (hM : ∀ x ∈ pixels, x ≠ nd → x.natAbs ≤ M) (hn : nr * nc * M ≤ 2 ^ 53) :
    (Gen.Kernels.do_mean F pixels.toArray t nr nc zones.toArray nr nc nz nd znd).toList
      = (List.range t).flatMap fun tix =>
          (Hdc.zonalMean ((pixels.drop (tix * (nr * nc))).take (nr * nc)) zones nz nd znd).flatMap
            fun sc => [F.quot F.nan sc.1 sc.2, F.lit (sc.2 : ℕ)] := by
  refine gen_do_mean_eq_model_B F B64 haddB pixels zones t nr nc nz nd znd hp hz hlab (fun tix _ k _ => ?_)
  refine Nat.le_trans (zoneAbsSum_le _ zones nd znd _ M
    (fun x hx => hM x (List.mem_of_mem_drop (List.mem_of_mem_take hx)))) (Nat.le_trans ?_ hn)
  exact Nat.mul_le_mul_right M (by rw [List.length_take]; exact Nat.min_le_left _ _)

/-- **The unconditional theorem is the special case "B = ∞".**  An unconditional `hadd` is a bounded one for EVERY `B`; any `B`
    above the data's `zoneAbsSum`s (here `Y·X · Σ|x|`) discharges `hB`.  This is `gen_do_mean_eq_model` of
    Hdc/Props/GenKDoMean.lean. -/
theorem gen_do_mean_eq_model_of_unbounded (F : FloatOps β)
    (hadd : ∀ a b : Int, F.add (F.lit a) (F.lit b) = F.lit (a + b))
    (pixels zones : List Int) (t nr nc nz : Nat) (nd znd : Int)
    (hp : pixels.length = t * (nr * nc)) (hz : zones.length = nr * nc)
    (hlab : ∀ z ∈ zones, z = znd ∨ 0 ≤ z) :
    (Gen.Kernels.do_mean F pixels.toArray t nr nc zones.toArray nr nc nz nd znd).toList
      = (List.range t).flatMap fun tix =>
          (Hdc.zonalMean ((pixels.drop (tix * (nr * nc))).take (nr * nc)) zones nz nd znd).flatMap
            fun sc => [F.quot F.nan sc.1 sc.2, F.lit (sc.2 : ℕ)] := by
  let M : ℕ := (pixels.map Int.natAbs).sum
  refine gen_do_mean_eq_model_B F (nr * nc * M) (fun a b _ _ _ => hadd a b) pixels zones t nr nc nz nd znd hp hz hlab
    (fun tix _ k _ => ?_)
  refine Nat.le_trans (zoneAbsSum_le _ zones nd znd _ M
    (fun x hx _ => natAbs_le_sum pixels x (List.mem_of_mem_drop (List.mem_of_mem_take hx)))) ?_
  exact Nat.mul_le_mul_right M (by rw [List.length_take]; exact Nat.min_le_left _ _)

/-! ### Non-vacuity, and the hypotheses are needed -/

/-- a float type that ROUNDS (`FloatOps.pairR toy`: additions exact up to 4, above only even values), two time steps of a
    1 × 3 raster, zones `[0, 0, 1]`; within the bound (zone 0: 1 + 2, 2 + 2; zone 1: 4, 3) the exact (sum, count) pairs -/
example : (Gen.Kernels.do_mean (FloatOps.pairR IntRound.toy) [1, 2, 4, 2, -2, -3].toArray ((2 : ℕ) : ℤ) ((1 : ℕ) : ℤ)
      ((3 : ℕ) : ℤ) [0, 0, 1].toArray ((1 : ℕ) : ℤ) ((3 : ℕ) : ℤ) ((2 : ℕ) : ℤ) (-1) (-9)).toList
    = [(3, 2), (2, 1), (4, 1), (1, 1), (0, 2), (2, 1), (-3, 1), (1, 1)] := by
  rw [gen_do_mean_eq_model_B (FloatOps.pairR IntRound.toy) 4 (FloatOps.pairR_hadd IntRound.toy) _ _ 2 1 3 2 (-1) (-9)
    (by decide) (by decide) (by decide)
    (by intro tix ht k hk
        obtain rfl | rfl : tix = 0 ∨ tix = 1 := by omega
        all_goals obtain rfl | rfl : k = 0 ∨ k = 1 := by omega
        all_goals decide)]
  decide

/-- `hB` is needed: the same float type, a zone whose absolute values sum to 5 > 4 (cells 3 and 2): the program returns
    the ROUNDED sum 4, the model's exact sum is 5.  (`haddB` holds for `pairR toy` with B = 4, so only `hB` fails.)
    Note that the SIGNED sum may well be small: cells 3, 2, −4 have the sum 1 but the accumulator passes through 5. -/
theorem do_mean_bound_needed :
    (Gen.Kernels.do_mean (FloatOps.pairR IntRound.toy) #[3, 2] 1 1 2 #[0, 0] 1 2 1 (-1) (-9)).toList
      = [(4, 2), (2, 1)] ∧
    Hdc.zonalMean [3, 2] [0, 0] 1 (-1) (-9) = [(5, 2)] ∧
    zoneAbsSum [3, 2] [0, 0] (-1) (-9) 0 = 5 ∧
    (Gen.Kernels.do_mean (FloatOps.pairR IntRound.toy) #[3, 2, -4] 1 1 3 #[0, 0, 0] 1 3 1 (-1) (-9)).toList
      = [(0, 3), (3, 1)] ∧
    Hdc.zonalMean [3, 2, -4] [0, 0, 0] 1 (-1) (-9) = [(1, 3)] := by
  decide +kernel

/-- `haddB` is needed: with B = 6 the data of `do_mean_bound_needed` satisfies `hB` (5 ≤ 6), but the float type `pairR toy` is
    exact only up to 4 - `haddB` fails at 3 + 2 - and program and model differ (4 vs 5, see `do_mean_bound_needed`) -/
theorem do_mean_haddB_needed :
    (∀ tix < 1, ∀ k < 1, zoneAbsSum (([3, 2].drop (tix * (1 * 2))).take (1 * 2)) [0, 0] (-1) (-9) (k : ℕ) ≤ 6) ∧
    ¬ (∀ a b : Int, a.natAbs ≤ 6 → b.natAbs ≤ 6 → (a + b).natAbs ≤ 6 →
      (FloatOps.pairR IntRound.toy).add ((FloatOps.pairR IntRound.toy).lit a) ((FloatOps.pairR IntRound.toy).lit b)
        = (FloatOps.pairR IntRound.toy).lit (a + b)) := by
  refine ⟨fun tix ht k hk => ?_, fun h => absurd (h 3 2 (by decide) (by decide) (by decide)) (by decide)⟩
  obtain rfl : tix = 0 := by omega
  obtain rfl : k = 0 := by omega
  decide

/-- binary64 on the integers (`pairR IntRound.f64`): two cells 2^53 and 1 in one zone, the `+ 1` is lost -/
theorem do_mean_f64_witness :
    (Gen.Kernels.do_mean (FloatOps.pairR IntRound.f64) #[9007199254740992, 1] 1 1 2 #[0, 0] 1 2 1 (-1) (-9)).toList
      = [(9007199254740992, 2), (2, 1)] ∧
    Hdc.zonalMean [9007199254740992, 1] [0, 0] 1 (-1) (-9) = [(9007199254740993, 2)] := by
  decide +kernel

end Hdc.GenKDoMean
