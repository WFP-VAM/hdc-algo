import Hdc.Lemmas.GenKernelsLroo
import Hdc.Gen.KLroo
import Std.Tactic.Do
/-
GenKLroo  The GENERATED translation of `lroo` (Hdc/Gen/KLroo.lean, an imperative
`Id.run do` program over `Array Int` with Python index semantics, regenerated from the Python
source on every verification run) computes its hand model: `gen_lroo_eq_model`.

Method (as in C01gen): the verification-condition generator `mvcgen` (Std.Do) is run on the generated
program with one invariant per loop, stated through the model (`LrooInv`, Hdc/Lemmas/GenKernelsLroo.lean).  One iteration and
the exit of the loop are lemmas of that file which take the position `pyRange a b = pref ++ cur :: suff` and the
reads `rd a cur` as the generator records them; what is left here is to decide the `if`s of the source.

The verification conditions are not addressed by their generated tags (`vc3.step.isTrue…`, which
change when the branching structure of the source is rearranged) but by what they are: every proof
ends with `all_goals first | ‹step› | ‹entry› | ‹exit›`, each alternative failing quickly on the
conditions of the other kinds.
-/
namespace Hdc.GenKernels
open Hdc Hdc.Gen.Kernels Std.Do

set_option mvcgen.warning false

/-! ### lroo: longest run of ones -/

/-- The translated `lroo` writes the model's value into the one-cell output buffer (any input, any
    initial content of the buffer).  `np.where(data == 1)[0]` is `dotsFrom 0 data` (`whereEq_ofNat`). -/
theorem gen_lroo_eq_model (data : List Nat) (o : Array Int) (ho : o.size = 1) :
    Gen.Kernels.lroo (data.map Int.ofNat).toArray o = #[(Hdc.lroo data : Int)] := by
  generalize hres : Gen.Kernels.lroo (data.map Int.ofNat).toArray o = res
  apply Id.of_wp_run_eq hres
  mvcgen -trivial invariants
  -- state `(d, cr, mr)`; after `p` iterations the model's loop continues from dot `p` with `cr`, `mr`
  · ⇓⟨xs, s⟩ => ⌜LrooInv data xs.prefix.length s.2.1 s.2.2⌝
  all_goals first
    -- one iteration (`d = 1` and `cr > mr`, `d = 1` only, `d ≠ 1`)
    | (simp (config := {zetaDelta := true}) only [decide_eq_true_eq] at *
       refine LrooInv.step_range ‹LrooInv _ _ _ _› ‹pyRange _ _ = _› rfl ?_ ?_ <;> split_ifs <;> omega)
    -- entry of the loop
    | exact LrooInv.init data
    -- the final `if mr > 1`
    | (simp (config := {zetaDelta := true}) only [decide_eq_true_eq] at *
       have hm := LrooInv.final_range ‹LrooInv _ _ _ _›
       rw [wr_single o ho, lroo_cast]
       exact congrArg (fun v : Int => #[v]) (by split_ifs <;> omega))

/-! ### Non-vacuity: concrete inputs, evaluated on the model side -/

/-- runs of ones of lengths 2 and 3 -/
example : Gen.Kernels.lroo ([1, 1, 0, 1, 1, 1, 0].map Int.ofNat).toArray #[7] = #[3] := by
  rw [gen_lroo_eq_model _ _ rfl]
  decide

/-- a single one is not a run (`mr > 1`), neither is an empty series -/
example : Gen.Kernels.lroo ([0, 1, 0].map Int.ofNat).toArray #[7] = #[0] := by
  rw [gen_lroo_eq_model _ _ rfl]
  decide
example : Gen.Kernels.lroo (([] : List Nat).map Int.ofNat).toArray #[7] = #[0] := by
  rw [gen_lroo_eq_model _ _ rfl]
  decide

end Hdc.GenKernels
