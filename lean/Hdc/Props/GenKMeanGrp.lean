import Hdc.Props.GenKMeanGrpB
/-
GenKMeanGrp  The GENERATED translation of `ops/stats.py::mean_grp` (Hdc/Gen/KMeanGrp.lean, written by
harness/py2lean_stats.py from the Python source on every run) computes the hand model `Hdc.meanGrp`.

The data cells are exact integers; the grouped mean is a true division, which the translation does not evaluate: the
floating type of the results is an abstract `β` with `F : FloatOps β` (`F.lit` integer -> float, `F.add`, `F.div`; Numba
types `avg`, which is assigned integers and the quotient, as float64).  So the generated program returns, per cell,
the model's exact pair (sum, count) *before* the division: `F.div (F.lit sum) (F.lit count)`.

The theorems here assume additions exact on ALL integers (`hadd`); they are the bounded theorem
`gen_mean_grp_eq_model_int_B` of Hdc/Props/GenKMeanGrpB.lean (where the loops are verified) at a bound above the data.
-/
namespace Hdc.GenKMeanGrp
open Hdc Hdc.Gen.Kernels Hdc.PyNpT Hdc.GenKernels

variable {β : Type}

/-- The translated `mean_grp` overwrites every cell whose label `k` lies in `0 .. num_groups-1` with the mean of the
    valid cells of its group, given by the model's exact (sum, count): `F.lit nodata` when count = 0, the quotient
    `F.div (F.lit sum) (F.lit count)` otherwise; cells with a label outside the range keep the content of the buffer
    (`none` in the model).

    Hypotheses: `hadd`, additions of integers are exact in the floating type (the idealisation the model makes by
    computing the sum in `Int`); `h0`, one buffer cell per label.  Nothing else: any `num_groups` (the model is taken
    at `num_groups.toNat`: a negative number of groups leaves the buffer untouched, as no group does), any labels (also
    negative ones and labels ≥ num_groups), any nodata, any initial content of the buffer, and even a data vector whose
    length differs from the number of labels (source and model then pair the cells with the labels as far as both go). -/
theorem gen_mean_grp_eq_model_int (F : FloatOps β)
    (hadd : ∀ a b : Int, F.add (F.lit a) (F.lit b) = F.lit (a + b))
    (xx groups : List Int) (numGroups : Int) (nodata : Int) (yy0 : Array β)
    (h0 : yy0.size = groups.length) :
    (Gen.Kernels.mean_grp F xx.toArray groups.toArray numGroups nodata yy0).toList
      = List.zipWith (fun (o : Option (Int × Nat)) (y : β) =>
          o.elim y fun sc => F.quot (F.lit nodata) sc.1 sc.2)
        (Hdc.meanGrp xx groups numGroups.toNat nodata) yy0.toList :=
  -- an unconditional `hadd` is a bounded one for every `B`; `B` := (number of cells) · Σ|x| bounds every group
  gen_mean_grp_eq_model_int_B F (xx.length * (xx.map Int.natAbs).sum) (fun a b _ _ _ => hadd a b) xx groups numGroups
    nodata yy0 h0 fun g _ _ => grpAbsSum_le xx groups nodata g _ fun x hx _ => natAbs_le_sum xx x hx

/-- The contract form: `num_groups` a natural number. -/
theorem gen_mean_grp_eq_model (F : FloatOps β)
    (hadd : ∀ a b : Int, F.add (F.lit a) (F.lit b) = F.lit (a + b))
    (xx groups : List Int) (numGroups : Nat) (nodata : Int) (yy0 : Array β)
    (h0 : yy0.size = groups.length) :
    (Gen.Kernels.mean_grp F xx.toArray groups.toArray (numGroups : Int) nodata yy0).toList
      = List.zipWith (fun (o : Option (Int × Nat)) (y : β) =>
          o.elim y fun sc => F.quot (F.lit nodata) sc.1 sc.2)
        (Hdc.meanGrp xx groups numGroups nodata) yy0.toList := by
  rw [gen_mean_grp_eq_model_int F hadd xx groups numGroups nodata yy0 h0, Int.toNat_natCast]

/-- The result has the size of the buffer. -/
theorem gen_mean_grp_size (F : FloatOps β)
    (hadd : ∀ a b : Int, F.add (F.lit a) (F.lit b) = F.lit (a + b))
    (xx groups : List Int) (numGroups : Nat) (nodata : Int) (yy0 : Array β)
    (h0 : yy0.size = groups.length) :
    (Gen.Kernels.mean_grp F xx.toArray groups.toArray (numGroups : Int) nodata yy0).size = groups.length := by
  have h := congrArg List.length (gen_mean_grp_eq_model F hadd xx groups numGroups nodata yy0 h0)
  simpa [meanGrp, h0] using h

/-! ### Non-vacuity: concrete inputs, evaluated on the model side -/

/-- the division kept as a pair (`FloatOps.pair`: `β = Int × Int`, `lit a = (a, 1)`, `div (a, _) (b, _) = (a, b)`):
    two groups and a label outside the range (cell 5 keeps its content); group 1 has no valid cell; nodata = −1.
    The cells of group 0 receive (sum, count) = (4 + 6, 2). -/
example : (Gen.Kernels.mean_grp FloatOps.pair [4, -1, 6, -1, -1, 3].toArray [0, 0, 0, 1, 1, 7].toArray
      ((2 : ℕ) : ℤ) (-1) #[(9, 9), (9, 9), (9, 9), (9, 9), (9, 9), (9, 9)]).toList
    = [(10, 2), (10, 2), (10, 2), (-1, 1), (-1, 1), (9, 9)] := by
  rw [gen_mean_grp_eq_model FloatOps.pair (fun _ _ => rfl) _ _ 2 (-1) _ (by decide)]
  decide

/-- over ℚ: means 5 and nodata -/
example : (Gen.Kernels.mean_grp (⟨fun a => (a : ℚ), (· + ·), (· / ·), 0⟩ : FloatOps ℚ)
      [4, -1, 6, -1].toArray [0, 0, 0, 1].toArray ((2 : ℕ) : ℤ) (-1) #[0, 0, 0, 0]).toList
    = [5, 5, 5, -1] := by
  rw [gen_mean_grp_eq_model _ (fun a b => by push_cast; ring) _ _ 2 (-1) _ (by decide)]
  decide +kernel

end Hdc.GenKMeanGrp
