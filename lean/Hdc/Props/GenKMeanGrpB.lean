import Hdc.Lemmas.GenKMeanGrpB
import Hdc.Gen.KMeanGrp
import Std.Tactic.Do
/-
GenKMeanGrpB  `Gen.Kernels.mean_grp` = `Hdc.meanGrp` under a BOUNDED exactness of the floating addition.

Hdc/Props/GenKMeanGrp.lean assumes `hadd : ∀ a b, F.add (F.lit a) (F.lit b) = F.lit (a + b)`: float addition exact on ALL
integers, which no floating type of finite precision satisfies.  Here the hypothesis is what IEEE binary64 provides,

    haddB : ∀ a b, |a| ≤ B → |b| ≤ B → |a + b| ≤ B → F.add (F.lit a) (F.lit b) = F.lit (a + b)        (B = 2^53 for float64)

(operands and exact result within the range in which every integer is representable), and in exchange the data must keep
the accumulator `avg` within that range:

    hB : for every group g in 0 .. num_groups-1 the absolute values of the valid cells of the group sum to at most B
         (`Hdc.grpAbsSum xx groups nodata g ≤ B`, Hdc/Model/RoundAcc.lean).

`|n| ≤ B` is written `n.natAbs ≤ B`.

Method as in GenKRSround: `mvcgen` with one invariant per loop (Hdc/Lemmas/GenKMeanGrp.lean, the step `avg += pixv` in
Hdc/Lemmas/GenKMeanGrpB.lean), loop positions by `py_ranges`, the NumPy idioms `groups == grp`, `xx[grp_ix]`,
`yy[grp_ix] = avg` through the lemmas of Hdc/Lemmas/PyNpT.lean; the verification conditions are dispatched by shape.
-/
namespace Hdc.GenKMeanGrp
open Hdc Hdc.Gen.Kernels Hdc.PyNpT Hdc.GenKernels Std.Do

set_option mvcgen.warning false
set_option linter.unusedSimpArgs false

variable {β : Type}

/-- The translated `mean_grp` overwrites every cell whose label `k` lies in `0 .. num_groups-1` with the mean of the
    valid cells of its group, given by the model's exact (sum, count) (as `gen_mean_grp_eq_model_int`).

    Hypotheses: `haddB`, additions of integers are exact in the floating type AS LONG AS operands and result stay within
    `B`; `hB`, per group the absolute values of the valid cells sum to at most `B` (so every partial sum does, in any order of
    the cells); `h0`, one buffer cell per label.  Everything else as general as in `gen_mean_grp_eq_model_int`. -/
theorem gen_mean_grp_eq_model_int_B (F : FloatOps β) (B : ℕ)
    (haddB : ∀ a b : Int, a.natAbs ≤ B → b.natAbs ≤ B → (a + b).natAbs ≤ B →
      F.add (F.lit a) (F.lit b) = F.lit (a + b))
    (xx groups : List Int) (numGroups : Int) (nodata : Int) (yy0 : Array β)
    (h0 : yy0.size = groups.length)
    (hB : ∀ g : Int, 0 ≤ g → g < numGroups → grpAbsSum xx groups nodata g ≤ B) :
    (Gen.Kernels.mean_grp F xx.toArray groups.toArray numGroups nodata yy0).toList
      = List.zipWith (fun (o : Option (Int × Nat)) (y : β) =>
          o.elim y fun sc => F.quot (F.lit nodata) sc.1 sc.2)
        (Hdc.meanGrp xx groups numGroups.toNat nodata) yy0.toList := by
  rw [← mgAfter_final]
  simp only [grpAbsSum_eq] at hB
  generalize hres : Gen.Kernels.mean_grp F xx.toArray groups.toArray numGroups nodata yy0 = res
  apply Id.of_wp_run_eq hres
  mvcgen -trivial invariants
  -- outer loop, state `(yy, grp_ix, pix, n, avg)`: the groups `< p` are stored
  · ⇓⟨xs, s⟩ => ⌜s.1.toList = mgAfter F xx groups nodata yy0.toList xs.prefix.length⌝
  -- inner loop, state `(n, avg)`: count and sum of the valid cells among the first `q` cells of `xx[groups == grp]`
  · ⇓⟨xs, s⟩ => by
      py_name cur as k
      exact ⌜MgInner F nodata (gsel xx groups k) xs.prefix.length s.1 s.2⌝
  all_goals
    py_ranges
    simp (config := {zetaDelta := true}) only [npCompress_eqMask, List.size_toArray,
      List.length_append, List.length_singleton, List.length_nil, pyRange_length,
      decide_eq_true_eq, not_lt] at *
  all_goals first
    -- inner loop: a nodata cell (`continue`), the first valid cell (`avg = pixv`), a further one (`avg += pixv`)
    | (py_name pref as pref; py_name cur as i; py_name cur as g
       simp (disch := omega) only [rd_nonneg, gv_toArray] at *
       have hi : i.toNat = pref.length := by omega
       simp only [hi] at *
       first
         | exact (‹MgInner _ _ _ _ _ _›).skip (by omega) ‹_›
         | exact (‹MgInner _ _ _ _ _ _›).first (by omega) ‹_› ‹_›
         | exact (‹MgInner _ _ _ _ _ _›).moreB haddB (hB g (by omega) (by omega)) (by omega) ‹_› ‹_›)
    -- entry of the inner loop (`n = 0`)
    | exact MgInner.init F nodata _ _
    -- exit of the inner loop, `avg = nodata` / `avg = avg / n`, and the masked store `yy[grp_ix] = avg`
    | (py_name pref as pref; py_name cur as g
       obtain rfl : g = (pref.length : ℤ) := by omega
       refine mgAfter_step ‹_› (by rw [Array.length_toList (xs := yy0)]; omega)
         (by simpa using ‹MgInner _ _ _ _ _ _›) ?_
       simp only [*, if_true, if_false])
    -- entry and exit of the outer loop
    | exact (mgAfter_zero F xx groups nodata yy0.toList
        (by rw [Array.length_toList (xs := yy0)]; omega)).symm
    | (rename_i h; rw [Int.sub_zero] at h; exact h)

/-- The contract form: `num_groups` a natural number. -/
theorem gen_mean_grp_eq_model_B (F : FloatOps β) (B : ℕ)
    (haddB : ∀ a b : Int, a.natAbs ≤ B → b.natAbs ≤ B → (a + b).natAbs ≤ B →
      F.add (F.lit a) (F.lit b) = F.lit (a + b))
    (xx groups : List Int) (numGroups : Nat) (nodata : Int) (yy0 : Array β)
    (h0 : yy0.size = groups.length)
    (hB : ∀ g : Int, 0 ≤ g → g < (numGroups : Int) → grpAbsSum xx groups nodata g ≤ B) :
    (Gen.Kernels.mean_grp F xx.toArray groups.toArray (numGroups : Int) nodata yy0).toList
      = List.zipWith (fun (o : Option (Int × Nat)) (y : β) =>
          o.elim y fun sc => F.quot (F.lit nodata) sc.1 sc.2)
        (Hdc.meanGrp xx groups numGroups nodata) yy0.toList := by
  rw [gen_mean_grp_eq_model_int_B F B haddB xx groups numGroups nodata yy0 h0 hB, Int.toNat_natCast]

/-- A sufficient condition in the style of C16 `sum_bound`: `n` data cells of absolute value ≤ `M` with `n · M ≤ B`. -/
theorem grpAbsSum_le (xx groups : List Int) (nd g : Int) (M : ℕ)
    (hM : ∀ x ∈ xx, x ≠ nd → x.natAbs ≤ M) : grpAbsSum xx groups nd g ≤ xx.length * M := by
  unfold grpAbsSum
  refine Nat.le_trans (sum_natAbs_le _ M ?_) (Nat.mul_le_mul_right M ?_)
  · intro p hp
    rw [List.mem_filter] at hp
    obtain ⟨v, k⟩ := p
    have hv : v ≠ nd := by have := hp.2; simp at this; exact this.2
    exact hM v (List.of_mem_zip hp.1).1 hv
  · refine Nat.le_trans (List.length_filter_le _ _) ?_
    rw [List.length_zip]; exact Nat.min_le_left _ _

/-- float64 accumulator, `n` cells of absolute value ≤ `M`, `n · M ≤ 2^53` (e.g. every int16 vector of up to 2^38 cells,
    every int32 vector of up to 2^22 cells): the unconditional conclusion. -/
theorem gen_mean_grp_eq_model_f64 (F : FloatOps β)
    (haddB : ∀ a b : Int, a.natAbs ≤ B64 → b.natAbs ≤ B64 → (a + b).natAbs ≤ B64 →
      F.add (F.lit a) (F.lit b) = F.lit (a + b))
    (xx groups : List Int) (numGroups : Nat) (nodata : Int) (yy0 : Array β) (M : ℕ)
    (h0 : yy0.size = groups.length) (hM : ∀ x ∈ xx, x ≠ nodata → x.natAbs ≤ M)
    (hn : xx.length * M ≤ 2 ^ 53) :
    (Gen.Kernels.mean_grp F xx.toArray groups.toArray (numGroups : Int) nodata yy0).toList
      = List.zipWith (fun (o : Option (Int × Nat)) (y : β) =>
          o.elim y fun sc => F.quot (F.lit nodata) sc.1 sc.2)
        (Hdc.meanGrp xx groups numGroups nodata) yy0.toList :=
  gen_mean_grp_eq_model_B F B64 haddB xx groups numGroups nodata yy0 h0
    (fun g _ _ => Nat.le_trans (grpAbsSum_le xx groups nodata g M hM) hn)

/-- **The unconditional theorem is the special case "B = ∞".**  An unconditional `hadd` is a bounded one for EVERY `B`; taking
    `B` above every `grpAbsSum` of the input (here `xx.length · Σ|x|`, any upper bound does) discharges `hB`.  This is
    `gen_mean_grp_eq_model` of Hdc/Props/GenKMeanGrp.lean. -/
theorem gen_mean_grp_eq_model_of_unbounded (F : FloatOps β)
    (hadd : ∀ a b : Int, F.add (F.lit a) (F.lit b) = F.lit (a + b))
    (xx groups : List Int) (numGroups : Nat) (nodata : Int) (yy0 : Array β)
    (h0 : yy0.size = groups.length) :
    (Gen.Kernels.mean_grp F xx.toArray groups.toArray (numGroups : Int) nodata yy0).toList
      = List.zipWith (fun (o : Option (Int × Nat)) (y : β) =>
          o.elim y fun sc => F.quot (F.lit nodata) sc.1 sc.2)
        (Hdc.meanGrp xx groups numGroups nodata) yy0.toList := by
  -- B := n · M with M := the sum of all |x| (an upper bound of each |x|)
  let M : ℕ := (xx.map Int.natAbs).sum
  have hM : ∀ x ∈ xx, x ≠ nodata → x.natAbs ≤ M := fun x hx _ => natAbs_le_sum xx x hx
  exact gen_mean_grp_eq_model_B F (xx.length * M) (fun a b _ _ _ => hadd a b) xx groups numGroups nodata yy0 h0
    (fun g _ _ => grpAbsSum_le xx groups nodata g M hM)

/-! ### Non-vacuity, and the hypotheses are needed -/

/-- a float type that ROUNDS (`FloatOps.pairR toy`: pairs (numerator, denominator), additions exact up to 4, above only even values):
    within the bound (group 0: |1| + |2| = 3 ≤ 4, group 1: |−3| = 3) the exact (sum, count) pairs -/
example : (Gen.Kernels.mean_grp (FloatOps.pairR IntRound.toy) [1, -3, 2, -1].toArray [0, 1, 0, 1].toArray
      ((2 : ℕ) : ℤ) (-1) #[(9, 9), (9, 9), (9, 9), (9, 9)]).toList
    = [(3, 2), (-3, 1), (3, 2), (-3, 1)] := by
  rw [gen_mean_grp_eq_model_B (FloatOps.pairR IntRound.toy) 4 (FloatOps.pairR_hadd IntRound.toy) _ _ 2 (-1) _ (by decide)
    (by intro g h0 h1; obtain rfl | rfl : g = 0 ∨ g = 1 := by omega
        all_goals decide)]
  decide

/-- `hB` is needed: the same float type, a group whose absolute values sum to 5 > 4: the program returns the ROUNDED sum 4,
    the model's exact sum is 5.  (`haddB` holds for `FloatOps.pairR toy` with B = 4 - `FloatOps.pairR_hadd` - so only `hB` fails.) -/
theorem mean_grp_bound_needed :
    (Gen.Kernels.mean_grp (FloatOps.pairR IntRound.toy) #[3, 2] #[0, 0] 1 (-1) #[(9, 9), (9, 9)]).toList
      = [(4, 2), (4, 2)] ∧
    Hdc.meanGrp [3, 2] [0, 0] 1 (-1) = [some (5, 2), some (5, 2)] ∧
    grpAbsSum [3, 2] [0, 0] (-1) 0 = 5 := by
  decide +kernel

/-- `haddB` is needed: with B = 6 the data of `mean_grp_bound_needed` satisfies `hB` (5 ≤ 6), but the float type `pairR toy`
    is exact only up to 4 - `haddB` fails at 3 + 2 - and program and model differ (4 vs 5, see `mean_grp_bound_needed`) -/
theorem mean_grp_haddB_needed :
    (∀ g : Int, 0 ≤ g → g < 1 → grpAbsSum [3, 2] [0, 0] (-1) g ≤ 6) ∧
    ¬ (∀ a b : Int, a.natAbs ≤ 6 → b.natAbs ≤ 6 → (a + b).natAbs ≤ 6 →
      (FloatOps.pairR IntRound.toy).add ((FloatOps.pairR IntRound.toy).lit a) ((FloatOps.pairR IntRound.toy).lit b)
        = (FloatOps.pairR IntRound.toy).lit (a + b)) := by
  refine ⟨fun g h0 h1 => ?_, fun h => absurd (h 3 2 (by decide) (by decide) (by decide)) (by decide)⟩
  obtain rfl : g = 0 := by omega
  decide

/-- the unconditional `hadd` of GenKMeanGrp.lean is FALSE for this float type (and for every type that rounds) -/
theorem unconditional_hadd_fails :
    ¬ ∀ a b : Int, (FloatOps.pairR IntRound.toy).add ((FloatOps.pairR IntRound.toy).lit a) ((FloatOps.pairR IntRound.toy).lit b)
      = (FloatOps.pairR IntRound.toy).lit (a + b) := by
  intro h
  exact absurd (h 3 2) (by decide)

/-- binary64 on the integers (`FloatOps.pairR IntRound.f64`): two valid cells 2^53 and 1 in one group, the `+ 1` is lost -/
theorem mean_grp_f64_witness :
    (Gen.Kernels.mean_grp (FloatOps.pairR IntRound.f64) #[9007199254740992, 1] #[0, 0] 1 (-1) #[(9, 9), (9, 9)]).toList
      = [(9007199254740992, 2), (9007199254740992, 2)] ∧
    Hdc.meanGrp [9007199254740992, 1] [0, 0] 1 (-1)
      = [some (9007199254740993, 2), some (9007199254740993, 2)] := by
  decide +kernel

end Hdc.GenKMeanGrp
