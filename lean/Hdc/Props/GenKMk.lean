import Hdc.Lemmas.GenKernelsMK
import Hdc.Gen.KMkScoreCounts
import Std.Tactic.Do
/-
GenKMk  The GENERATED translation of the counting loops of the Mann-Kendall score (Hdc/Gen/KMkScoreCounts.lean, an imperative
`Id.run do` program over `Array Int` with Python index semantics, regenerated from the Python
source on every verification run) computes its hand model: `gen_mk_score_eq_model`.

Method (as in C01gen): the verification-condition generator `mvcgen` (Std.Do) is run on the generated
program with one invariant per loop, stated through ℕ-indexed functions of the model (`preA`, `preB`, `above`,
`below`, Hdc/Lemmas/GenKernelsMK.lean).  The generated expressions are never copied into this file: one iteration of
the inner loop is `above_below_range`, applied to the positions `pyRange a b = pref ++ cur :: suff` of the two loops
as the generator records them; the row index is recovered from the outer position by `pyRange_split`.
The invariant of the inner loop names the loop variable of the enclosing loop by `py_name cur as k`.

The verification conditions are not addressed by their generated tags (`vc3.step.isTrue…`, which
change when the branching structure of the source is rearranged) but by what they are: every proof
ends with `all_goals first | ‹step› | ‹entry› | ‹exit›`, each alternative failing quickly on the
conditions of the other kinds (a missing loop variable, an unprovable bound).
-/
namespace Hdc.GenKernels
open Hdc Hdc.Gen.Kernels Std.Do

set_option mvcgen.warning false

/-! ### mk_score: the two counters of the Mann-Kendall score -/

/-- The translated `mk_score` loop returns (#concordant, #discordant) of the model (any input,
    including the empty and the one-element series). -/
theorem gen_mk_score_eq_model (x : List Int) :
    Gen.Kernels.mk_score_counts x.toArray
      = (((Hdc.mkCounts x).1 : Int), ((Hdc.mkCounts x).2 : Int)) := by
  generalize hres : Gen.Kernels.mk_score_counts x.toArray = res
  apply Id.of_wp_run_eq hres
  mvcgen -trivial invariants
  -- outer loop, after `p` rows: everything the rows `< p` contribute
  · ⇓⟨xs, s⟩ => ⌜s = ((preA x xs.prefix.length : Int), (preB x xs.prefix.length : Int))⌝
  -- inner loop in row `k`, after `q` partners
  · ⇓⟨xs, s⟩ => by
      py_name cur as k
      exact ⌜s = ((preA x k.toNat + above x k.toNat xs.prefix.length : Int),
        (preB x k.toNat + below x k.toNat xs.prefix.length : Int))⌝
  all_goals first
    -- one iteration of the inner loop (one condition per combination of the two `if`s)
    | (rename_i hgt hlt hb
       obtain ⟨ha, hbl⟩ := above_below_range (x := x) ‹pyRange 0 _ = _› ‹pyRange (_ + 1) _ = _›
         (fun h => (rd_nonneg _ _ h).trans (gv_toArray x _)) (fun h => (rd_nonneg _ _ h).trans (gv_toArray x _))
       simp only [decide_eq_true_eq] at hgt hlt
       subst hb
       simp (config := {zetaDelta := true}) only [ha, hbl, hgt, hlt, if_true, if_false, Int.add_zero, Int.add_assoc])
    -- entry of the inner loop; exit of the inner loop: one more row counted
    | (py_name cur as k; py_name pref as pref
       rename_i h
       obtain ⟨hc, -⟩ := pyRange_split _ _ _ _ _ ‹pyRange 0 _ = pref ++ k :: _›
       have hk : k.toNat = pref.length := by omega
       have hq : ((x.toArray.size : ℤ) - (k + 1)).toNat = x.length - (pref.length + 1) := by
         rw [List.size_toArray]
         omega
       subst h
       simp (config := {zetaDelta := true}) only [hk, hq, pyRange_length, List.length_append, List.length_singleton,
         List.length_nil, preA, preB, above_zero, below_zero, Nat.cast_zero, Int.add_zero, Nat.cast_add])
    -- exit of the outer loop (it stops one row early: the last row has no partner)
    | (rename_i h
       have hq : ((x.toArray.size : ℤ) - 1 - 0).toNat = x.length - 1 := by
         rw [List.size_toArray]
         omega
       subst h
       simp (config := {zetaDelta := true}) only [pyRange_length, hq, mkCounts_eq_pre x])
    -- entry of the outer loop
    | rfl

/-! ### Non-vacuity: concrete inputs, evaluated on the model side -/

/-- 4 concordant and 1 discordant pair, one tie -/
example : Gen.Kernels.mk_score_counts [1, 3, 2, 3].toArray = (4, 1) := by
  rw [gen_mk_score_eq_model]
  decide

example : Gen.Kernels.mk_score_counts ([] : List Int).toArray = (0, 0) := by
  rw [gen_mk_score_eq_model]
  decide

end Hdc.GenKernels
