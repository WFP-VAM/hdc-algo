import Hdc.Props.GenKRSround
import Hdc.Gen.KRollingSum
/-
GenKRS  The GENERATED translation of `ops/stats.py::rolling_sum` (Hdc/Gen/KRollingSum.lean) computes the hand model
`Hdc.rollingSum`.  The program is the rounding-aware translation `rolling_sum_r` of Hdc/Gen/KRollingSumR.lean at the rounding
`fun n => n`, so the theorem is the one of Hdc/Props/GenKRSround.lean (where the loops are verified) at `IntRound.ideal`.
-/
namespace Hdc.GenKernels
open Hdc Hdc.Gen.Kernels

/-- The translated `rolling_sum` fills the output buffer with the model's values, for ANY integer
    window size `w` (the model is taken at `w.toNat`: for `w ≤ 0` every window is empty and every cell
    gets nodata, in the source and in the model), any initial content of the buffer of the right size. -/
theorem gen_rolling_sum_eq_model_int (xx : List Int) (w nd : Int) (yy0 : Array Int)
    (h0 : yy0.size = xx.length) :
    (Gen.Kernels.rolling_sum xx.toArray w nd yy0).toList = Hdc.rollingSum xx w.toNat nd :=
  (gen_rolling_sum_r_eq_model_int (IntRound.ideal 0) xx w nd yy0 h0 rfl).trans
    (rollingSumR_ideal 0 xx w.toNat nd)

/-- The contract form: window size a natural number (any, including 0 and `> len(xx)`). -/
theorem gen_rolling_sum_eq_model (xx : List Int) (w : Nat) (nd : Int) (yy0 : Array Int)
    (h0 : yy0.size = xx.length) :
    (Gen.Kernels.rolling_sum xx.toArray (w : Int) nd yy0).toList = Hdc.rollingSum xx w nd := by
  rw [gen_rolling_sum_eq_model_int xx w nd yy0 h0, Int.toNat_natCast]

/-- A negative window size behaves as the window 0: every cell gets nodata. -/
theorem gen_rolling_sum_neg_window (xx : List Int) (w nd : Int) (hw : w ≤ 0) (yy0 : Array Int)
    (h0 : yy0.size = xx.length) :
    (Gen.Kernels.rolling_sum xx.toArray w nd yy0).toList = List.replicate xx.length nd := by
  rw [gen_rolling_sum_eq_model_int xx w nd yy0 h0, show w.toNat = 0 by omega]
  apply List.ext_getElem (by simp [rollingSum])
  intro j h1 h2
  simp [rollingSum]

/-- The result has the length of the input. -/
theorem gen_rolling_sum_size (xx : List Int) (w nd : Int) (yy0 : Array Int)
    (h0 : yy0.size = xx.length) :
    (Gen.Kernels.rolling_sum xx.toArray w nd yy0).size = xx.length := by
  have h := congrArg List.length (gen_rolling_sum_eq_model_int xx w nd yy0 h0)
  simpa [rollingSum] using h

/-! ### Non-vacuity: concrete inputs, evaluated on the model side -/

/-- windows of 3 over a series with two nodata cells (−1); the first two windows are incomplete, the
    window `[-1, -1, …]` never occurs here but `[2, -1, 4]` skips its nodata cell; the buffer starts
    with garbage -/
example : (Gen.Kernels.rolling_sum [1, 2, -1, 4, -1, -1, -1].toArray ((3 : ℕ) : ℤ) (-1)
      #[9, 9, 9, 9, 9, 9, 9]).toList = [-1, -1, 3, 6, 4, 4, -1] := by
  rw [gen_rolling_sum_eq_model _ 3 (-1) _ (by decide)]
  decide

/-- window larger than the series: all nodata -/
example : (Gen.Kernels.rolling_sum [1, 2].toArray ((5 : ℕ) : ℤ) (-1) #[0, 0]).toList
    = [-1, -1] := by
  rw [gen_rolling_sum_eq_model _ 5 (-1) _ (by decide)]
  decide

/-- window 0 and a negative window: all nodata -/
example : (Gen.Kernels.rolling_sum [1, 2].toArray ((0 : ℕ) : ℤ) (-1) #[0, 0]).toList
    = [-1, -1] := by
  rw [gen_rolling_sum_eq_model _ 0 (-1) _ (by decide)]
  decide
example : (Gen.Kernels.rolling_sum [1, 2].toArray (-4) (-1) #[0, 0]).toList = [-1, -1] :=
  gen_rolling_sum_neg_window [1, 2] (-4) (-1) (by omega) _ rfl

end Hdc.GenKernels
