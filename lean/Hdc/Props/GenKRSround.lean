import Hdc.Lemmas.GenKernelsRSround
import Hdc.Gen.KRollingSumR
import Hdc.Props.C17round
import Std.Tactic.Do
/-
GenKRSround  The GENERATED rounding-aware translation of `ops/stats.py::rolling_sum` (Hdc/Gen/KRollingSumR.lean, written
by harness/py2lean.py with `round_stores={"yy": "rnd"}`: every value stored into the float32 array `yy` is wrapped by the
parameter `rnd : Int → Int`) computes the rounding-aware hand model `Hdc.rollingSumR R` (Hdc/Model/RoundAcc.lean) when `rnd`
is the rounding `R.rnd` of a format `R : IntRound`; hence, when `window · M ≤ R.B`, the exact model `Hdc.rollingSum`
(Hdc/Props/C17round.lean) - and without the bound it does NOT (witnesses below).

The statement is about the accumulation in the output array's own type; Hdc/Props/GenKRS.lean derives the theorems about
the exact translation (program and model over exact `Int`) from it at `IntRound.ideal`.  Method: `mvcgen`, one invariant
per loop (invariants in Hdc/Lemmas/GenKernelsRSround.lean).  The position of every `for … in range(a, b)` is recovered by
`py_ranges`, reads `rd a i` are rewritten to ℕ-indexed reads by `rd_nonneg` (side condition `0 ≤ i` by `omega`), writes
`wr a i v` go through `wr_upd`; the conditions of the inner loop name the loop variable of the enclosing loop by
`py_name cur as k`.

How the stores of the sentinel are treated: the translation wraps them like every other store (`wr yy ii (rnd nodata)`:
the array holds float32(nodata)); the model stores `nodata` itself.  The hypothesis `hnd : R.rnd nd = nd` - the sentinel is
representable in the output type; implied by `|nd| ≤ R.B`, i.e. |nodata| ≤ 2^24 for float32 - closes the gap.  Outside it
the program returns the ROUNDED sentinel (`rounded_sentinel` below), which no longer compares equal to `nodata`.
-/
namespace Hdc.GenKernels
open Hdc Hdc.Gen.Kernels Std.Do

set_option mvcgen.warning false

/-! ### rolling_sum with rounded stores -/

/-- The translated `rolling_sum` with every store into `yy` rounded by `R.rnd` fills the output buffer with the values of
    the rounding-aware model, for ANY format `R`, any integer window size `w` (the model is taken at `w.toNat`), any data
    (no bound), any initial content of the buffer of the right size.

    Hypothesis `hnd`: the sentinel survives the store (see the header).

    Outer invariant `RsOuterR p`: cells `< p` final, cells `≥ p` still zero.  Inner invariant `RsInnerR k q`: `yy[k]` is
    the rounded accumulation and `n_valid` the number of the valid cells among the first `q` cells of the window. -/
theorem gen_rolling_sum_r_eq_model_int (R : IntRound) (xx : List Int) (w nd : Int) (yy0 : Array Int)
    (h0 : yy0.size = xx.length) (hnd : R.rnd nd = nd) :
    (Gen.Kernels.rolling_sum_r R.rnd xx.toArray w nd yy0).toList = Hdc.rollingSumR R xx w.toNat nd := by
  generalize hres : Gen.Kernels.rolling_sum_r R.rnd xx.toArray w nd yy0 = res
  apply Id.of_wp_run_eq hres
  mvcgen -trivial invariants
  -- state `(yy, n_valid)`
  · ⇓⟨xs, s⟩ => ⌜RsOuterR R xx w.toNat nd xs.prefix.length s.1⌝
  · ⇓⟨xs, s⟩ => by
      py_name cur as k
      exact ⌜RsInnerR R xx w.toNat nd k.toNat xs.prefix.length s.1 s.2⌝
  all_goals
    py_ranges
    simp (config := {zetaDelta := true}) only [List.size_toArray,
      List.length_append, List.length_singleton, List.length_nil, pyRange_length,
      decide_eq_true_eq, not_lt] at *
  all_goals first
    -- inner loop, nodata cell: `continue`
    | (py_name cur as jj; py_name cur as k
       simp (disch := omega) only [rd_nonneg, gv_toArray] at *
       exact RsInnerR.skip ‹RsInnerR _ _ _ _ _ _ _ _› (j := jj.toNat) (by omega) (by omega) ‹_›)
    -- inner loop, valid cell: `yy[ii] += xx[jj]` (rounded), `n_valid += 1`
    | (py_name cur as jj; py_name cur as k
       have hI := ‹RsInnerR _ _ _ _ _ _ _ _›
       simp (disch := omega) only [rd_nonneg, gv_toArray] at *
       exact hI.add (j := jj.toNat) (by omega) (by omega) ‹_›
         (wr_upd rfl k.toNat (by omega) (by rw [hI.size]; omega)) rfl)
    -- exit of the inner loop, `n_valid == 0`: nodata
    | (py_name cur as k
       have hI := (‹RsInnerR _ _ _ _ _ _ _ _›).cast (q' := w.toNat) rfl (by omega)
       exact (hI.exit_none (by omega) ‹_›
         (wr_upd rfl k.toNat (by omega) (by rw [hI.size]; omega)) hnd).cast (by omega))
    -- exit of the inner loop, `n_valid != 0`
    | (have hI := (‹RsInnerR _ _ _ _ _ _ _ _›).cast (q' := w.toNat) rfl (by omega)
       exact (hI.exit_some (by omega) ‹_›).cast (by omega))
    -- incomplete window: nodata, `continue`
    | (py_name cur as i; py_name pref as pref
       have hO := ‹RsOuterR _ _ _ _ _ _›
       exact hO.step_short (wr_upd rfl pref.length (by omega) (by rw [hO.size]; omega)) hnd (by omega))
    -- entry of the inner loop (after `n_valid = 0`)
    | exact (‹RsOuterR _ _ _ _ _ _›.enter).cast (by omega) rfl
    -- `yy[:] = 0`
    | exact RsOuterR.init R xx _ nd yy0 h0
    -- exit of the outer loop
    | exact (‹RsOuterR _ _ _ _ _ _›.cast (by omega)).toList_eq

/-- The contract form: window size a natural number (any, including 0 and `> len(xx)`). -/
theorem gen_rolling_sum_r_eq_model (R : IntRound) (xx : List Int) (w : Nat) (nd : Int) (yy0 : Array Int)
    (h0 : yy0.size = xx.length) (hnd : R.rnd nd = nd) :
    (Gen.Kernels.rolling_sum_r R.rnd xx.toArray (w : Int) nd yy0).toList = Hdc.rollingSumR R xx w nd := by
  rw [gen_rolling_sum_r_eq_model_int R xx w nd yy0 h0 hnd, Int.toNat_natCast]

/-- `hnd` from a bound on the sentinel: `|nodata| ≤ R.B` -/
theorem gen_rolling_sum_r_eq_model' (R : IntRound) (xx : List Int) (w : Nat) (nd : Int) (yy0 : Array Int)
    (h0 : yy0.size = xx.length) (hnd : nd.natAbs ≤ R.B) :
    (Gen.Kernels.rolling_sum_r R.rnd xx.toArray (w : Int) nd yy0).toList = Hdc.rollingSumR R xx w nd :=
  gen_rolling_sum_r_eq_model R xx w nd yy0 h0 (R.exact nd hnd)

/-- **Hence the exact model under the bound.**  If the valid cells are bounded by `M`, `window · M ≤ R.B` and the sentinel
    is representable, the program with rounded stores returns the exact rolling sum `Hdc.rollingSum` - the statement
    Hdc/Props/GenKRS.lean makes for the exact program, here for an accumulator that rounds. -/
theorem gen_rolling_sum_r_eq_exact (R : IntRound) (xx : List Int) (w M : Nat) (nd : Int) (yy0 : Array Int)
    (h0 : yy0.size = xx.length) (hnd : R.rnd nd = nd) (hB : w * M ≤ R.B)
    (hM : ∀ x ∈ xx, x ≠ nd → x.natAbs ≤ M) :
    (Gen.Kernels.rolling_sum_r R.rnd xx.toArray (w : Int) nd yy0).toList = Hdc.rollingSum xx w nd := by
  rw [gen_rolling_sum_r_eq_model R xx w nd yy0 h0 hnd, C17round.rollingSumR_eq_exact R xx w M nd hB hM]

/-- float32 output (`R.B ≥ 2^24`), int16 data, window ≤ 512, |nodata| ≤ 2^24 (every int16 sentinel): exact. -/
theorem gen_rolling_sum_r_int16 (R : IntRound) (hR : B32 ≤ R.B) (xx : List Int) (w : Nat) (nd : Int)
    (yy0 : Array Int) (h0 : yy0.size = xx.length) (hnd : nd.natAbs ≤ 2 ^ 24) (hw : w ≤ 512)
    (h16 : ∀ x ∈ xx, x ≠ nd → x.natAbs ≤ 32768) :
    (Gen.Kernels.rolling_sum_r R.rnd xx.toArray (w : Int) nd yy0).toList = Hdc.rollingSum xx w nd := by
  rw [gen_rolling_sum_r_eq_model' R xx w nd yy0 h0 (Nat.le_trans hnd hR),
    C17round.rollingSumR_int16_exact R hR xx w nd hw h16]

/-- Without rounding (`rnd = id`) the R-program is the idealised one: the exact model for all data. -/
theorem gen_rolling_sum_r_ideal (xx : List Int) (w : Nat) (nd : Int) (yy0 : Array Int)
    (h0 : yy0.size = xx.length) :
    (Gen.Kernels.rolling_sum_r (fun n => n) xx.toArray (w : Int) nd yy0).toList = Hdc.rollingSum xx w nd := by
  exact (gen_rolling_sum_r_eq_model (IntRound.ideal 0) xx w nd yy0 h0 rfl).trans (rollingSumR_ideal 0 xx w nd)

/-- The result has the length of the input. -/
theorem gen_rolling_sum_r_size (R : IntRound) (xx : List Int) (w nd : Int) (yy0 : Array Int)
    (h0 : yy0.size = xx.length) (hnd : R.rnd nd = nd) :
    (Gen.Kernels.rolling_sum_r R.rnd xx.toArray w nd yy0).size = xx.length := by
  have h := congrArg List.length (gen_rolling_sum_r_eq_model_int R xx w nd yy0 h0 hnd)
  simpa [rollingSumR] using h

/-! ### Non-vacuity and the negative witnesses, on the GENERATED program -/

/-- within the bound of the toy format (window 2, M = 2, B = 4): the exact sums; the buffer starts with garbage -/
example : (Gen.Kernels.rolling_sum_r IntRound.toy.rnd [1, 2, -1, 2, -1, -1].toArray ((2 : ℕ) : ℤ) (-1)
      #[9, 9, 9, 9, 9, 9]).toList = [-1, 3, 2, 2, 2, -1] := by
  rw [gen_rolling_sum_r_eq_exact IntRound.toy _ 2 2 (-1) _ (by decide) (by decide) (by decide) (by decide)]
  decide

/-- outside the bound (window 2, data up to 3): the generated program returns the ROUNDED sum 4 where the exact model
    (and the idealised program of GenKRS.lean) has 5 -/
theorem rounded_program_differs :
    (Gen.Kernels.rolling_sum_r IntRound.toy.rnd [3, 2].toArray ((2 : ℕ) : ℤ) (-1) #[0, 0]).toList = [-1, 4] ∧
    Hdc.rollingSum [3, 2] 2 (-1) = [-1, 5] := by
  rw [gen_rolling_sum_r_eq_model IntRound.toy _ 2 (-1) _ (by decide) (by decide)]
  decide

/-- binary32 on the integers (`IntRound.f32` = `rne 24`): `2^24 + 1` is lost -/
theorem f32_program_differs :
    (Gen.Kernels.rolling_sum_r IntRound.f32.rnd [16777216, 1].toArray ((2 : ℕ) : ℤ) (-1) #[0, 0]).toList
      = [-1, 16777216] ∧ Hdc.rollingSum [16777216, 1] 2 (-1) = [-1, 16777217] := by
  rw [gen_rolling_sum_r_eq_model IntRound.f32 _ 2 (-1) _ (by decide) (by decide +kernel)]
  exact C17round.f32_smallest

/-- the hypothesis `hnd` is needed: a sentinel outside the exactness range (toy format, nodata = 5) is stored ROUNDED
    (4), so the program's output differs from the model's (which holds 5) - and the cell no longer equals `nodata` -/
theorem rounded_sentinel :
    Gen.Kernels.rolling_sum_r IntRound.toy.rnd #[1, 1] 2 5 #[0, 0] = #[4, 2] ∧
    Hdc.rollingSumR IntRound.toy [1, 1] 2 5 = [5, 2] := by
  decide +kernel

/-- the same for binary32: the sentinel 2^24 + 1 comes back as 2^24 -/
theorem rounded_sentinel_f32 :
    Gen.Kernels.rolling_sum_r IntRound.f32.rnd #[1, 1] 2 16777217 #[0, 0] = #[16777216, 2] := by
  decide +kernel

end Hdc.GenKernels
