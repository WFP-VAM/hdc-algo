import Hdc.Lemmas.GenNumACFloat
import Hdc.Gen.NumAutocorrFloat
import Std.Tactic.Do
/-
GenNumACFloat  The GENERATED translation of `ops/autocorr.py::autocorr_1d_float` (Hdc/Gen/NumAutocorrFloat.lean, written by
harness/py2lean_stats.py from the Python source on every run) computes the hand model `Hdc.autocorr1d` (accumulation
`Hdc.acAccum` AND the closing formula), over every linearly ordered field.

This is the floating analogue of `GenKAC.gen_autocorr_sums_eq_model` (the integer kernel, cut before the formula): here
the whole function is translated.  `isnan` is a parameter of the generated program (an ordered field has no NaN): the
model's `none` cells are exactly the cells `isnan` reports.  The counters `nx`, `ny`, `nxy` are floating in the source
(`float64(0)`, `+= 1`) and naturals in the model; `nxy == 0` on the floating counter is `s.nxy = 0` because the field has
characteristic 0.  `x ** -0.5` is the parameter `rsqrt`, `1e-8` the parameter `eps`.

Method as in GenKAC / GenNumBrent: `mvcgen`, one invariant (Hdc/Lemmas/GenNumACFloat.lean), the two `return`s after the loop
are ordinary branches.
-/
namespace Hdc.GenNumACFloat
open Hdc Hdc.Gen.NumKernels Hdc.PyNpT Hdc.GenNum Std.Do
open Hdc.Ws2dGen (av)
open Hdc.Ws2d (fnl)

set_option mvcgen.warning false
set_option linter.unusedSimpArgs false

variable {α : Type} [Field α] [LinearOrder α] [IsStrictOrderedRing α]

/-- The translated `autocorr_1d_float` equals the model, for ANY series (also the empty and the one-element one: `data[:-1]`
    is empty, the loop does not run, both sides return 0), any `isnan`, `rsqrt`, `eps`.  No hypothesis. -/
theorem gen_autocorr_1d_float_eq_model (isnan : α → Bool) (rsqrt : α → α) (eps : α) (data : List α) :
    Gen.NumKernels.autocorr_1d_float isnan rsqrt eps data.toArray
      = Hdc.autocorr1d rsqrt eps (data.map fun v => if isnan v then none else some v) := by
  show _ = autocorr1d rsqrt eps (acOpt isnan data)
  generalize hres : Gen.NumKernels.autocorr_1d_float isnan rsqrt eps data.toArray = res
  apply Id.of_wp_run_eq hres
  mvcgen -trivial invariants
  · ⇓⟨xs, s⟩ => ⌜AcInv isnan data xs.prefix.length s.2.2.2.2⌝
  -- one iteration, `x = xx[i]`, `y = yy[i]`: a condition for each outcome of the three tests.  In the four combinations
  -- that cannot occur `hxy` is refuted, in the others the new accumulators are `acNext`
  iterate 8
    rename_i x y xok yok _ hx _ hy hxy hinv
    refine AcInv.step_range (x := x) (y := y) (xok := xok) (yok := yok) ‹pyRange _ _ = _› hinv rfl rfl rfl rfl ?_
    simp only [acNext, Bool.and_eq_true, hx, hy, eq_self, Bool.false_eq_true, and_self, and_true, and_false, false_and, not_true_eq_false, if_true,
      if_false] at hxy ⊢ <;> rfl
  -- entry of the loop
  case vc9.pre => exact AcInv.init isnan data
  -- after the loop: `return 0` (no valid pair / a vanishing variance) or the quotient
  case vc10.post.success.isTrue =>             -- `nxy == 0`
    rename_i h0 hinv
    rw [autocorr1d_of_final rsqrt eps hinv, if_pos h0]
  case vc11.post.success.isFalse.isTrue =>     -- `var_X < eps or var_Y < eps`
    rename_i h0 _ _ hv hinv
    rw [autocorr1d_of_final rsqrt eps hinv, if_neg h0, if_pos hv]
  case vc12.post.success.isFalse.isFalse =>    -- the quotient
    rename_i h0 _ _ hv hinv
    rw [autocorr1d_of_final rsqrt eps hinv, if_neg h0, if_neg hv]

/-- fewer than two cells: 0 (source and model) -/
theorem gen_autocorr_1d_float_short (isnan : α → Bool) (rsqrt : α → α) (eps : α) (data : List α)
    (h : data.length ≤ 1) : Gen.NumKernels.autocorr_1d_float isnan rsqrt eps data.toArray = 0 := by
  rw [gen_autocorr_1d_float_eq_model]
  match data, h with
  | [], _ => simp [autocorr1d, acAccum, ACSums.zero, nat]
  | [a], _ => simp [autocorr1d, acAccum, ACSums.zero, nat]

/-! ### Non-vacuity: concrete rational inputs (−1 plays NaN, `rsqrt v = 1 / v`), evaluated on the model side -/

example : Gen.NumKernels.autocorr_1d_float (fun v : ℚ => decide (v = -1)) (fun v => 1 / v) (1 / 100000000)
    [1, 2, -1, 4, 5].toArray = 10 / 441 := by
  rw [gen_autocorr_1d_float_eq_model]; decide +kernel

example : Gen.NumKernels.autocorr_1d_float (fun v : ℚ => decide (v = -1)) (fun v => 1 / v) (1 / 100000000)
    [1, 2, -1, 4, 7, 3].toArray = 1 / 1568 := by
  rw [gen_autocorr_1d_float_eq_model]; decide +kernel

/-- a constant series: the variance vanishes, `return 0` -/
example : Gen.NumKernels.autocorr_1d_float (fun v : ℚ => decide (v = -1)) (fun v => 1 / v) (1 / 100000000)
    [3, 3, 3].toArray = 0 := by
  rw [gen_autocorr_1d_float_eq_model]; decide +kernel

example : Gen.NumKernels.autocorr_1d_float (fun v : ℚ => decide (v = -1)) (fun v => 1 / v) (1 / 100000000)
    [3].toArray = 0 := gen_autocorr_1d_float_short _ _ _ [3] (by decide)

end Hdc.GenNumACFloat
