import Hdc.Lemmas.GenNumACInt
import Hdc.Gen.NumAutocorrInt
import Std.Tactic.Do
/-
GenNumACInt  The GENERATED translation of the WHOLE `ops/autocorr.py::autocorr_1d_int` (Hdc/Gen/NumAutocorrInt.lean, written by
harness/py2lean_ac.py from the Python source on every run) computes the hand model `Hdc.autocorr1d` on the series whose
nodata cells are `none` and whose valid cells are cast to the carrier.

The source accumulates in `int64` (exact integers here: `Int`; the wrap-around of int64 is outside the model, as for every
integer kernel) and converts with `float64(..)` only in the closing formula: the generated program does the same (`Int`
accumulators, casts `((e : Int) : α)` in the tail).  The model accumulates over the carrier; that the two agree is the
lemma `acAccum_acOptC` (a cast of an exact sum is the sum of the casts: true in a field of characteristic 0, true in
binary64 only while the sums stay below 2^53 - outside this theorem).  `x ** -0.5` is the parameter `rsqrt`, `1e-8` the
parameter `eps`.  OUT OF SCOPE: the two `assert`s (`data.ndim == 1`, `data.dtype.kind in ("i", "u")`): the translation
types `data` as a 1-d integer array, which is what they assert.

Method as GenKAC (same loop invariant `GenKernels.AcInv`) + the two `return`s after the loop as ordinary branches.
-/
namespace Hdc.GenNumACInt
open Hdc Hdc.Gen.NumKernels Hdc.PyNpT Hdc.GenNum Hdc.GenKernels Std.Do

set_option mvcgen.warning false
set_option linter.unusedSimpArgs false

variable {α : Type} [Field α] [LinearOrder α] [IsStrictOrderedRing α]

/-- The translated `autocorr_1d_int` equals the model on the cast series, for ANY integer series (also the empty and the
    one-element one), any `nodata`, `rsqrt`, `eps`.  No hypothesis. -/
theorem gen_autocorr_1d_int_eq_model (rsqrt : α → α) (eps : α) (data : List Int) (nodata : Int) :
    Gen.NumKernels.autocorr_1d_int rsqrt eps data.toArray nodata
      = Hdc.autocorr1d rsqrt eps (data.map fun v => if v = nodata then none else some (v : α)) := by
  show _ = autocorr1d rsqrt eps (acOptC data nodata)
  generalize hres : Gen.NumKernels.autocorr_1d_int rsqrt eps data.toArray nodata = res
  apply Id.of_wp_run_eq hres
  mvcgen -trivial invariants
  -- state `(x, y, Sx_, Sy_, Sxy, nxy, Sx, Sxx, nx, Sy, Syy, ny)`
  · ⇓⟨xs, s⟩ => ⌜AcInv data nodata xs.prefix.length s.2.2⌝
  -- one iteration, `x = xx[i]`, `y = yy[i]`: a condition for each outcome of the three tests.  In the four combinations
  -- that cannot occur `hxy` is refuted, in the others the new accumulators are `acNext`.  (`pySliceG`, `rdI`, `pyRange` are
  -- `pySlice`, `rd`, `pyRange` of `Hdc.Gen.Kernels` written out again, so the step is the one of the accumulator kernel.)
  iterate 8
    rename_i x y _ hx _ hy hxy hinv
    refine (hinv.step_range ‹pyRange _ _ = _› x y rfl rfl).cast ?_
    simp only [Bool.and_eq_true, decide_eq_true_eq, ne_eq, not_not] at hx hy hxy
    simp only [acNext, ne_eq, hx, hy, eq_self, not_false_eq_true, not_true_eq_false, and_self, and_true, and_false,
      false_and, if_true, if_false] at hxy ⊢ <;> rfl
  -- entry of the loop
  case vc9.pre => exact AcInv.init data nodata
  -- after the loop: `return 0` (no valid pair / a vanishing variance) or the quotient
  case vc10.post.success.isTrue =>             -- `nxy == 0`
    rename_i h0 hinv
    rw [autocorr1d_of_final rsqrt eps hinv, if_pos h0]
  case vc11.post.success.isFalse.isTrue =>     -- `var_X < eps or var_Y < eps`
    rename_i h0 _ _ hv hinv
    rw [autocorr1d_of_final rsqrt eps hinv, if_neg h0, if_pos hv]
  case vc12.post.success.isFalse.isFalse =>    -- the quotient
    rename_i h0 _ _ hv hinv
    rw [autocorr1d_of_final rsqrt eps hinv, if_neg h0, if_neg hv]

/-- fewer than two cells: 0 (source and model) -/
theorem gen_autocorr_1d_int_short (rsqrt : α → α) (eps : α) (data : List Int) (nodata : Int)
    (h : data.length ≤ 1) : Gen.NumKernels.autocorr_1d_int rsqrt eps data.toArray nodata = 0 := by
  rw [gen_autocorr_1d_int_eq_model]
  match data, h with
  | [], _ => simp [autocorr1d, acAccum, ACSums.zero, nat]
  | [a], _ => simp [autocorr1d, acAccum, ACSums.zero, nat]

/-! ### Non-vacuity: concrete integer inputs, carrier ℚ, `rsqrt v = 1 / v`, evaluated on the model side -/

example : Gen.NumKernels.autocorr_1d_int (fun v : ℚ => 1 / v) (1 / 100000000) [1, 2, -1, 4, 5].toArray (-1)
    = 10 / 441 := by
  rw [gen_autocorr_1d_int_eq_model]; decide +kernel

example : Gen.NumKernels.autocorr_1d_int (fun v : ℚ => 1 / v) (1 / 100000000) [1, 2, -1, 4, 7, 3].toArray (-1)
    = 1 / 1568 := by
  rw [gen_autocorr_1d_int_eq_model]; decide +kernel

/-- a constant series: the variance vanishes, `return 0` -/
example : Gen.NumKernels.autocorr_1d_int (fun v : ℚ => 1 / v) (1 / 100000000) [3, 3, 3].toArray (-1) = 0 := by
  rw [gen_autocorr_1d_int_eq_model]; decide +kernel

/-- every cell nodata: no valid pair, `return 0` -/
example : Gen.NumKernels.autocorr_1d_int (fun v : ℚ => 1 / v) (1 / 100000000) [-1, -1, -1].toArray (-1) = 0 := by
  rw [gen_autocorr_1d_int_eq_model]; decide +kernel

example : Gen.NumKernels.autocorr_1d_int (fun v : ℚ => 1 / v) (1 / 100000000) [3].toArray (-1) = 0 :=
  gen_autocorr_1d_int_short _ _ [3] (-1) (by decide)

end Hdc.GenNumACInt
