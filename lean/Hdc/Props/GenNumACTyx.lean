import Hdc.Lemmas.GenNumACWrap
import Hdc.Props.GenNumAC1d
import Hdc.Props.GenNumACYxt
import Hdc.Props.C15
import Hdc.Gen.NumAutocorrTyx
import Std.Tactic.Do
/-
GenNumACTyx  The GENERATED translation of the pixel-loop wrapper `hdc/algo/ops/autocorr.py::autocorr_tyx(tyx, nodata=None)` ((t, y, x)
cube; Hdc/Gen/NumAutocorrTyx.lean, written by harness/py2lean_ac.py from the Python source on every run) computes, pixel by pixel, the
hand model `Hdc.autocorr1d` on the series `tyx[:, r, c]` of the pixel.  The twin of Hdc/Props/GenNumACYxt.lean (read its header): the
cube is the row-major flattening with the shape `(nt, nr, nc)`, the series of a pixel is `colSeries` (stride `nr * nc`).

  gen_autocorr_tyx_none_cells / _nd_cells, gen_autocorr_tyx_none_eq_model / _nd_eq_model / gen_autocorr_tyx_eq_model,
  gen_autocorr_tyx_range, gen_autocorr_tyx_degenerate, gen_autocorr_tyx_pixel_local        as for the (y, x, t) wrapper
  gen_autocorr_tyx_eq_yxt_transposed    layout consistency: `autocorr_tyx(tyx) = autocorr(np.transpose(tyx, (1, 2, 0)))`, the whole array
-/
namespace Hdc.GenNumACTyx
open Hdc Hdc.Gen.NumKernels Hdc.PyNpT Hdc.PyNpX Hdc.GenNum Hdc.GenNumACW Std.Do
open Hdc.Ws2dGen
open Hdc.GenNumACYxt (optF optI ACDegenerate)

set_option mvcgen.warning false
set_option linter.unusedSectionVars false

variable {α : Type} [Field α] [LinearOrder α] [IsStrictOrderedRing α]

/-! ### the loops (no hypothesis on the buffer) -/

/-- nodata omitted: the result has `nr * nc` cells; cell `(r, c)` is the stored value of the generated `autocorr_1d` on the slice -/
theorem gen_autocorr_tyx_none_cells (isnan : α → Bool) (rsqrt : α → α) (eps : α) (store32 : α → α) (x : Array α)
    (nt nr nc : ℕ) :
    (Gen.NumKernels.autocorr_tyx_none isnan rsqrt eps store32 x nt nr nc).size = nr * nc ∧
    ∀ r c, r < nr → c < nc →
      (Gen.NumKernels.autocorr_tyx_none isnan rsqrt eps store32 x nt nr nc)[r * nc + c]?
        = some (store32 (autocorr_1d_none isnan rsqrt eps (npCol3 x (nat 0) nt nr nc r c))) := by
  let g : ℤ → ℤ → α := fun ri ci => store32 (autocorr_1d_none isnan rsqrt eps (npCol3 x (nat 0) nt nr nc ri ci))
  suffices h : CellInv nr nc (fun r c => g r c) (nr * nc)
      (Gen.NumKernels.autocorr_tyx_none isnan rsqrt eps store32 x nt nr nc) from
    ⟨h.sz, fun r c hr hc => h.final hr hc⟩
  generalize hres : Gen.NumKernels.autocorr_tyx_none isnan rsqrt eps store32 x nt nr nc = res
  apply Id.of_wp_run_eq hres
  mvcgen -trivial invariants
  -- `for rr`, state (data, z): the cells of the rows before `rr` are stored
  · ⇓⟨xs, s⟩ => ⌜CellInv nr nc (fun r c => g r c) (xs.prefix.length * nc) s.2⌝
  -- `for cc`, same state: the cells before `(rr, cc)` are stored
  · ⇓⟨xs, s⟩ => by
      py_name cur as rr
      exact ⌜CellInv nr nc (fun r c => g r c) (rr.toNat * nc + xs.prefix.length) s.2⌝
  -- one pass of `for cc`: `z[rr, cc] = autocorr_1d(…)`
  case vc1.step => exact CellInv.loop_step (g := g) (by assumption) (by assumption) (by assumption)
  -- entry and exit of `for cc` (one pass of `for rr`)
  case vc2.step.pre => exact CellInv.row_start (by assumption) (by assumption)
  case vc3.step.post.success => exact CellInv.row_end (by assumption) (by assumption)
  -- entry and exit of `for rr`
  case vc4.pre => exact CellInv.init' _ _ _ _
  case vc5.post.success => exact CellInv.last (by assumption)

/-- integer cells with a nodata value: the same, with the integer specialisation of `autocorr_1d`; `nodata` is forwarded -/
theorem gen_autocorr_tyx_nd_cells (rsqrt : α → α) (eps : α) (store32 : α → α) (x : Array Int) (nt nr nc : ℕ)
    (nodata : Int) :
    (Gen.NumKernels.autocorr_tyx_nd rsqrt eps store32 x nt nr nc nodata).size = nr * nc ∧
    ∀ r c, r < nr → c < nc →
      (Gen.NumKernels.autocorr_tyx_nd rsqrt eps store32 x nt nr nc nodata)[r * nc + c]?
        = some (store32 (autocorr_1d_nd rsqrt eps (npCol3 x (0 : Int) nt nr nc r c) nodata)) := by
  let g : ℤ → ℤ → α := fun ri ci => store32 (autocorr_1d_nd rsqrt eps (npCol3 x (0 : Int) nt nr nc ri ci) nodata)
  suffices h : CellInv nr nc (fun r c => g r c) (nr * nc)
      (Gen.NumKernels.autocorr_tyx_nd rsqrt eps store32 x nt nr nc nodata) from
    ⟨h.sz, fun r c hr hc => h.final hr hc⟩
  generalize hres : Gen.NumKernels.autocorr_tyx_nd rsqrt eps store32 x nt nr nc nodata = res
  apply Id.of_wp_run_eq hres
  mvcgen -trivial invariants
  -- `for rr`, state (data, z): the cells of the rows before `rr` are stored
  · ⇓⟨xs, s⟩ => ⌜CellInv nr nc (fun r c => g r c) (xs.prefix.length * nc) s.2⌝
  -- `for cc`, same state: the cells before `(rr, cc)` are stored
  · ⇓⟨xs, s⟩ => by
      py_name cur as rr
      exact ⌜CellInv nr nc (fun r c => g r c) (rr.toNat * nc + xs.prefix.length) s.2⌝
  -- one pass of `for cc`: `z[rr, cc] = autocorr_1d(…)`
  case vc1.step => exact CellInv.loop_step (g := g) (by assumption) (by assumption) (by assumption)
  -- entry and exit of `for cc` (one pass of `for rr`)
  case vc2.step.pre => exact CellInv.row_start (by assumption) (by assumption)
  case vc3.step.post.success => exact CellInv.row_end (by assumption) (by assumption)
  -- entry and exit of `for rr`
  case vc4.pre => exact CellInv.init' _ _ _ _
  case vc5.post.success => exact CellInv.last (by assumption)

/-! ### MAIN: every pixel holds the model autocorrelation of its series -/

/-- nodata omitted (float cells, NaN = missing): cell `(r, c)` of the result is the stored model autocorrelation of `tyx[:, r, c]`.
    Hypotheses: `len(x) = nt * nr * nc` (the shape fits the buffer; Numba does no bounds check, a shorter buffer is read beyond
    its end), `r * nc + c < nr * nc` (the cell exists; every pixel `r < nr`, `c < nc` of the cube satisfies it, and as Numba checks no bounds an index `c ≥ nc` is the pixel with the same number `r * nc + c`).  No hypothesis on `nt`: a series of length 0 or 1 gives `store32 0`. -/
theorem gen_autocorr_tyx_none_eq_model (isnan : α → Bool) (rsqrt : α → α) (eps : α) (store32 : α → α) (x : List α)
    (nt nr nc : ℕ) (hlen : x.length = nt * nr * nc) (r c : ℕ) (hpix : r * nc + c < nr * nc) :
    (Gen.NumKernels.autocorr_tyx_none isnan rsqrt eps store32 x.toArray nt nr nc)[r * nc + c]?
      = some (store32 (Hdc.autocorr1d rsqrt eps (optF isnan (colSeries x nt nr nc r c)))) := by
  obtain ⟨hr, hc, e⟩ := pix_of_lt hpix
  have h := (gen_autocorr_tyx_none_cells isnan rsqrt eps store32 x.toArray nt nr nc).2 _ _ hr hc
  rw [e] at h
  rw [h, npCol3_eq_colSeries x _ nt nr nc _ _ hlen hr hc, GenNumAC1d.gen_autocorr_1d_none_eq_model,
    colSeries_alias x nt nr nc e]
  rfl

/-- integer cells with an integer nodata (`== nodata` = missing, valid cells cast to the carrier) -/
theorem gen_autocorr_tyx_nd_eq_model (rsqrt : α → α) (eps : α) (store32 : α → α) (x : List Int) (nt nr nc : ℕ)
    (nodata : Int) (hlen : x.length = nt * nr * nc) (r c : ℕ) (hpix : r * nc + c < nr * nc) :
    (Gen.NumKernels.autocorr_tyx_nd rsqrt eps store32 x.toArray nt nr nc nodata)[r * nc + c]?
      = some (store32 (Hdc.autocorr1d rsqrt eps (optI nodata (colSeries x nt nr nc r c)))) := by
  obtain ⟨hr, hc, e⟩ := pix_of_lt hpix
  have h := (gen_autocorr_tyx_nd_cells rsqrt eps store32 x.toArray nt nr nc nodata).2 _ _ hr hc
  rw [e] at h
  rw [h, npCol3_eq_colSeries x _ nt nr nc _ _ hlen hr hc, GenNumAC1d.gen_autocorr_1d_nd_eq_model,
    colSeries_alias x nt nr nc e]
  rfl

/-- both specialisations, and the shape of the result -/
theorem gen_autocorr_tyx_eq_model (isnan : α → Bool) (rsqrt : α → α) (eps : α) (store32 : α → α) (xF : List α)
    (xI : List Int) (nodata : Int) (nt nr nc : ℕ) (r c : ℕ) (hpix : r * nc + c < nr * nc) :
    (xF.length = nt * nr * nc →
      (Gen.NumKernels.autocorr_tyx_none isnan rsqrt eps store32 xF.toArray nt nr nc).size = nr * nc ∧
      (Gen.NumKernels.autocorr_tyx_none isnan rsqrt eps store32 xF.toArray nt nr nc)[r * nc + c]?
        = some (store32 (Hdc.autocorr1d rsqrt eps (optF isnan (colSeries xF nt nr nc r c))))) ∧
    (xI.length = nt * nr * nc →
      (Gen.NumKernels.autocorr_tyx_nd rsqrt eps store32 xI.toArray nt nr nc nodata).size = nr * nc ∧
      (Gen.NumKernels.autocorr_tyx_nd rsqrt eps store32 xI.toArray nt nr nc nodata)[r * nc + c]?
        = some (store32 (Hdc.autocorr1d rsqrt eps (optI nodata (colSeries xI nt nr nc r c))))) :=
  ⟨fun h => ⟨(gen_autocorr_tyx_none_cells isnan rsqrt eps store32 xF.toArray nt nr nc).1,
      gen_autocorr_tyx_none_eq_model isnan rsqrt eps store32 xF nt nr nc h r c hpix⟩,
   fun h => ⟨(gen_autocorr_tyx_nd_cells rsqrt eps store32 xI.toArray nt nr nc nodata).1,
      gen_autocorr_tyx_nd_eq_model rsqrt eps store32 xI nt nr nc nodata h r c hpix⟩⟩

/-! ### C15 per pixel -/

/-- Range.  With `rsqrt` an inverse square root on the positives and a `store32` that keeps `[-1, 1]` (rounding to float32 is
    monotone and −1, 1 are float32 numbers) every pixel of both specialisations holds a value in `[-1, 1]`.
    Both are needed: with `rsqrt := fun _ => 100` the series `1 2 4` gives a value far above 1 (the model is then not a
    correlation, see Hdc/Props/C15.lean), with `store32 := fun _ => 2` every cell holds 2. -/
theorem gen_autocorr_tyx_range (isnan : α → Bool) (rsqrt : α → α) (hrs : C15.IsRsqrt rsqrt) (eps : α) (store32 : α → α)
    (hst : ∀ v, -1 ≤ v → v ≤ 1 → -1 ≤ store32 v ∧ store32 v ≤ 1)
    (xF : List α) (xI : List Int) (nodata : Int) (nt nr nc : ℕ) (r c : ℕ) (hpix : r * nc + c < nr * nc) :
    (xF.length = nt * nr * nc → ∃ v,
      (Gen.NumKernels.autocorr_tyx_none isnan rsqrt eps store32 xF.toArray nt nr nc)[r * nc + c]? = some v ∧
        -1 ≤ v ∧ v ≤ 1) ∧
    (xI.length = nt * nr * nc → ∃ v,
      (Gen.NumKernels.autocorr_tyx_nd rsqrt eps store32 xI.toArray nt nr nc nodata)[r * nc + c]? = some v ∧
        -1 ≤ v ∧ v ≤ 1) := by
  refine ⟨fun h => ⟨_, gen_autocorr_tyx_none_eq_model isnan rsqrt eps store32 xF nt nr nc h r c hpix, ?_⟩,
    fun h => ⟨_, gen_autocorr_tyx_nd_eq_model rsqrt eps store32 xI nt nr nc nodata h r c hpix, ?_⟩⟩
  · exact hst _ (C15.autocorr_range rsqrt hrs eps _).1 (C15.autocorr_range rsqrt hrs eps _).2
  · exact hst _ (C15.autocorr_range rsqrt hrs eps _).1 (C15.autocorr_range rsqrt hrs eps _).2

/-- Degenerate pixels hold `store32 0`: a series of at most one cell, no pair of consecutive valid cells, a (scaled) variance
    below `eps`, or (for `0 < eps`) all valid cells equal.  `data` is the optional series of the pixel in either encoding. -/
theorem gen_autocorr_tyx_degenerate (isnan : α → Bool) (rsqrt : α → α) (eps : α) (store32 : α → α)
    (xF : List α) (xI : List Int) (nodata : Int) (nt nr nc : ℕ) (r c : ℕ) (hpix : r * nc + c < nr * nc)
 :
    (xF.length = nt * nr * nc → ACDegenerate eps (optF isnan (colSeries xF nt nr nc r c)) →
      (Gen.NumKernels.autocorr_tyx_none isnan rsqrt eps store32 xF.toArray nt nr nc)[r * nc + c]? = some (store32 0)) ∧
    (xI.length = nt * nr * nc → ACDegenerate eps (optI nodata (colSeries xI nt nr nc r c)) →
      (Gen.NumKernels.autocorr_tyx_nd rsqrt eps store32 xI.toArray nt nr nc nodata)[r * nc + c]? = some (store32 0)) := by
  refine ⟨fun h hd => ?_, fun h hd => ?_⟩
  · rw [gen_autocorr_tyx_none_eq_model isnan rsqrt eps store32 xF nt nr nc h r c hpix, autocorr1d_degenerate rsqrt eps _ hd]
  · rw [gen_autocorr_tyx_nd_eq_model rsqrt eps store32 xI nt nr nc nodata h r c hpix, autocorr1d_degenerate rsqrt eps _ hd]

/-- Pixel locality: two cubes of the same shape with the same series at pixel `(r, c)` give the same value at `(r, c)`, whatever
    the other pixels hold (so changing the series of another pixel does not change this pixel's output). -/
theorem gen_autocorr_tyx_pixel_local (isnan : α → Bool) (rsqrt : α → α) (eps : α) (store32 : α → α)
    (xF xF' : List α) (xI xI' : List Int) (nodata : Int) (nt nr nc : ℕ) (r c : ℕ) (hpix : r * nc + c < nr * nc) :
    (xF.length = nt * nr * nc → xF'.length = nt * nr * nc →
      colSeries xF nt nr nc r c = colSeries xF' nt nr nc r c →
      (Gen.NumKernels.autocorr_tyx_none isnan rsqrt eps store32 xF.toArray nt nr nc)[r * nc + c]?
        = (Gen.NumKernels.autocorr_tyx_none isnan rsqrt eps store32 xF'.toArray nt nr nc)[r * nc + c]?) ∧
    (xI.length = nt * nr * nc → xI'.length = nt * nr * nc →
      colSeries xI nt nr nc r c = colSeries xI' nt nr nc r c →
      (Gen.NumKernels.autocorr_tyx_nd rsqrt eps store32 xI.toArray nt nr nc nodata)[r * nc + c]?
        = (Gen.NumKernels.autocorr_tyx_nd rsqrt eps store32 xI'.toArray nt nr nc nodata)[r * nc + c]?) := by
  refine ⟨fun h h' hs => ?_, fun h h' hs => ?_⟩
  · rw [gen_autocorr_tyx_none_eq_model isnan rsqrt eps store32 xF nt nr nc h r c hpix,
      gen_autocorr_tyx_none_eq_model isnan rsqrt eps store32 xF' nt nr nc h' r c hpix, hs]
  · rw [gen_autocorr_tyx_nd_eq_model rsqrt eps store32 xI nt nr nc nodata h r c hpix,
      gen_autocorr_tyx_nd_eq_model rsqrt eps store32 xI' nt nr nc nodata h' r c hpix, hs]

/-! ### Non-vacuity and necessity of the hypotheses: a `(4, 2, 2)` cube over ℚ, nodata = −1 (toy `rsqrt v = 1 / v`, `store32 = id`) -/

def acCubeT : List Int := [1, 3, 5, 2,  2, 1, 5, 7,  -1, 4, 5, 1,  4, 1, 5, 8]

/-- pixel (0, 1), series `3 1 4 1` -/
example : (Gen.NumKernels.autocorr_tyx_nd (fun v : ℚ => 1 / v) (1 / 100000000) id acCubeT.toArray (4 : ℕ) (2 : ℕ) (2 : ℕ) (-1) : Array ℚ)[(0 * 2 + 1 : ℕ)]?
    = some (-5 / 252) := by
  have h := gen_autocorr_tyx_nd_eq_model (fun v : ℚ => 1 / v) (1 / 100000000) id acCubeT 4 2 2 (-1) (by decide) 0 1 (by decide)
  rw [show colSeries acCubeT 4 2 2 0 1 = [3, 1, 4, 1] by decide] at h
  refine h.trans ?_
  decide +kernel

/-- pixel (0, 0), series `1 2 nodata 4` -/
example : (Gen.NumKernels.autocorr_tyx_nd (fun v : ℚ => 1 / v) (1 / 100000000) id acCubeT.toArray (4 : ℕ) (2 : ℕ) (2 : ℕ) (-1) : Array ℚ)[(0 * 2 + 0 : ℕ)]?
    = some (1 / 8) := by
  have h := gen_autocorr_tyx_nd_eq_model (fun v : ℚ => 1 / v) (1 / 100000000) id acCubeT 4 2 2 (-1) (by decide) 0 0 (by decide)
  rw [show colSeries acCubeT 4 2 2 0 0 = [1, 2, -1, 4] by decide] at h
  refine h.trans ?_
  decide +kernel

/-- the float specialisation on the same cube (−1 plays NaN) -/
example : (Gen.NumKernels.autocorr_tyx_none (fun v : ℚ => decide (v = -1)) (fun v : ℚ => 1 / v) (1 / 100000000) id
      ([1, 3, 5, 2,  2, 1, 5, 7,  -1, 4, 5, 1,  4, 1, 5, 8] : List ℚ).toArray (4 : ℕ) (2 : ℕ) (2 : ℕ) : Array ℚ)[(0 * 2 + 0 : ℕ)]? = some (1 / 8) := by
  have h := gen_autocorr_tyx_none_eq_model (fun v : ℚ => decide (v = -1)) (fun v : ℚ => 1 / v) (1 / 100000000) id
    [1, 3, 5, 2,  2, 1, 5, 7,  -1, 4, 5, 1,  4, 1, 5, 8] 4 2 2 (by decide) 0 0 (by decide)
  rw [show colSeries ([1, 3, 5, 2,  2, 1, 5, 7,  -1, 4, 5, 1,  4, 1, 5, 8] : List ℚ) 4 2 2 0 0 = [1, 2, -1, 4] by decide +kernel] at h
  refine h.trans ?_
  decide +kernel

/-- pixel (1, 0), series `5 5 5 5`: degenerate (all cells equal), the cell holds `store32 0` -/
example : (Gen.NumKernels.autocorr_tyx_nd (fun v : ℚ => 1 / v) (1 / 100000000) id acCubeT.toArray (4 : ℕ) (2 : ℕ) (2 : ℕ) (-1) : Array ℚ)[(1 * 2 + 0 : ℕ)]?
    = some (id 0) := by
  refine (gen_autocorr_tyx_degenerate (fun _ : ℚ => false) (fun v : ℚ => 1 / v) (1 / 100000000) id [] acCubeT (-1) 4 2 2 1 0
    (by decide)).2 (by decide) (Or.inr (Or.inr (Or.inr ⟨by norm_num, 5, ?_⟩)))
  rw [show colSeries acCubeT 4 2 2 1 0 = [5, 5, 5, 5] by decide]
  intro v hv
  simp [optI] at hv
  exact hv.symm ▸ rfl

/-- `hpix` is needed: beyond the last pixel there is no cell -/
example : (Gen.NumKernels.autocorr_tyx_nd (fun v : ℚ => 1 / v) (1 / 100000000) id acCubeT.toArray (4 : ℕ) (2 : ℕ) (2 : ℕ) (-1) : Array ℚ)[(2 * 2 + 0 : ℕ)]?
    = none :=
  Array.getElem?_eq_none (Nat.le_of_eq (gen_autocorr_tyx_nd_cells _ _ _ _ 4 2 2 _).1)

/-- `hlen` is needed: the shape `(3, 1, 1)` on the buffer `[1, 2]`: the program reads a third cell (0 in the translation,
    anything in Numba), the series of the cells that exist is `1 2` -/
example : (Gen.NumKernels.autocorr_tyx_nd (fun v : ℚ => 1 / v) (1 / 100000000) id [1, 2].toArray (3 : ℕ) (1 : ℕ) (1 : ℕ) (-1) : Array ℚ)[(0 * 1 + 0 : ℕ)]?
    ≠ some (id (Hdc.autocorr1d (fun v : ℚ => 1 / v) (1 / 100000000) (optI (-1) (colSeries [1, 2] 3 1 1 0 0)))) := by
  have h := (gen_autocorr_tyx_nd_cells (fun v : ℚ => 1 / v) (1 / 100000000) id [1, 2].toArray 3 1 1 (-1)).2 0 0 (by decide) (by decide)
  rw [show PyNpX.npCol3 [1, 2].toArray (0 : Int) (3 : ℕ) (1 : ℕ) (1 : ℕ) (0 : ℕ) (0 : ℕ) = [1, 2, 0].toArray by decide,
    GenNumAC1d.gen_autocorr_1d_nd_eq_model] at h
  rw [show colSeries ([1, 2] : List Int) 3 1 1 0 0 = [1, 2] by decide]
  intro h'
  rw [h] at h'
  revert h'
  decide +kernel

/-! ### layout consistency -/

/-- Transposition.  The (t, y, x) wrapper on a cube returns the same ARRAY as the (y, x, t) wrapper on the transposed cube
    (`toYxt` = `np.transpose(tyx, (1, 2, 0))`, flattened), in both specialisations.  Hypothesis: the shape fits the buffer. -/
theorem gen_autocorr_tyx_eq_yxt_transposed (isnan : α → Bool) (rsqrt : α → α) (eps : α) (store32 : α → α)
    (tF : List α) (tI : List Int) (nodata : Int) (nt nr nc : ℕ) :
    (tF.length = nt * nr * nc →
      Gen.NumKernels.autocorr_tyx_none isnan rsqrt eps store32 tF.toArray nt nr nc
        = Gen.NumKernels.autocorr_yxt_none isnan rsqrt eps store32 (toYxt tF nt nr nc).toArray nr nc nt) ∧
    (tI.length = nt * nr * nc →
      Gen.NumKernels.autocorr_tyx_nd rsqrt eps store32 tI.toArray nt nr nc nodata
        = Gen.NumKernels.autocorr_yxt_nd rsqrt eps store32 (toYxt tI nt nr nc).toArray nr nc nt nodata) := by
  refine ⟨fun h => ?_, fun h => ?_⟩
  · refine array_eq_of_cells (gen_autocorr_tyx_none_cells isnan rsqrt eps store32 _ nt nr nc).1
      (GenNumACYxt.gen_autocorr_yxt_none_cells isnan rsqrt eps store32 _ nr nc nt).1 fun r c hr hc => ?_
    rw [gen_autocorr_tyx_none_eq_model isnan rsqrt eps store32 tF nt nr nc h r c (pix_lt hr hc),
      GenNumACYxt.gen_autocorr_yxt_none_eq_model isnan rsqrt eps store32 _ nr nc nt (toYxt_length tF nt nr nc h) r c (pix_lt hr hc),
      rowSeries_toYxt tF nt nr nc r c h hr hc]
  · refine array_eq_of_cells (gen_autocorr_tyx_nd_cells rsqrt eps store32 _ nt nr nc nodata).1
      (GenNumACYxt.gen_autocorr_yxt_nd_cells rsqrt eps store32 _ nr nc nt nodata).1 fun r c hr hc => ?_
    rw [gen_autocorr_tyx_nd_eq_model rsqrt eps store32 tI nt nr nc nodata h r c (pix_lt hr hc),
      GenNumACYxt.gen_autocorr_yxt_nd_eq_model rsqrt eps store32 _ nr nc nt nodata (toYxt_length tI nt nr nc h) r c (pix_lt hr hc),
      rowSeries_toYxt tI nt nr nc r c h hr hc]

/-- the example cube of this file is the transposed example cube of Hdc/Props/GenNumACYxt.lean, so the four pixels agree -/
example : toYxt acCubeT 4 2 2 = GenNumACYxt.acCubeY := by decide

example : Gen.NumKernels.autocorr_tyx_nd (fun v : ℚ => 1 / v) (1 / 100000000) id acCubeT.toArray (4 : ℕ) (2 : ℕ) (2 : ℕ) (-1)
    = Gen.NumKernels.autocorr_yxt_nd (fun v : ℚ => 1 / v) (1 / 100000000) id GenNumACYxt.acCubeY.toArray (2 : ℕ) (2 : ℕ) (4 : ℕ) (-1) := by
  have h := (gen_autocorr_tyx_eq_yxt_transposed (fun _ : ℚ => false) (fun v : ℚ => 1 / v) (1 / 100000000) id [] acCubeT (-1) 4 2 2).2
    (by decide)
  rwa [show toYxt acCubeT 4 2 2 = GenNumACYxt.acCubeY by decide] at h

end Hdc.GenNumACTyx
