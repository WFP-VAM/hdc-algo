import Hdc.Lemmas.GenNumACWrapInv
import Hdc.Props.GenNumACYxt
import Hdc.Props.GenNumACTyx
import Hdc.Props.C15
import Mathlib.Tactic.IntervalCases
/-
GenNumACWrapInv  The invariances of property C15, lifted from the 1-d model (Hdc/Props/C15.lean) to the GENERATED pixel-loop wrappers
`autocorr` ((y, x, t) cube, Hdc/Gen/NumAutocorrYxt.lean) and `autocorr_tyx` ((t, y, x) cube, Hdc/Gen/NumAutocorrTyx.lean) through the
refinement theorems `gen_autocorr_{yxt,tyx}_{none,nd}_eq_model`.  Nothing about the 1-d model is re-proved here.
C15's `autocorr_affine` is stated for `0 < a` only; the version for every `a ≠ 0` (`autocorr_affine_ne`, Hdc/Lemmas/GenNumACWrapInv.lean,
from `StatsAC.autocorr1d_affine`) is used, whose homogeneity hypothesis reads `rsqrt (a² v) = rsqrt v / |a|` (for `0 < a` exactly C15's).

For each layout (`yxt`, `tyx`), each statement for both Numba specialisations (`_none`: float cells, NaN = missing; `_nd`: integer
cells, integer nodata), cells stated as `z[r * nc + c]? = some _`:

  gen_autocorr_*_affine         two cubes of the same shape whose series at pixel (r, c) are related by `v ↦ a·v + b`, `a ≠ 0`, on the valid
                                cells (missing cells stay missing) hold the same value at (r, c); hypotheses = those of the 1-d theorem
  gen_autocorr_*_pearson        the cell is `store32 (cov X Y / s)`, `s` the square root of `var X · var Y` (mean-filled Pearson form)
  gen_autocorr_*_encoding       integer/nodata run on a cube = float/NaN run on the re-encoded cube = integer run with another placeholder
  gen_autocorr_*_affine_cube    every pixel transformed (its own `a r c`, `b r c`): the whole result ARRAYS are equal
  gen_autocorr_*_encoding_cube  re-encoding the whole cube: the whole result arrays are equal
-/
namespace Hdc.GenNumACWrapInv
open Hdc Hdc.Gen.NumKernels Hdc.GenNumACW Hdc.GenNumACWI
open Hdc.GenNumACYxt (optF optI acCubeY)
open Hdc.GenNumACTyx (acCubeT)

variable {α : Type} [Field α] [LinearOrder α] [IsStrictOrderedRing α]

/-- the hypotheses of C15's `autocorr_pearson` on an optional series `d`: a valid pair exists, the run does not take the eps-branch,
    and `s` is the positive square root of `var X · var Y` -/
def ACPearsonHyp (eps : α) (d : List (Option α)) (s : α) : Prop :=
  C15.nPairs (C15.X d) (C15.Y d) ≠ 0 ∧ ¬ C15.EpsBranch eps d ∧ 0 < s ∧ s * s = C15.var (C15.X d) * C15.var (C15.Y d)

/-- `d'` is the image of `d` under `v ↦ a·v + b` on the valid cells (missing cells stay missing) and both runs take / do not take the
    eps-branch together (the eps test is applied to variances scaled by `a²`, see the remark in Hdc/Props/C15.lean) -/
def ACAffineRel (eps : α) (a b : α) (d d' : List (Option α)) : Prop :=
  d' = C15.amap a b d ∧ (C15.EpsBranch eps d' ↔ C15.EpsBranch eps d)

/-- 1-d core: related series have the same model value -/
theorem autocorr1d_of_affineRel (rsqrt : α → α) (eps : α) (a b : α) (ha : a ≠ 0)
    (hh : ∀ v, 0 < v → rsqrt (a ^ 2 * v) = rsqrt v / |a|) (d d' : List (Option α)) (h : ACAffineRel eps a b d d') :
    Hdc.autocorr1d rsqrt eps d' = Hdc.autocorr1d rsqrt eps d := by
  obtain ⟨h1, h2⟩ := h
  subst h1
  exact autocorr_affine_ne rsqrt eps d a b ha hh h2

/-! ## the (y, x, t) wrapper -/

/-- Affine invariance per pixel.  Two cubes of the same shape whose series at pixel `(r, c)` are related by `v ↦ a·v + b` on the valid
    cells give the same cell `(r, c)`, whatever the other pixels hold.
    Hypotheses: `a ≠ 0` (with `a = 0` the image is constant: value 0, example below); `hh` homogeneity of `rsqrt` (an inverse square
    root has it; with `rsqrt v = 1 / v` and `a = 2` the values differ, example below); the relation `ACAffineRel` (image series +
    same side of the eps test: rescaling by `a²` can push a run into / out of the eps-branch); the shapes fit the buffers; the cell exists. -/
theorem gen_autocorr_yxt_affine (isnan : α → Bool) (rsqrt : α → α) (eps : α) (store32 : α → α)
    (xF xF' : List α) (xI xI' : List Int) (nodata nodata' : Int) (nr nc nt : ℕ) (r c : ℕ) (hpix : r * nc + c < nr * nc)
    (a b : α) (ha : a ≠ 0) (hh : ∀ v, 0 < v → rsqrt (a ^ 2 * v) = rsqrt v / |a|) :
    (xF.length = nr * nc * nt → xF'.length = nr * nc * nt →
      ACAffineRel eps a b (optF isnan (rowSeries xF nr nc nt r c)) (optF isnan (rowSeries xF' nr nc nt r c)) →
      (Gen.NumKernels.autocorr_yxt_none isnan rsqrt eps store32 xF'.toArray nr nc nt)[r * nc + c]?
        = (Gen.NumKernels.autocorr_yxt_none isnan rsqrt eps store32 xF.toArray nr nc nt)[r * nc + c]?) ∧
    (xI.length = nr * nc * nt → xI'.length = nr * nc * nt →
      ACAffineRel eps a b (optI nodata (rowSeries xI nr nc nt r c)) (optI nodata' (rowSeries xI' nr nc nt r c)) →
      (Gen.NumKernels.autocorr_yxt_nd rsqrt eps store32 xI'.toArray nr nc nt nodata')[r * nc + c]?
        = (Gen.NumKernels.autocorr_yxt_nd rsqrt eps store32 xI.toArray nr nc nt nodata)[r * nc + c]?) := by
  refine ⟨fun h h' hrel => ?_, fun h h' hrel => ?_⟩
  · rw [GenNumACYxt.gen_autocorr_yxt_none_eq_model isnan rsqrt eps store32 xF' nr nc nt h' r c hpix,
      GenNumACYxt.gen_autocorr_yxt_none_eq_model isnan rsqrt eps store32 xF nr nc nt h r c hpix,
      autocorr1d_of_affineRel rsqrt eps a b ha hh _ _ hrel]
  · rw [GenNumACYxt.gen_autocorr_yxt_nd_eq_model rsqrt eps store32 xI' nr nc nt nodata' h' r c hpix,
      GenNumACYxt.gen_autocorr_yxt_nd_eq_model rsqrt eps store32 xI nr nc nt nodata h r c hpix,
      autocorr1d_of_affineRel rsqrt eps a b ha hh _ _ hrel]

/-- Pearson form per pixel.  With `rsqrt` an inverse square root on the positives, a pixel whose series has a valid pair and does not
    take the eps-branch holds `store32 (cov X Y / s)`: the Pearson correlation of the mean-filled series `X = s[:-1]` with its lag
    `Y = s[1:]`, `s` being the positive square root of `var X · var Y` (hypotheses: exactly those of `C15.autocorr_pearson`). -/
theorem gen_autocorr_yxt_pearson (isnan : α → Bool) (rsqrt : α → α) (hrs : C15.IsRsqrt rsqrt) (eps : α) (store32 : α → α)
    (xF : List α) (xI : List Int) (nodata : Int) (nr nc nt : ℕ) (r c : ℕ) (hpix : r * nc + c < nr * nc) (s : α) :
    (xF.length = nr * nc * nt → ACPearsonHyp eps (optF isnan (rowSeries xF nr nc nt r c)) s →
      (Gen.NumKernels.autocorr_yxt_none isnan rsqrt eps store32 xF.toArray nr nc nt)[r * nc + c]?
        = some (store32 (C15.cov (C15.X (optF isnan (rowSeries xF nr nc nt r c))) (C15.Y (optF isnan (rowSeries xF nr nc nt r c))) / s))) ∧
    (xI.length = nr * nc * nt → ACPearsonHyp eps (optI nodata (rowSeries xI nr nc nt r c)) s →
      (Gen.NumKernels.autocorr_yxt_nd rsqrt eps store32 xI.toArray nr nc nt nodata)[r * nc + c]?
        = some (store32 (C15.cov (C15.X (optI nodata (rowSeries xI nr nc nt r c))) (C15.Y (optI nodata (rowSeries xI nr nc nt r c))) / s))) := by
  refine ⟨fun h hp => ?_, fun h hp => ?_⟩
  · rw [GenNumACYxt.gen_autocorr_yxt_none_eq_model isnan rsqrt eps store32 xF nr nc nt h r c hpix,
      C15.autocorr_pearson rsqrt hrs eps _ hp.1 hp.2.1 s hp.2.2.1 hp.2.2.2]
  · rw [GenNumACYxt.gen_autocorr_yxt_nd_eq_model rsqrt eps store32 xI nr nc nt nodata h r c hpix,
      C15.autocorr_pearson rsqrt hrs eps _ hp.1 hp.2.1 s hp.2.2.1 hp.2.2.2]

/-- Encoding equivalence per pixel.  (1) The float/NaN run on the re-encoded cube (`encF`: nodata ↦ `nan`, every other cell cast) holds
    the value of the integer/nodata run; (2) so does the integer run on the cube whose missing cells carry another placeholder `nodata'`.
    Hypotheses: `isnan nan` (else the placeholder counts as a valid cell), no valid cell of the pixel casts to a NaN / equals the new
    placeholder (else a valid cell is dropped) - examples below. -/
theorem gen_autocorr_yxt_encoding (isnan : α → Bool) (rsqrt : α → α) (eps : α) (store32 : α → α)
    (xI : List Int) (nodata nodata' : Int) (nan : α) (nr nc nt : ℕ) (hlen : xI.length = nr * nc * nt) (r c : ℕ)
    (hpix : r * nc + c < nr * nc) :
    (isnan nan = true → (∀ v ∈ rowSeries xI nr nc nt r c, v ≠ nodata → isnan (v : α) = false) →
      (Gen.NumKernels.autocorr_yxt_none isnan rsqrt eps store32 (xI.map (encF nodata nan)).toArray nr nc nt)[r * nc + c]?
        = (Gen.NumKernels.autocorr_yxt_nd rsqrt eps store32 xI.toArray nr nc nt nodata)[r * nc + c]?) ∧
    ((∀ v ∈ rowSeries xI nr nc nt r c, v ≠ nodata → v ≠ nodata') →
      (Gen.NumKernels.autocorr_yxt_nd rsqrt eps store32 (xI.map (renod nodata nodata')).toArray nr nc nt nodata')[r * nc + c]?
        = (Gen.NumKernels.autocorr_yxt_nd rsqrt eps store32 xI.toArray nr nc nt nodata)[r * nc + c]?) := by
  refine ⟨fun hnan hval => ?_, fun hfresh => ?_⟩
  · rw [GenNumACYxt.gen_autocorr_yxt_none_eq_model isnan rsqrt eps store32 _ nr nc nt (by rw [List.length_map]; exact hlen) r c hpix,
      GenNumACYxt.gen_autocorr_yxt_nd_eq_model rsqrt eps store32 xI nr nc nt nodata hlen r c hpix,
      rowSeries_map, optF_encF isnan nodata nan _ hnan hval]
  · rw [GenNumACYxt.gen_autocorr_yxt_nd_eq_model rsqrt eps store32 _ nr nc nt nodata' (by rw [List.length_map]; exact hlen) r c hpix,
      GenNumACYxt.gen_autocorr_yxt_nd_eq_model rsqrt eps store32 xI nr nc nt nodata hlen r c hpix,
      rowSeries_map, optI_renod nodata nodata' _ hfresh]

/-- Affine invariance of the whole result.  If EVERY pixel's series is transformed by its own map `v ↦ a r c · v + b r c`
    (`a r c ≠ 0`), the two result arrays are equal. -/
theorem gen_autocorr_yxt_affine_cube (isnan : α → Bool) (rsqrt : α → α) (eps : α) (store32 : α → α)
    (xF xF' : List α) (xI xI' : List Int) (nodata nodata' : Int) (nr nc nt : ℕ) (a b : ℕ → ℕ → α)
    (ha : ∀ r c, r < nr → c < nc → a r c ≠ 0 ∧ ∀ v, 0 < v → rsqrt (a r c ^ 2 * v) = rsqrt v / |a r c|) :
    (xF.length = nr * nc * nt → xF'.length = nr * nc * nt →
      (∀ r c, r < nr → c < nc →
        ACAffineRel eps (a r c) (b r c) (optF isnan (rowSeries xF nr nc nt r c)) (optF isnan (rowSeries xF' nr nc nt r c))) →
      Gen.NumKernels.autocorr_yxt_none isnan rsqrt eps store32 xF'.toArray nr nc nt
        = Gen.NumKernels.autocorr_yxt_none isnan rsqrt eps store32 xF.toArray nr nc nt) ∧
    (xI.length = nr * nc * nt → xI'.length = nr * nc * nt →
      (∀ r c, r < nr → c < nc →
        ACAffineRel eps (a r c) (b r c) (optI nodata (rowSeries xI nr nc nt r c)) (optI nodata' (rowSeries xI' nr nc nt r c))) →
      Gen.NumKernels.autocorr_yxt_nd rsqrt eps store32 xI'.toArray nr nc nt nodata'
        = Gen.NumKernels.autocorr_yxt_nd rsqrt eps store32 xI.toArray nr nc nt nodata) := by
  refine ⟨fun h h' hrel => ?_, fun h h' hrel => ?_⟩
  · exact array_eq_of_cells (GenNumACYxt.gen_autocorr_yxt_none_cells isnan rsqrt eps store32 _ nr nc nt).1
      (GenNumACYxt.gen_autocorr_yxt_none_cells isnan rsqrt eps store32 _ nr nc nt).1 fun r c hr hc =>
      (gen_autocorr_yxt_affine isnan rsqrt eps store32 xF xF' [] [] 0 0 nr nc nt r c (pix_lt hr hc) (a r c) (b r c)
        (ha r c hr hc).1 (ha r c hr hc).2).1 h h' (hrel r c hr hc)
  · exact array_eq_of_cells (GenNumACYxt.gen_autocorr_yxt_nd_cells rsqrt eps store32 _ nr nc nt nodata').1
      (GenNumACYxt.gen_autocorr_yxt_nd_cells rsqrt eps store32 _ nr nc nt nodata).1 fun r c hr hc =>
      (gen_autocorr_yxt_affine (fun _ => false) rsqrt eps store32 [] [] xI xI' nodata nodata' nr nc nt r c (pix_lt hr hc) (a r c) (b r c)
        (ha r c hr hc).1 (ha r c hr hc).2).2 h h' (hrel r c hr hc)

/-- Encoding equivalence of the whole result: the float/NaN run on the re-encoded cube and the integer run with another placeholder
    return the ARRAY of the integer/nodata run (no valid cell of the cube casts to a NaN / equals the new placeholder). -/
theorem gen_autocorr_yxt_encoding_cube (isnan : α → Bool) (rsqrt : α → α) (eps : α) (store32 : α → α)
    (xI : List Int) (nodata nodata' : Int) (nan : α) (nr nc nt : ℕ) (hlen : xI.length = nr * nc * nt) :
    (isnan nan = true → (∀ v ∈ xI, v ≠ nodata → isnan (v : α) = false) →
      Gen.NumKernels.autocorr_yxt_none isnan rsqrt eps store32 (xI.map (encF nodata nan)).toArray nr nc nt
        = Gen.NumKernels.autocorr_yxt_nd rsqrt eps store32 xI.toArray nr nc nt nodata) ∧
    ((∀ v ∈ xI, v ≠ nodata → v ≠ nodata') →
      Gen.NumKernels.autocorr_yxt_nd rsqrt eps store32 (xI.map (renod nodata nodata')).toArray nr nc nt nodata'
        = Gen.NumKernels.autocorr_yxt_nd rsqrt eps store32 xI.toArray nr nc nt nodata) := by
  refine ⟨fun hnan hval => ?_, fun hfresh => ?_⟩
  · exact array_eq_of_cells (GenNumACYxt.gen_autocorr_yxt_none_cells isnan rsqrt eps store32 _ nr nc nt).1
      (GenNumACYxt.gen_autocorr_yxt_nd_cells rsqrt eps store32 _ nr nc nt nodata).1 fun r c hr hc =>
      (gen_autocorr_yxt_encoding isnan rsqrt eps store32 xI nodata nodata' nan nr nc nt hlen r c (pix_lt hr hc)).1 hnan
        fun v hv => hval v (mem_of_mem_rowSeries hv)
  · exact array_eq_of_cells (GenNumACYxt.gen_autocorr_yxt_nd_cells rsqrt eps store32 _ nr nc nt nodata').1
      (GenNumACYxt.gen_autocorr_yxt_nd_cells rsqrt eps store32 _ nr nc nt nodata).1 fun r c hr hc =>
      (gen_autocorr_yxt_encoding (fun _ => false) rsqrt eps store32 xI nodata nodata' (0 : α) nr nc nt hlen r c (pix_lt hr hc)).2
        fun v hv => hfresh v (mem_of_mem_rowSeries hv)

/-! ## the (t, y, x) wrapper -/

/-- Affine invariance per pixel.  Two cubes of the same shape whose series at pixel `(r, c)` are related by `v ↦ a·v + b` on the valid
    cells give the same cell `(r, c)`, whatever the other pixels hold.
    Hypotheses: `a ≠ 0` (with `a = 0` the image is constant: value 0, example below); `hh` homogeneity of `rsqrt` (an inverse square
    root has it; with `rsqrt v = 1 / v` and `a = 2` the values differ, example below); the relation `ACAffineRel` (image series +
    same side of the eps test: rescaling by `a²` can push a run into / out of the eps-branch); the shapes fit the buffers; the cell exists. -/
theorem gen_autocorr_tyx_affine (isnan : α → Bool) (rsqrt : α → α) (eps : α) (store32 : α → α)
    (xF xF' : List α) (xI xI' : List Int) (nodata nodata' : Int) (nt nr nc : ℕ) (r c : ℕ) (hpix : r * nc + c < nr * nc)
    (a b : α) (ha : a ≠ 0) (hh : ∀ v, 0 < v → rsqrt (a ^ 2 * v) = rsqrt v / |a|) :
    (xF.length = nt * nr * nc → xF'.length = nt * nr * nc →
      ACAffineRel eps a b (optF isnan (colSeries xF nt nr nc r c)) (optF isnan (colSeries xF' nt nr nc r c)) →
      (Gen.NumKernels.autocorr_tyx_none isnan rsqrt eps store32 xF'.toArray nt nr nc)[r * nc + c]?
        = (Gen.NumKernels.autocorr_tyx_none isnan rsqrt eps store32 xF.toArray nt nr nc)[r * nc + c]?) ∧
    (xI.length = nt * nr * nc → xI'.length = nt * nr * nc →
      ACAffineRel eps a b (optI nodata (colSeries xI nt nr nc r c)) (optI nodata' (colSeries xI' nt nr nc r c)) →
      (Gen.NumKernels.autocorr_tyx_nd rsqrt eps store32 xI'.toArray nt nr nc nodata')[r * nc + c]?
        = (Gen.NumKernels.autocorr_tyx_nd rsqrt eps store32 xI.toArray nt nr nc nodata)[r * nc + c]?) := by
  refine ⟨fun h h' hrel => ?_, fun h h' hrel => ?_⟩
  · rw [GenNumACTyx.gen_autocorr_tyx_none_eq_model isnan rsqrt eps store32 xF' nt nr nc h' r c hpix,
      GenNumACTyx.gen_autocorr_tyx_none_eq_model isnan rsqrt eps store32 xF nt nr nc h r c hpix,
      autocorr1d_of_affineRel rsqrt eps a b ha hh _ _ hrel]
  · rw [GenNumACTyx.gen_autocorr_tyx_nd_eq_model rsqrt eps store32 xI' nt nr nc nodata' h' r c hpix,
      GenNumACTyx.gen_autocorr_tyx_nd_eq_model rsqrt eps store32 xI nt nr nc nodata h r c hpix,
      autocorr1d_of_affineRel rsqrt eps a b ha hh _ _ hrel]

/-- Pearson form per pixel.  With `rsqrt` an inverse square root on the positives, a pixel whose series has a valid pair and does not
    take the eps-branch holds `store32 (cov X Y / s)`: the Pearson correlation of the mean-filled series `X = s[:-1]` with its lag
    `Y = s[1:]`, `s` being the positive square root of `var X · var Y` (hypotheses: exactly those of `C15.autocorr_pearson`). -/
theorem gen_autocorr_tyx_pearson (isnan : α → Bool) (rsqrt : α → α) (hrs : C15.IsRsqrt rsqrt) (eps : α) (store32 : α → α)
    (xF : List α) (xI : List Int) (nodata : Int) (nt nr nc : ℕ) (r c : ℕ) (hpix : r * nc + c < nr * nc) (s : α) :
    (xF.length = nt * nr * nc → ACPearsonHyp eps (optF isnan (colSeries xF nt nr nc r c)) s →
      (Gen.NumKernels.autocorr_tyx_none isnan rsqrt eps store32 xF.toArray nt nr nc)[r * nc + c]?
        = some (store32 (C15.cov (C15.X (optF isnan (colSeries xF nt nr nc r c))) (C15.Y (optF isnan (colSeries xF nt nr nc r c))) / s))) ∧
    (xI.length = nt * nr * nc → ACPearsonHyp eps (optI nodata (colSeries xI nt nr nc r c)) s →
      (Gen.NumKernels.autocorr_tyx_nd rsqrt eps store32 xI.toArray nt nr nc nodata)[r * nc + c]?
        = some (store32 (C15.cov (C15.X (optI nodata (colSeries xI nt nr nc r c))) (C15.Y (optI nodata (colSeries xI nt nr nc r c))) / s))) := by
  refine ⟨fun h hp => ?_, fun h hp => ?_⟩
  · rw [GenNumACTyx.gen_autocorr_tyx_none_eq_model isnan rsqrt eps store32 xF nt nr nc h r c hpix,
      C15.autocorr_pearson rsqrt hrs eps _ hp.1 hp.2.1 s hp.2.2.1 hp.2.2.2]
  · rw [GenNumACTyx.gen_autocorr_tyx_nd_eq_model rsqrt eps store32 xI nt nr nc nodata h r c hpix,
      C15.autocorr_pearson rsqrt hrs eps _ hp.1 hp.2.1 s hp.2.2.1 hp.2.2.2]

/-- Encoding equivalence per pixel.  (1) The float/NaN run on the re-encoded cube (`encF`: nodata ↦ `nan`, every other cell cast) holds
    the value of the integer/nodata run; (2) so does the integer run on the cube whose missing cells carry another placeholder `nodata'`.
    Hypotheses: `isnan nan` (else the placeholder counts as a valid cell), no valid cell of the pixel casts to a NaN / equals the new
    placeholder (else a valid cell is dropped) - examples below. -/
theorem gen_autocorr_tyx_encoding (isnan : α → Bool) (rsqrt : α → α) (eps : α) (store32 : α → α)
    (xI : List Int) (nodata nodata' : Int) (nan : α) (nt nr nc : ℕ) (hlen : xI.length = nt * nr * nc) (r c : ℕ)
    (hpix : r * nc + c < nr * nc) :
    (isnan nan = true → (∀ v ∈ colSeries xI nt nr nc r c, v ≠ nodata → isnan (v : α) = false) →
      (Gen.NumKernels.autocorr_tyx_none isnan rsqrt eps store32 (xI.map (encF nodata nan)).toArray nt nr nc)[r * nc + c]?
        = (Gen.NumKernels.autocorr_tyx_nd rsqrt eps store32 xI.toArray nt nr nc nodata)[r * nc + c]?) ∧
    ((∀ v ∈ colSeries xI nt nr nc r c, v ≠ nodata → v ≠ nodata') →
      (Gen.NumKernels.autocorr_tyx_nd rsqrt eps store32 (xI.map (renod nodata nodata')).toArray nt nr nc nodata')[r * nc + c]?
        = (Gen.NumKernels.autocorr_tyx_nd rsqrt eps store32 xI.toArray nt nr nc nodata)[r * nc + c]?) := by
  refine ⟨fun hnan hval => ?_, fun hfresh => ?_⟩
  · rw [GenNumACTyx.gen_autocorr_tyx_none_eq_model isnan rsqrt eps store32 _ nt nr nc (by rw [List.length_map]; exact hlen) r c hpix,
      GenNumACTyx.gen_autocorr_tyx_nd_eq_model rsqrt eps store32 xI nt nr nc nodata hlen r c hpix,
      colSeries_map, optF_encF isnan nodata nan _ hnan hval]
  · rw [GenNumACTyx.gen_autocorr_tyx_nd_eq_model rsqrt eps store32 _ nt nr nc nodata' (by rw [List.length_map]; exact hlen) r c hpix,
      GenNumACTyx.gen_autocorr_tyx_nd_eq_model rsqrt eps store32 xI nt nr nc nodata hlen r c hpix,
      colSeries_map, optI_renod nodata nodata' _ hfresh]

/-- Affine invariance of the whole result.  If EVERY pixel's series is transformed by its own map `v ↦ a r c · v + b r c`
    (`a r c ≠ 0`), the two result arrays are equal. -/
theorem gen_autocorr_tyx_affine_cube (isnan : α → Bool) (rsqrt : α → α) (eps : α) (store32 : α → α)
    (xF xF' : List α) (xI xI' : List Int) (nodata nodata' : Int) (nt nr nc : ℕ) (a b : ℕ → ℕ → α)
    (ha : ∀ r c, r < nr → c < nc → a r c ≠ 0 ∧ ∀ v, 0 < v → rsqrt (a r c ^ 2 * v) = rsqrt v / |a r c|) :
    (xF.length = nt * nr * nc → xF'.length = nt * nr * nc →
      (∀ r c, r < nr → c < nc →
        ACAffineRel eps (a r c) (b r c) (optF isnan (colSeries xF nt nr nc r c)) (optF isnan (colSeries xF' nt nr nc r c))) →
      Gen.NumKernels.autocorr_tyx_none isnan rsqrt eps store32 xF'.toArray nt nr nc
        = Gen.NumKernels.autocorr_tyx_none isnan rsqrt eps store32 xF.toArray nt nr nc) ∧
    (xI.length = nt * nr * nc → xI'.length = nt * nr * nc →
      (∀ r c, r < nr → c < nc →
        ACAffineRel eps (a r c) (b r c) (optI nodata (colSeries xI nt nr nc r c)) (optI nodata' (colSeries xI' nt nr nc r c))) →
      Gen.NumKernels.autocorr_tyx_nd rsqrt eps store32 xI'.toArray nt nr nc nodata'
        = Gen.NumKernels.autocorr_tyx_nd rsqrt eps store32 xI.toArray nt nr nc nodata) := by
  refine ⟨fun h h' hrel => ?_, fun h h' hrel => ?_⟩
  · exact array_eq_of_cells (GenNumACTyx.gen_autocorr_tyx_none_cells isnan rsqrt eps store32 _ nt nr nc).1
      (GenNumACTyx.gen_autocorr_tyx_none_cells isnan rsqrt eps store32 _ nt nr nc).1 fun r c hr hc =>
      (gen_autocorr_tyx_affine isnan rsqrt eps store32 xF xF' [] [] 0 0 nt nr nc r c (pix_lt hr hc) (a r c) (b r c)
        (ha r c hr hc).1 (ha r c hr hc).2).1 h h' (hrel r c hr hc)
  · exact array_eq_of_cells (GenNumACTyx.gen_autocorr_tyx_nd_cells rsqrt eps store32 _ nt nr nc nodata').1
      (GenNumACTyx.gen_autocorr_tyx_nd_cells rsqrt eps store32 _ nt nr nc nodata).1 fun r c hr hc =>
      (gen_autocorr_tyx_affine (fun _ => false) rsqrt eps store32 [] [] xI xI' nodata nodata' nt nr nc r c (pix_lt hr hc) (a r c) (b r c)
        (ha r c hr hc).1 (ha r c hr hc).2).2 h h' (hrel r c hr hc)

/-- Encoding equivalence of the whole result: the float/NaN run on the re-encoded cube and the integer run with another placeholder
    return the ARRAY of the integer/nodata run (no valid cell of the cube casts to a NaN / equals the new placeholder). -/
theorem gen_autocorr_tyx_encoding_cube (isnan : α → Bool) (rsqrt : α → α) (eps : α) (store32 : α → α)
    (xI : List Int) (nodata nodata' : Int) (nan : α) (nt nr nc : ℕ) (hlen : xI.length = nt * nr * nc) :
    (isnan nan = true → (∀ v ∈ xI, v ≠ nodata → isnan (v : α) = false) →
      Gen.NumKernels.autocorr_tyx_none isnan rsqrt eps store32 (xI.map (encF nodata nan)).toArray nt nr nc
        = Gen.NumKernels.autocorr_tyx_nd rsqrt eps store32 xI.toArray nt nr nc nodata) ∧
    ((∀ v ∈ xI, v ≠ nodata → v ≠ nodata') →
      Gen.NumKernels.autocorr_tyx_nd rsqrt eps store32 (xI.map (renod nodata nodata')).toArray nt nr nc nodata'
        = Gen.NumKernels.autocorr_tyx_nd rsqrt eps store32 xI.toArray nt nr nc nodata) := by
  refine ⟨fun hnan hval => ?_, fun hfresh => ?_⟩
  · exact array_eq_of_cells (GenNumACTyx.gen_autocorr_tyx_none_cells isnan rsqrt eps store32 _ nt nr nc).1
      (GenNumACTyx.gen_autocorr_tyx_nd_cells rsqrt eps store32 _ nt nr nc nodata).1 fun r c hr hc =>
      (gen_autocorr_tyx_encoding isnan rsqrt eps store32 xI nodata nodata' nan nt nr nc hlen r c (pix_lt hr hc)).1 hnan
        fun v hv => hval v (mem_of_mem_colSeries hv)
  · exact array_eq_of_cells (GenNumACTyx.gen_autocorr_tyx_nd_cells rsqrt eps store32 _ nt nr nc nodata').1
      (GenNumACTyx.gen_autocorr_tyx_nd_cells rsqrt eps store32 _ nt nr nc nodata).1 fun r c hr hc =>
      (gen_autocorr_tyx_encoding (fun _ => false) rsqrt eps store32 xI nodata nodata' (0 : α) nt nr nc hlen r c (pix_lt hr hc)).2
        fun v hv => hfresh v (mem_of_mem_colSeries hv)

/-! ## Non-vacuity and necessity of the hypotheses

Cubes of shape `(2, 2, 4)` / `(4, 2, 2)` over ℚ, nodata = −1, toy `rsqrt v = 1 / v`, `store32 = id` (the cubes `acCubeY`, `acCubeT` of
Hdc/Props/GenNumACYxt.lean / GenNumACTyx.lean).  Over ℚ the homogeneity hypothesis `hh` holds for the toy `rsqrt` exactly when
`a = ±1` (an inverse square root ℚ → ℚ does not exist, see Hdc/Props/C15.lean), so the rational examples use `a = −1` (the sign of
`a` is irrelevant) and `a = 1`; over ℝ with `C15.rsqrtR` `hh` holds for every `a ≠ 0` (`rsqrtR_homogeneous_abs`, Hdc/Lemmas/GenNumACWrapInv.lean). -/

/-- `acCubeY` with the pixels of row 0 mapped by `v ↦ 10 − v` and those of row 1 by `v ↦ v + 3` (nodata cells stay nodata) -/
def acCubeYA : List Int := [9, 8, -1, 6,  7, 9, 6, 9,  8, 8, 8, 8,  5, 10, 4, 11]
/-- the same for the `(t, y, x)` cube `acCubeT` -/
def acCubeTA : List Int := [9, 7, 8, 5,  8, 9, 8, 10,  -1, 6, 8, 4,  6, 9, 8, 11]

/-- all hypotheses of `gen_autocorr_yxt_affine` hold together: pixel (0, 0), series `1 2 nodata 4` ↦ `9 8 nodata 6` (a = −1, b = 10) -/
example : (Gen.NumKernels.autocorr_yxt_nd (fun v : ℚ => 1 / v) (1 / 100000000) id acCubeYA.toArray (2 : ℕ) (2 : ℕ) (4 : ℕ) (-1))[0 * 2 + 0]?
    = (Gen.NumKernels.autocorr_yxt_nd (fun v : ℚ => 1 / v) (1 / 100000000) id acCubeY.toArray (2 : ℕ) (2 : ℕ) (4 : ℕ) (-1))[0 * 2 + 0]? :=
  (gen_autocorr_yxt_affine (fun _ : ℚ => false) (fun v : ℚ => 1 / v) (1 / 100000000) id [] [] acCubeY acCubeYA (-1) (-1) 2 2 4 0 0
    (by decide) (-1) 10 (by norm_num) (fun v _ => by norm_num)).2 (by decide) (by decide) ⟨by decide +kernel, by decide +kernel⟩

example : (Gen.NumKernels.autocorr_tyx_nd (fun v : ℚ => 1 / v) (1 / 100000000) id acCubeTA.toArray (4 : ℕ) (2 : ℕ) (2 : ℕ) (-1))[0 * 2 + 0]?
    = (Gen.NumKernels.autocorr_tyx_nd (fun v : ℚ => 1 / v) (1 / 100000000) id acCubeT.toArray (4 : ℕ) (2 : ℕ) (2 : ℕ) (-1))[0 * 2 + 0]? :=
  (gen_autocorr_tyx_affine (fun _ : ℚ => false) (fun v : ℚ => 1 / v) (1 / 100000000) id [] [] acCubeT acCubeTA (-1) (-1) 4 2 2 0 0
    (by decide) (-1) 10 (by norm_num) (fun v _ => by norm_num)).2 (by decide) (by decide) ⟨by decide +kernel, by decide +kernel⟩

/-- whole-cube form, a different map per pixel row: the result arrays are equal -/
example : Gen.NumKernels.autocorr_yxt_nd (fun v : ℚ => 1 / v) (1 / 100000000) id acCubeYA.toArray (2 : ℕ) (2 : ℕ) (4 : ℕ) (-1)
    = Gen.NumKernels.autocorr_yxt_nd (fun v : ℚ => 1 / v) (1 / 100000000) id acCubeY.toArray (2 : ℕ) (2 : ℕ) (4 : ℕ) (-1) := by
  refine (gen_autocorr_yxt_affine_cube (fun _ : ℚ => false) (fun v : ℚ => 1 / v) (1 / 100000000) id [] [] acCubeY acCubeYA (-1) (-1)
    2 2 4 (fun r _ => if r = 0 then -1 else 1) (fun r _ => if r = 0 then 10 else 3) ?_).2 (by decide) (by decide) ?_
  · intro r c hr hc
    interval_cases r <;> exact ⟨by norm_num, fun v _ => by norm_num⟩
  · intro r c hr hc
    interval_cases r <;> interval_cases c <;> exact ⟨by decide +kernel, by decide +kernel⟩

example : Gen.NumKernels.autocorr_tyx_nd (fun v : ℚ => 1 / v) (1 / 100000000) id acCubeTA.toArray (4 : ℕ) (2 : ℕ) (2 : ℕ) (-1)
    = Gen.NumKernels.autocorr_tyx_nd (fun v : ℚ => 1 / v) (1 / 100000000) id acCubeT.toArray (4 : ℕ) (2 : ℕ) (2 : ℕ) (-1) := by
  refine (gen_autocorr_tyx_affine_cube (fun _ : ℚ => false) (fun v : ℚ => 1 / v) (1 / 100000000) id [] [] acCubeT acCubeTA (-1) (-1)
    4 2 2 (fun r _ => if r = 0 then -1 else 1) (fun r _ => if r = 0 then 10 else 3) ?_).2 (by decide) (by decide) ?_
  · intro r c hr hc
    interval_cases r <;> exact ⟨by norm_num, fun v _ => by norm_num⟩
  · intro r c hr hc
    interval_cases r <;> interval_cases c <;> exact ⟨by decide +kernel, by decide +kernel⟩

/-- `a ≠ 0` is needed.  `a = 0`, `b = 5`, `eps = 0`: pixel (0, 1), series `3 1 4 1` ↦ `5 5 5 5`.  Every other hypothesis holds (`hh`
    reads `rsqrt 0 = 0`, true for the toy `rsqrt`; neither run takes the eps-branch as no variance is negative), the cells differ:
    the constant image gives 0. -/
def acCubeY0 : List Int := [1, 2, -1, 4,  5, 5, 5, 5,  5, 5, 5, 5,  2, 7, 1, 8]
def acCubeT0 : List Int := [1, 5, 5, 2,  2, 5, 5, 7,  -1, 5, 5, 1,  4, 5, 5, 8]

example :
    (∀ v : ℚ, 0 < v → (fun v : ℚ => 1 / v) ((0 : ℚ) ^ 2 * v) = (fun v : ℚ => 1 / v) v / |(0 : ℚ)|) ∧
    ACAffineRel (0 : ℚ) 0 5 (optI (-1) (rowSeries acCubeY 2 2 4 0 1)) (optI (-1) (rowSeries acCubeY0 2 2 4 0 1)) ∧
    (Gen.NumKernels.autocorr_yxt_nd (fun v : ℚ => 1 / v) 0 id acCubeY0.toArray (2 : ℕ) (2 : ℕ) (4 : ℕ) (-1))[0 * 2 + 1]?
      ≠ (Gen.NumKernels.autocorr_yxt_nd (fun v : ℚ => 1 / v) 0 id acCubeY.toArray (2 : ℕ) (2 : ℕ) (4 : ℕ) (-1))[0 * 2 + 1]? :=
  ⟨fun v _ => by norm_num, ⟨by decide +kernel, by decide +kernel⟩, by decide +kernel⟩

example :
    (∀ v : ℚ, 0 < v → (fun v : ℚ => 1 / v) ((0 : ℚ) ^ 2 * v) = (fun v : ℚ => 1 / v) v / |(0 : ℚ)|) ∧
    ACAffineRel (0 : ℚ) 0 5 (optI (-1) (colSeries acCubeT 4 2 2 0 1)) (optI (-1) (colSeries acCubeT0 4 2 2 0 1)) ∧
    (Gen.NumKernels.autocorr_tyx_nd (fun v : ℚ => 1 / v) 0 id acCubeT0.toArray (4 : ℕ) (2 : ℕ) (2 : ℕ) (-1))[0 * 2 + 1]?
      ≠ (Gen.NumKernels.autocorr_tyx_nd (fun v : ℚ => 1 / v) 0 id acCubeT.toArray (4 : ℕ) (2 : ℕ) (2 : ℕ) (-1))[0 * 2 + 1]? :=
  ⟨fun v _ => by norm_num, ⟨by decide +kernel, by decide +kernel⟩, by decide +kernel⟩

/-- `hh` is needed.  `a = 2`, `b = 0`, `eps = 0`, toy `rsqrt v = 1 / v` (not homogeneous of degree −1/2): pixel (0, 1), series
    `3 1 4 1` ↦ `6 2 8 2`; `a ≠ 0` and the relation hold, the cells differ (by the factor 4). -/
def acCubeY2 : List Int := [1, 2, -1, 4,  6, 2, 8, 2,  5, 5, 5, 5,  2, 7, 1, 8]

example :
    (2 : ℚ) ≠ 0 ∧
    ACAffineRel (0 : ℚ) 2 0 (optI (-1) (rowSeries acCubeY 2 2 4 0 1)) (optI (-1) (rowSeries acCubeY2 2 2 4 0 1)) ∧
    (Gen.NumKernels.autocorr_yxt_nd (fun v : ℚ => 1 / v) 0 id acCubeY2.toArray (2 : ℕ) (2 : ℕ) (4 : ℕ) (-1))[0 * 2 + 1]?
      ≠ (Gen.NumKernels.autocorr_yxt_nd (fun v : ℚ => 1 / v) 0 id acCubeY.toArray (2 : ℕ) (2 : ℕ) (4 : ℕ) (-1))[0 * 2 + 1]? :=
  ⟨by norm_num, ⟨by decide +kernel, by decide +kernel⟩, by decide +kernel⟩

/-- encoding, whole cube: the float run on the cube re-encoded with the placeholder 999 (`isnan v := v = 999`), and the integer run
    with the placeholder 255, return the array of the integer run with nodata = −1 -/
example : Gen.NumKernels.autocorr_yxt_none (fun v : ℚ => decide (v = 999)) (fun v : ℚ => 1 / v) (1 / 100000000) id
      (acCubeY.map (encF (-1) (999 : ℚ))).toArray (2 : ℕ) (2 : ℕ) (4 : ℕ)
    = Gen.NumKernels.autocorr_yxt_nd (fun v : ℚ => 1 / v) (1 / 100000000) id acCubeY.toArray (2 : ℕ) (2 : ℕ) (4 : ℕ) (-1) :=
  (gen_autocorr_yxt_encoding_cube _ _ _ _ acCubeY (-1) 255 999 2 2 4 (by decide)).1 (by decide +kernel) (by decide +kernel)

example : Gen.NumKernels.autocorr_yxt_nd (fun v : ℚ => 1 / v) (1 / 100000000) id (acCubeY.map (renod (-1) 255)).toArray (2 : ℕ) (2 : ℕ) (4 : ℕ) 255
    = Gen.NumKernels.autocorr_yxt_nd (fun v : ℚ => 1 / v) (1 / 100000000) id acCubeY.toArray (2 : ℕ) (2 : ℕ) (4 : ℕ) (-1) :=
  (gen_autocorr_yxt_encoding_cube (fun _ : ℚ => false) _ _ _ acCubeY (-1) 255 0 2 2 4 (by decide)).2 (by decide)

example : Gen.NumKernels.autocorr_tyx_none (fun v : ℚ => decide (v = 999)) (fun v : ℚ => 1 / v) (1 / 100000000) id
      (acCubeT.map (encF (-1) (999 : ℚ))).toArray (4 : ℕ) (2 : ℕ) (2 : ℕ)
    = Gen.NumKernels.autocorr_tyx_nd (fun v : ℚ => 1 / v) (1 / 100000000) id acCubeT.toArray (4 : ℕ) (2 : ℕ) (2 : ℕ) (-1) :=
  (gen_autocorr_tyx_encoding_cube _ _ _ _ acCubeT (-1) 255 999 4 2 2 (by decide)).1 (by decide +kernel) (by decide +kernel)

example : Gen.NumKernels.autocorr_tyx_nd (fun v : ℚ => 1 / v) (1 / 100000000) id (acCubeT.map (renod (-1) 255)).toArray (4 : ℕ) (2 : ℕ) (2 : ℕ) 255
    = Gen.NumKernels.autocorr_tyx_nd (fun v : ℚ => 1 / v) (1 / 100000000) id acCubeT.toArray (4 : ℕ) (2 : ℕ) (2 : ℕ) (-1) :=
  (gen_autocorr_tyx_encoding_cube (fun _ : ℚ => false) _ _ _ acCubeT (-1) 255 0 4 2 2 (by decide)).2 (by decide)

/-- `isnan nan` is needed: with `isnan := fun _ => false` the placeholder 999 of pixel (0, 0) counts as a valid cell -/
example : (Gen.NumKernels.autocorr_yxt_none (fun _ : ℚ => false) (fun v : ℚ => 1 / v) (1 / 100000000) id
      (acCubeY.map (encF (-1) (999 : ℚ))).toArray (2 : ℕ) (2 : ℕ) (4 : ℕ))[0 * 2 + 0]?
    ≠ (Gen.NumKernels.autocorr_yxt_nd (fun v : ℚ => 1 / v) (1 / 100000000) id acCubeY.toArray (2 : ℕ) (2 : ℕ) (4 : ℕ) (-1))[0 * 2 + 0]? := by
  decide +kernel

/-- the freshness of the new placeholder is needed: with `nodata' = 4` the valid cell 4 of pixel (0, 0) (series `1 2 nodata 4`) is dropped -/
example : (Gen.NumKernels.autocorr_yxt_nd (fun v : ℚ => 1 / v) (1 / 100000000) id (acCubeY.map (renod (-1) 4)).toArray (2 : ℕ) (2 : ℕ) (4 : ℕ) 4)[0 * 2 + 0]?
    ≠ (Gen.NumKernels.autocorr_yxt_nd (fun v : ℚ => 1 / v) (1 / 100000000) id acCubeY.toArray (2 : ℕ) (2 : ℕ) (4 : ℕ) (-1))[0 * 2 + 0]? := by
  decide +kernel

/-- Pearson form, all hypotheses together (over ℝ, `C15.rsqrtR`; an inverse square root on ℚ does not exist): the `(2, 2, 3)` cube whose
    pixel (0, 0) holds `1 2 4`: X = `1 2`, Y = `2 4` are perfectly correlated, `s = 1`, the cell holds exactly 1 -/
example : (Gen.NumKernels.autocorr_yxt_nd C15.rsqrtR (1 / 10 ^ 8) id
      ([1, 2, 4,  3, 1, 4,  5, 5, 5,  2, 7, 1] : List Int).toArray (2 : ℕ) (2 : ℕ) (3 : ℕ) (-1))[0 * 2 + 0]? = some 1 := by
  have hs : (optI (-1) (rowSeries ([1, 2, 4,  3, 1, 4,  5, 5, 5,  2, 7, 1] : List Int) 2 2 3 0 0) : List (Option ℝ)) = C15.d2 := by
    rw [show rowSeries ([1, 2, 4,  3, 1, 4,  5, 5, 5,  2, 7, 1] : List Int) 2 2 3 0 0 = [1, 2, 4] by decide]
    simp [optI, C15.d2]
  have h := (gen_autocorr_yxt_pearson (fun _ => false) C15.rsqrtR C15.isRsqrt_rsqrtR (1 / 10 ^ 8) id []
    ([1, 2, 4,  3, 1, 4,  5, 5, 5,  2, 7, 1] : List Int) (-1) 2 2 3 0 0 (by decide) 1).2 (by decide)
    (by rw [hs]; exact ⟨C15.d2_nondegenerate.1, C15.d2_nondegenerate.2, one_pos, by rw [C15.d2_varX, C15.d2_varY]; norm_num⟩)
  rw [hs, C15.d2_cov] at h
  simpa using h

example : (Gen.NumKernels.autocorr_tyx_nd C15.rsqrtR (1 / 10 ^ 8) id
      ([1, 3, 5, 2,  2, 1, 5, 7,  4, 4, 5, 1] : List Int).toArray (3 : ℕ) (2 : ℕ) (2 : ℕ) (-1))[0 * 2 + 0]? = some 1 := by
  have hs : (optI (-1) (colSeries ([1, 3, 5, 2,  2, 1, 5, 7,  4, 4, 5, 1] : List Int) 3 2 2 0 0) : List (Option ℝ)) = C15.d2 := by
    rw [show colSeries ([1, 3, 5, 2,  2, 1, 5, 7,  4, 4, 5, 1] : List Int) 3 2 2 0 0 = [1, 2, 4] by decide]
    simp [optI, C15.d2]
  have h := (gen_autocorr_tyx_pearson (fun _ => false) C15.rsqrtR C15.isRsqrt_rsqrtR (1 / 10 ^ 8) id []
    ([1, 3, 5, 2,  2, 1, 5, 7,  4, 4, 5, 1] : List Int) (-1) 3 2 2 0 0 (by decide) 1).2 (by decide)
    (by rw [hs]; exact ⟨C15.d2_nondegenerate.1, C15.d2_nondegenerate.2, one_pos, by rw [C15.d2_varX, C15.d2_varY]; norm_num⟩)
  rw [hs, C15.d2_cov] at h
  simpa using h

end Hdc.GenNumACWrapInv
