import Hdc.Lemmas.GenNumACWrap
import Hdc.Props.GenNumAC1d
import Hdc.Props.C15
import Hdc.Gen.NumAutocorrYxt
import Std.Tactic.Do
/-
GenNumACYxt  The GENERATED translation of the pixel-loop wrapper `hdc/algo/ops/autocorr.py::autocorr(x, nodata=None)` ((y, x, t) cube;
Hdc/Gen/NumAutocorrYxt.lean, written by harness/py2lean_ac.py from the Python source on every run) computes, pixel by pixel, the hand
model `Hdc.autocorr1d` on the series `x[r, c, :]` of the pixel.

The cube is its row-major flattening `x` with the shape `(nr, nc, nt)`; the result is the flattened `(nr, nc)` array.  As for
`autocorr_1d` the translator emits one program per Numba specialisation of `nodata is None`:
   `autocorr_yxt_none`  nodata omitted, float cells      missing = `isnan`
   `autocorr_yxt_nd`    integer cells, integer nodata    missing = `== nodata`, valid cells cast to the carrier
`store32` is the store into the `float32` result array (`z = zeros(.., dtype="float32")`), a parameter.

  gen_autocorr_yxt_none_cells / _nd_cells   the two loops, for ANY buffer: `z.shape = (nr, nc)` and cell `(r, c)` holds `store32` of the
                                            generated `autocorr_1d` on the generated slice `x[r, c, :]`
  gen_autocorr_yxt_none_eq_model / _nd_eq_model / gen_autocorr_yxt_eq_model    MAIN: cell `(r, c)` = `store32 (Hdc.autocorr1d (series of the pixel))`
  gen_autocorr_yxt_range, gen_autocorr_yxt_degenerate, gen_autocorr_yxt_pixel_local    what C15 says per pixel, for the wrapper

The results are stated with `z[r * nc + c]? = some _` (the cell EXISTS and has this value), the series with `rowSeries` (cells read
with `x[i]?`, no default value).  Method: `mvcgen`, one invariant per loop (`CellInv`, Hdc/Lemmas/GenNumACWrap.lean).
-/
namespace Hdc.GenNumACYxt
open Hdc Hdc.Gen.NumKernels Hdc.PyNpT Hdc.PyNpX Hdc.GenNum Hdc.GenNumACW Std.Do
open Hdc.Ws2dGen

set_option mvcgen.warning false
set_option linter.unusedSectionVars false

variable {α : Type} [Field α] [LinearOrder α] [IsStrictOrderedRing α]

/-- the optional cells of a float series: NaN = missing -/
def optF (isnan : α → Bool) (s : List α) : List (Option α) := s.map fun v => if isnan v then none else some v
/-- the optional cells of an integer series: nodata = missing, valid cells cast -/
def optI (nodata : Int) (s : List Int) : List (Option α) := s.map fun v => if v = nodata then none else some (v : α)

/-- the degenerate series of C15: at most one cell, no pair of consecutive valid cells, a scaled variance below `eps`, or
    (`0 < eps`) all valid cells equal -/
def ACDegenerate (eps : α) (data : List (Option α)) : Prop :=
  data.length ≤ 1 ∨ C15.nPairs (C15.X data) (C15.Y data) = 0 ∨ C15.EpsBranch eps data ∨
    (0 < eps ∧ ∃ k, ∀ v, some v ∈ data → v = k)

/-! ### the loops (no hypothesis on the buffer) -/

/-- nodata omitted: the result has `nr * nc` cells; cell `(r, c)` is the stored value of the generated `autocorr_1d` on the slice -/
theorem gen_autocorr_yxt_none_cells (isnan : α → Bool) (rsqrt : α → α) (eps : α) (store32 : α → α) (x : Array α)
    (nr nc nt : ℕ) :
    (Gen.NumKernels.autocorr_yxt_none isnan rsqrt eps store32 x nr nc nt).size = nr * nc ∧
    ∀ r c, r < nr → c < nc →
      (Gen.NumKernels.autocorr_yxt_none isnan rsqrt eps store32 x nr nc nt)[r * nc + c]?
        = some (store32 (autocorr_1d_none isnan rsqrt eps (npRow3 x (nat 0) nr nc nt r c))) := by
  let g : ℤ → ℤ → α := fun ri ci => store32 (autocorr_1d_none isnan rsqrt eps (npRow3 x (nat 0) nr nc nt ri ci))
  suffices h : CellInv nr nc (fun r c => g r c) (nr * nc)
      (Gen.NumKernels.autocorr_yxt_none isnan rsqrt eps store32 x nr nc nt) from
    ⟨h.sz, fun r c hr hc => h.final hr hc⟩
  generalize hres : Gen.NumKernels.autocorr_yxt_none isnan rsqrt eps store32 x nr nc nt = res
  apply Id.of_wp_run_eq hres
  mvcgen -trivial invariants
  -- `for rr`, state (data, z): the cells of the rows before `rr` are stored
  · ⇓⟨xs, s⟩ => ⌜CellInv nr nc (fun r c => g r c) (xs.prefix.length * nc) s.2⌝
  -- `for cc`, same state: the cells before `(rr, cc)` are stored
  · ⇓⟨xs, s⟩ => by
      py_name cur as rr
      exact ⌜CellInv nr nc (fun r c => g r c) (rr.toNat * nc + xs.prefix.length) s.2⌝
  -- one pass of `for cc`: `z[rr, cc] = autocorr_1d(…)`
  case vc1.step => exact CellInv.loop_step (g := g) (by assumption) (by assumption) (by assumption)
  -- entry and exit of `for cc` (one pass of `for rr`)
  case vc2.step.pre => exact CellInv.row_start (by assumption) (by assumption)
  case vc3.step.post.success => exact CellInv.row_end (by assumption) (by assumption)
  -- entry and exit of `for rr`
  case vc4.pre => exact CellInv.init' _ _ _ _
  case vc5.post.success => exact CellInv.last (by assumption)

/-- integer cells with a nodata value: the same, with the integer specialisation of `autocorr_1d`; `nodata` is forwarded -/
theorem gen_autocorr_yxt_nd_cells (rsqrt : α → α) (eps : α) (store32 : α → α) (x : Array Int) (nr nc nt : ℕ)
    (nodata : Int) :
    (Gen.NumKernels.autocorr_yxt_nd rsqrt eps store32 x nr nc nt nodata).size = nr * nc ∧
    ∀ r c, r < nr → c < nc →
      (Gen.NumKernels.autocorr_yxt_nd rsqrt eps store32 x nr nc nt nodata)[r * nc + c]?
        = some (store32 (autocorr_1d_nd rsqrt eps (npRow3 x (0 : Int) nr nc nt r c) nodata)) := by
  let g : ℤ → ℤ → α := fun ri ci => store32 (autocorr_1d_nd rsqrt eps (npRow3 x (0 : Int) nr nc nt ri ci) nodata)
  suffices h : CellInv nr nc (fun r c => g r c) (nr * nc)
      (Gen.NumKernels.autocorr_yxt_nd rsqrt eps store32 x nr nc nt nodata) from
    ⟨h.sz, fun r c hr hc => h.final hr hc⟩
  generalize hres : Gen.NumKernels.autocorr_yxt_nd rsqrt eps store32 x nr nc nt nodata = res
  apply Id.of_wp_run_eq hres
  mvcgen -trivial invariants
  -- `for rr`, state (data, z): the cells of the rows before `rr` are stored
  · ⇓⟨xs, s⟩ => ⌜CellInv nr nc (fun r c => g r c) (xs.prefix.length * nc) s.2⌝
  -- `for cc`, same state: the cells before `(rr, cc)` are stored
  · ⇓⟨xs, s⟩ => by
      py_name cur as rr
      exact ⌜CellInv nr nc (fun r c => g r c) (rr.toNat * nc + xs.prefix.length) s.2⌝
  -- one pass of `for cc`: `z[rr, cc] = autocorr_1d(…)`
  case vc1.step => exact CellInv.loop_step (g := g) (by assumption) (by assumption) (by assumption)
  -- entry and exit of `for cc` (one pass of `for rr`)
  case vc2.step.pre => exact CellInv.row_start (by assumption) (by assumption)
  case vc3.step.post.success => exact CellInv.row_end (by assumption) (by assumption)
  -- entry and exit of `for rr`
  case vc4.pre => exact CellInv.init' _ _ _ _
  case vc5.post.success => exact CellInv.last (by assumption)

/-! ### MAIN: every pixel holds the model autocorrelation of its series -/

/-- nodata omitted (float cells, NaN = missing): cell `(r, c)` of the result is the stored model autocorrelation of `x[r, c, :]`.
    Hypotheses: `len(x) = nr * nc * nt` (the shape fits the buffer; Numba does no bounds check, a shorter buffer is read beyond
    its end), `r * nc + c < nr * nc` (the cell exists; every pixel `r < nr`, `c < nc` of the cube satisfies it, and as Numba checks no bounds an index `c ≥ nc` is the pixel with the same number `r * nc + c`).  No hypothesis on `nt`: a series of length 0 or 1 gives `store32 0`. -/
theorem gen_autocorr_yxt_none_eq_model (isnan : α → Bool) (rsqrt : α → α) (eps : α) (store32 : α → α) (x : List α)
    (nr nc nt : ℕ) (hlen : x.length = nr * nc * nt) (r c : ℕ) (hpix : r * nc + c < nr * nc) :
    (Gen.NumKernels.autocorr_yxt_none isnan rsqrt eps store32 x.toArray nr nc nt)[r * nc + c]?
      = some (store32 (Hdc.autocorr1d rsqrt eps (optF isnan (rowSeries x nr nc nt r c)))) := by
  obtain ⟨hr, hc, e⟩ := pix_of_lt hpix
  have h := (gen_autocorr_yxt_none_cells isnan rsqrt eps store32 x.toArray nr nc nt).2 _ _ hr hc
  rw [e] at h
  rw [h, npRow3_eq_rowSeries x _ nr nc nt _ _ hlen hr hc, GenNumAC1d.gen_autocorr_1d_none_eq_model,
    rowSeries_alias x nr nc nt e]
  rfl

/-- integer cells with an integer nodata (`== nodata` = missing, valid cells cast to the carrier) -/
theorem gen_autocorr_yxt_nd_eq_model (rsqrt : α → α) (eps : α) (store32 : α → α) (x : List Int) (nr nc nt : ℕ)
    (nodata : Int) (hlen : x.length = nr * nc * nt) (r c : ℕ) (hpix : r * nc + c < nr * nc) :
    (Gen.NumKernels.autocorr_yxt_nd rsqrt eps store32 x.toArray nr nc nt nodata)[r * nc + c]?
      = some (store32 (Hdc.autocorr1d rsqrt eps (optI nodata (rowSeries x nr nc nt r c)))) := by
  obtain ⟨hr, hc, e⟩ := pix_of_lt hpix
  have h := (gen_autocorr_yxt_nd_cells rsqrt eps store32 x.toArray nr nc nt nodata).2 _ _ hr hc
  rw [e] at h
  rw [h, npRow3_eq_rowSeries x _ nr nc nt _ _ hlen hr hc, GenNumAC1d.gen_autocorr_1d_nd_eq_model,
    rowSeries_alias x nr nc nt e]
  rfl

/-- both specialisations, and the shape of the result -/
theorem gen_autocorr_yxt_eq_model (isnan : α → Bool) (rsqrt : α → α) (eps : α) (store32 : α → α) (xF : List α)
    (xI : List Int) (nodata : Int) (nr nc nt : ℕ) (r c : ℕ) (hpix : r * nc + c < nr * nc) :
    (xF.length = nr * nc * nt →
      (Gen.NumKernels.autocorr_yxt_none isnan rsqrt eps store32 xF.toArray nr nc nt).size = nr * nc ∧
      (Gen.NumKernels.autocorr_yxt_none isnan rsqrt eps store32 xF.toArray nr nc nt)[r * nc + c]?
        = some (store32 (Hdc.autocorr1d rsqrt eps (optF isnan (rowSeries xF nr nc nt r c))))) ∧
    (xI.length = nr * nc * nt →
      (Gen.NumKernels.autocorr_yxt_nd rsqrt eps store32 xI.toArray nr nc nt nodata).size = nr * nc ∧
      (Gen.NumKernels.autocorr_yxt_nd rsqrt eps store32 xI.toArray nr nc nt nodata)[r * nc + c]?
        = some (store32 (Hdc.autocorr1d rsqrt eps (optI nodata (rowSeries xI nr nc nt r c))))) :=
  ⟨fun h => ⟨(gen_autocorr_yxt_none_cells isnan rsqrt eps store32 xF.toArray nr nc nt).1,
      gen_autocorr_yxt_none_eq_model isnan rsqrt eps store32 xF nr nc nt h r c hpix⟩,
   fun h => ⟨(gen_autocorr_yxt_nd_cells rsqrt eps store32 xI.toArray nr nc nt nodata).1,
      gen_autocorr_yxt_nd_eq_model rsqrt eps store32 xI nr nc nt nodata h r c hpix⟩⟩

/-! ### C15 per pixel -/

/-- Range.  With `rsqrt` an inverse square root on the positives and a `store32` that keeps `[-1, 1]` (rounding to float32 is
    monotone and −1, 1 are float32 numbers) every pixel of both specialisations holds a value in `[-1, 1]`.
    Both are needed: with `rsqrt := fun _ => 100` the series `1 2 4` gives a value far above 1 (the model is then not a
    correlation, see Hdc/Props/C15.lean), with `store32 := fun _ => 2` every cell holds 2. -/
theorem gen_autocorr_yxt_range (isnan : α → Bool) (rsqrt : α → α) (hrs : C15.IsRsqrt rsqrt) (eps : α) (store32 : α → α)
    (hst : ∀ v, -1 ≤ v → v ≤ 1 → -1 ≤ store32 v ∧ store32 v ≤ 1)
    (xF : List α) (xI : List Int) (nodata : Int) (nr nc nt : ℕ) (r c : ℕ) (hpix : r * nc + c < nr * nc) :
    (xF.length = nr * nc * nt → ∃ v,
      (Gen.NumKernels.autocorr_yxt_none isnan rsqrt eps store32 xF.toArray nr nc nt)[r * nc + c]? = some v ∧
        -1 ≤ v ∧ v ≤ 1) ∧
    (xI.length = nr * nc * nt → ∃ v,
      (Gen.NumKernels.autocorr_yxt_nd rsqrt eps store32 xI.toArray nr nc nt nodata)[r * nc + c]? = some v ∧
        -1 ≤ v ∧ v ≤ 1) := by
  refine ⟨fun h => ⟨_, gen_autocorr_yxt_none_eq_model isnan rsqrt eps store32 xF nr nc nt h r c hpix, ?_⟩,
    fun h => ⟨_, gen_autocorr_yxt_nd_eq_model rsqrt eps store32 xI nr nc nt nodata h r c hpix, ?_⟩⟩
  · exact hst _ (C15.autocorr_range rsqrt hrs eps _).1 (C15.autocorr_range rsqrt hrs eps _).2
  · exact hst _ (C15.autocorr_range rsqrt hrs eps _).1 (C15.autocorr_range rsqrt hrs eps _).2

/-- Degenerate pixels hold `store32 0`: a series of at most one cell, no pair of consecutive valid cells, a (scaled) variance
    below `eps`, or (for `0 < eps`) all valid cells equal.  `data` is the optional series of the pixel in either encoding. -/
theorem gen_autocorr_yxt_degenerate (isnan : α → Bool) (rsqrt : α → α) (eps : α) (store32 : α → α)
    (xF : List α) (xI : List Int) (nodata : Int) (nr nc nt : ℕ) (r c : ℕ) (hpix : r * nc + c < nr * nc)
 :
    (xF.length = nr * nc * nt → ACDegenerate eps (optF isnan (rowSeries xF nr nc nt r c)) →
      (Gen.NumKernels.autocorr_yxt_none isnan rsqrt eps store32 xF.toArray nr nc nt)[r * nc + c]? = some (store32 0)) ∧
    (xI.length = nr * nc * nt → ACDegenerate eps (optI nodata (rowSeries xI nr nc nt r c)) →
      (Gen.NumKernels.autocorr_yxt_nd rsqrt eps store32 xI.toArray nr nc nt nodata)[r * nc + c]? = some (store32 0)) := by
  refine ⟨fun h hd => ?_, fun h hd => ?_⟩
  · rw [gen_autocorr_yxt_none_eq_model isnan rsqrt eps store32 xF nr nc nt h r c hpix, autocorr1d_degenerate rsqrt eps _ hd]
  · rw [gen_autocorr_yxt_nd_eq_model rsqrt eps store32 xI nr nc nt nodata h r c hpix, autocorr1d_degenerate rsqrt eps _ hd]

/-- Pixel locality: two cubes of the same shape with the same series at pixel `(r, c)` give the same value at `(r, c)`, whatever
    the other pixels hold (so changing the series of another pixel does not change this pixel's output). -/
theorem gen_autocorr_yxt_pixel_local (isnan : α → Bool) (rsqrt : α → α) (eps : α) (store32 : α → α)
    (xF xF' : List α) (xI xI' : List Int) (nodata : Int) (nr nc nt : ℕ) (r c : ℕ) (hpix : r * nc + c < nr * nc) :
    (xF.length = nr * nc * nt → xF'.length = nr * nc * nt →
      rowSeries xF nr nc nt r c = rowSeries xF' nr nc nt r c →
      (Gen.NumKernels.autocorr_yxt_none isnan rsqrt eps store32 xF.toArray nr nc nt)[r * nc + c]?
        = (Gen.NumKernels.autocorr_yxt_none isnan rsqrt eps store32 xF'.toArray nr nc nt)[r * nc + c]?) ∧
    (xI.length = nr * nc * nt → xI'.length = nr * nc * nt →
      rowSeries xI nr nc nt r c = rowSeries xI' nr nc nt r c →
      (Gen.NumKernels.autocorr_yxt_nd rsqrt eps store32 xI.toArray nr nc nt nodata)[r * nc + c]?
        = (Gen.NumKernels.autocorr_yxt_nd rsqrt eps store32 xI'.toArray nr nc nt nodata)[r * nc + c]?) := by
  refine ⟨fun h h' hs => ?_, fun h h' hs => ?_⟩
  · rw [gen_autocorr_yxt_none_eq_model isnan rsqrt eps store32 xF nr nc nt h r c hpix,
      gen_autocorr_yxt_none_eq_model isnan rsqrt eps store32 xF' nr nc nt h' r c hpix, hs]
  · rw [gen_autocorr_yxt_nd_eq_model rsqrt eps store32 xI nr nc nt nodata h r c hpix,
      gen_autocorr_yxt_nd_eq_model rsqrt eps store32 xI' nr nc nt nodata h' r c hpix, hs]

/-! ### Non-vacuity and necessity of the hypotheses: a `(2, 2, 4)` cube over ℚ, nodata = −1 (toy `rsqrt v = 1 / v`, `store32 = id`) -/

def acCubeY : List Int := [1, 2, -1, 4,  3, 1, 4, 1,  5, 5, 5, 5,  2, 7, 1, 8]

/-- pixel (0, 1), series `3 1 4 1` -/
example : (Gen.NumKernels.autocorr_yxt_nd (fun v : ℚ => 1 / v) (1 / 100000000) id acCubeY.toArray (2 : ℕ) (2 : ℕ) (4 : ℕ) (-1) : Array ℚ)[(0 * 2 + 1 : ℕ)]?
    = some (-5 / 252) := by
  have h := gen_autocorr_yxt_nd_eq_model (fun v : ℚ => 1 / v) (1 / 100000000) id acCubeY 2 2 4 (-1) (by decide) 0 1 (by decide)
  rw [show rowSeries acCubeY 2 2 4 0 1 = [3, 1, 4, 1] by decide] at h
  refine h.trans ?_
  decide +kernel

/-- pixel (0, 0), series `1 2 nodata 4` -/
example : (Gen.NumKernels.autocorr_yxt_nd (fun v : ℚ => 1 / v) (1 / 100000000) id acCubeY.toArray (2 : ℕ) (2 : ℕ) (4 : ℕ) (-1) : Array ℚ)[(0 * 2 + 0 : ℕ)]?
    = some (1 / 8) := by
  have h := gen_autocorr_yxt_nd_eq_model (fun v : ℚ => 1 / v) (1 / 100000000) id acCubeY 2 2 4 (-1) (by decide) 0 0 (by decide)
  rw [show rowSeries acCubeY 2 2 4 0 0 = [1, 2, -1, 4] by decide] at h
  refine h.trans ?_
  decide +kernel

/-- the float specialisation on the same cube (−1 plays NaN) -/
example : (Gen.NumKernels.autocorr_yxt_none (fun v : ℚ => decide (v = -1)) (fun v : ℚ => 1 / v) (1 / 100000000) id
      ([1, 2, -1, 4,  3, 1, 4, 1,  5, 5, 5, 5,  2, 7, 1, 8] : List ℚ).toArray (2 : ℕ) (2 : ℕ) (4 : ℕ) : Array ℚ)[(0 * 2 + 0 : ℕ)]? = some (1 / 8) := by
  have h := gen_autocorr_yxt_none_eq_model (fun v : ℚ => decide (v = -1)) (fun v : ℚ => 1 / v) (1 / 100000000) id
    [1, 2, -1, 4,  3, 1, 4, 1,  5, 5, 5, 5,  2, 7, 1, 8] 2 2 4 (by decide) 0 0 (by decide)
  rw [show rowSeries ([1, 2, -1, 4,  3, 1, 4, 1,  5, 5, 5, 5,  2, 7, 1, 8] : List ℚ) 2 2 4 0 0 = [1, 2, -1, 4] by decide +kernel] at h
  refine h.trans ?_
  decide +kernel

/-- pixel (1, 0), series `5 5 5 5`: degenerate (all cells equal), the cell holds `store32 0` -/
example : (Gen.NumKernels.autocorr_yxt_nd (fun v : ℚ => 1 / v) (1 / 100000000) id acCubeY.toArray (2 : ℕ) (2 : ℕ) (4 : ℕ) (-1) : Array ℚ)[(1 * 2 + 0 : ℕ)]?
    = some (id 0) := by
  refine (gen_autocorr_yxt_degenerate (fun _ : ℚ => false) (fun v : ℚ => 1 / v) (1 / 100000000) id [] acCubeY (-1) 2 2 4 1 0
    (by decide)).2 (by decide) (Or.inr (Or.inr (Or.inr ⟨by norm_num, 5, ?_⟩)))
  rw [show rowSeries acCubeY 2 2 4 1 0 = [5, 5, 5, 5] by decide]
  intro v hv
  simp [optI] at hv
  exact hv.symm ▸ rfl

/-- `hpix` is needed: beyond the last pixel there is no cell -/
example : (Gen.NumKernels.autocorr_yxt_nd (fun v : ℚ => 1 / v) (1 / 100000000) id acCubeY.toArray (2 : ℕ) (2 : ℕ) (4 : ℕ) (-1) : Array ℚ)[(2 * 2 + 0 : ℕ)]?
    = none :=
  Array.getElem?_eq_none (Nat.le_of_eq (gen_autocorr_yxt_nd_cells _ _ _ _ 2 2 4 _).1)

/-- `hlen` is needed: the shape `(1, 1, 3)` on the buffer `[1, 2]`: the program reads a third cell (0 in the translation,
    anything in Numba), the series of the cells that exist is `1 2` -/
example : (Gen.NumKernels.autocorr_yxt_nd (fun v : ℚ => 1 / v) (1 / 100000000) id [1, 2].toArray (1 : ℕ) (1 : ℕ) (3 : ℕ) (-1) : Array ℚ)[(0 * 1 + 0 : ℕ)]?
    ≠ some (id (Hdc.autocorr1d (fun v : ℚ => 1 / v) (1 / 100000000) (optI (-1) (rowSeries [1, 2] 1 1 3 0 0)))) := by
  have h := (gen_autocorr_yxt_nd_cells (fun v : ℚ => 1 / v) (1 / 100000000) id [1, 2].toArray 1 1 3 (-1)).2 0 0 (by decide) (by decide)
  rw [show PyNpX.npRow3 [1, 2].toArray (0 : Int) (1 : ℕ) (1 : ℕ) (3 : ℕ) (0 : ℕ) (0 : ℕ) = [1, 2, 0].toArray by decide,
    GenNumAC1d.gen_autocorr_1d_nd_eq_model] at h
  rw [show rowSeries ([1, 2] : List Int) 1 1 3 0 0 = [1, 2] by decide]
  intro h'
  rw [h] at h'
  revert h'
  decide +kernel

end Hdc.GenNumACYxt
