import Hdc.Lemmas.GenNum
import Hdc.Lemmas.GenNumGamma
import Hdc.Gen.NumBrentq
import Hdc.Props.C07
import Std.Tactic.Do
/-
GenNumBrent  The GENERATED translation of the floating-point loop kernel `brentq` (Hdc/Gen/NumBrentq.lean, an
imperative `Id.run do` program over an abstract carrier `α`, regenerated from the Python source on every
verification run) computes its hand model.

  gen_brentq_eq_model          brentq f xtol rtol xa xb s = Hdc.brentq f xtol rtol 100 xa xb
                               (bare operator classes, every `f`, every input)
  gen_brentq_returns_bracketed, gen_brentq_no_sign_change     C07 about the source

Method (as in C01gen / GenKernels): the verification-condition generator `mvcgen` (Std.Do) is run on
the generated program with one invariant for the loop (lemmas in Hdc/Lemmas/GenNumGamma.lean); the loop has early
`return`s and takes an `Invariant.withEarlyReturnNewDo`; the generated expressions are never copied into
this file; the position of `for … in range(a, b)` comes from `pyn_ranges`; verification conditions are
dispatched by shape (`first | … | …`), not by their tags.
-/
namespace Hdc.GenNum
open Hdc Hdc.Gen.NumKernels Std.Do

set_option mvcgen.warning false
set_option linter.unusedTactic false
set_option linter.unreachableTactic false

/-! ### brentq: Brent's root finder -/

section brent
variable {α : Type} [Add α] [Sub α] [Mul α] [Div α] [Neg α] [NatCast α] [LT α] [DecidableLT α]

/-- the model's state inside the state tuple of the translated loop
    `(delta, sbis, stry, dpre, dblk, xpre, xcur, xblk, fblk, spre, scur, fpre, fcur, iterations)` -/
def bstate (s : α × α × α × α × α × α × α × α × α × α × α × α × α × ℤ) : BState α :=
  ⟨s.2.2.2.2.2.1, s.2.2.2.2.2.2.1, s.2.2.2.2.2.2.2.1, s.2.2.2.2.2.2.2.2.2.2.2.1,
   s.2.2.2.2.2.2.2.2.2.2.2.2.1, s.2.2.2.2.2.2.2.2.1, s.2.2.2.2.2.2.2.2.2.1,
   s.2.2.2.2.2.2.2.2.2.2.1⟩

/-- The translated `brentq` equals the hand model with `maxiter = 100`, over the bare operator
    classes (both sides are the same expression trees; no field axiom is used), for every `f`.
    The last parameter `s` of the source is only passed on to `f` (`f(x, s)` in Python, closed over
    in the translation: the parameter `f` here is `fun x => f x s`), so the result does not depend on
    it.

    Invariant: the model's loop, continued from the current state with the remaining budget, returns
    the model's result (`BCont`); an early `return r` returns it. -/
theorem gen_brentq_eq_model (f : α → α) (xtol rtol xa xb s : α) :
    Gen.NumKernels.brentq f xtol rtol xa xb s = Hdc.brentq f xtol rtol 100 xa xb := by
  generalize hres : Gen.NumKernels.brentq f xtol rtol xa xb s = res
  apply Id.of_wp_run_eq hres
  mvcgen -trivial invariants
  · Invariant.withEarlyReturnNewDo
      (fun xs s => ⌜BCont f xtol rtol (Hdc.brentq f xtol rtol 100 xa xb) xs.prefix.length (bstate s)⌝)
      (fun r _ => ⌜r = Hdc.brentq f xtol rtol 100 xa xb⌝)
  all_goals first
    -- one pass of the loop body (one condition per path through the `if`s): the tests of the path give the value of the
    -- model's `brentStep` on the same state, stage by stage (Hdc/Lemmas/GenNumGamma.lean)
    | (pyn_ranges
       rename_i hinv
       py_name b as b
       rcases hinv with ⟨_, hC⟩ | ⟨_, _, hnil, _⟩
       · -- the tests of the path as equations `… = true`, `… = false`
         simp only [Bool.not_eq_true] at *
         have hb := brentBracket_of (s := bstate b.2) ‹_› rfl ‹_›
         -- the trial step and the new point exist only on the paths that go on, and the trial step only with interpolation
         have hs := brentStep_of (f := f) (xtol := xtol) (rtol := rtol) hb rfl rfl ‹_›
           (by first | exact brentChoose_of ‹_› (ite_bool ‹_›) ‹_› | exact brentChoose_of ‹_› rfl rfl | rfl)
           (by first | exact ite_decide ‹_› | rfl)
         first
           | exact Or.inr ⟨_, rfl, trivial, hC.ret (by omega) hs⟩
           | (simp only [List.length_append, List.length_singleton]
              exact Or.inl ⟨trivial, hC.step (by omega) hs⟩)
       · exact absurd hnil (List.cons_ne_nil _ _))
    -- the three `return`s before the loop, and the entry of the loop
    | (simp (config := {zetaDelta := true}) only [decide_eq_true_eq, bstate, BCont, List.length_nil] at *
       grind [Hdc.brentq])
    -- after the loop: an early `return` happened, or the budget is used up
    | (rename_i hx hinv
       rcases hinv with ⟨hn, hC⟩ | ⟨_, h2, _, h3⟩
       · first
           | exact hC.final (by simp only [pyRange_length]; omega)
           | (rw [hn] at hx; cases hx)
       · rw [h2] at hx
         cases hx <;> exact h3)
end brent

section brentC07
variable {α : Type} [Field α] [LinearOrder α] [IsStrictOrderedRing α]

/-- C07 (`brentq_returns_bracketed`) as a statement about the translated source: on a bracket with a
    sign change the returned value has a sign change of `f` next to it; and it is a root, or a sign
    change lies within `2·delta` of it, unless the 100 passes were not enough. -/
theorem gen_brentq_returns_bracketed (f : α → α) (xtol rtol xa xb s : α)
    (h : f xa * f xb ≤ 0) :
    (∃ y, f y * f (Gen.NumKernels.brentq f xtol rtol xa xb s) ≤ 0) ∧
    (C07.Converged f xtol rtol (Gen.NumKernels.brentq f xtol rtol xa xb s) ∨
      C07.RunsOut f xtol rtol 100 (C07.brentInit f xa xb)) := by
  rw [gen_brentq_eq_model]
  exact C07.brentq_returns_bracketed f xtol rtol 100 xa xb h

/-- no sign change on the bracket: the translated source returns 0 -/
theorem gen_brentq_no_sign_change (f : α → α) (xtol rtol xa xb s : α)
    (h : 0 < f xa * f xb) : Gen.NumKernels.brentq f xtol rtol xa xb s = 0 := by
  rw [gen_brentq_eq_model]
  exact C07.brentq_no_sign_change f xtol rtol 100 xa xb h

/-- non-vacuity: `x − 1` on `[0, 3]`; `x² + 2` has no sign change; `x² − 2` changes sign -/
example : Gen.NumKernels.brentq (fun x : ℚ => x - 1) (1/1000) (1/1000) 0 3 7 = 1 := by
  rw [gen_brentq_eq_model]; decide +kernel
example : Gen.NumKernels.brentq (fun x : ℚ => x * x + 2) (1/1000) (1/1000) 0 3 7 = 0 := by
  rw [gen_brentq_eq_model]; decide +kernel
example : ∃ y : ℚ, (fun x : ℚ => x * x - 2) y *
    (fun x : ℚ => x * x - 2) (Gen.NumKernels.brentq (fun x : ℚ => x * x - 2) (1/1000) (1/1000) 0 3 7) ≤ 0 :=
  (gen_brentq_returns_bracketed (fun x : ℚ => x * x - 2) (1/1000) (1/1000) 0 3 7 (by norm_num)).1

end brentC07

end Hdc.GenNum
