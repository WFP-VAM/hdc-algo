import Hdc.Lemmas.GenNumGamma
import Hdc.Gen.NumGammafit
import Hdc.Props.GenNumBrent
import Std.Tactic.Do
/-
GenNumGammafit  The GENERATED translation of `ops/stats.py::gammafit` (Hdc/Gen/NumGammafit.lean, written by
harness/py2lean_spi.py from the current Python source) computes the hand model `Hdc.gammafit`.

  gen_gammafit_eq_model     gammafit F digamma xtol rtol x = Hdc.gammafit (brentRoot F digamma xtol rtol) x
                            for EVERY input list, no hypothesis.  `brentRoot F …` is `F` with the root finder
                            `F.root xa xb s := Hdc.brentq (fun a => F.log a − digamma a − s) xtol rtol 100 xa xb`,
                            i.e. the model of the `brentq(xa, xb, s)` the source calls (the call of the translated
                            `brentq` is bridged by `gen_brentq_eq_model`).
  gen_gammafit_eq_model'    the same for any `F` whose `root` field is that function (hypothesis form)

Method: `mvcgen` on the generated program, one invariant for the accumulation loop (`FitInv`, Hdc/Lemmas/
GenNumGamma.lean: `xts`, `logs`, `n` are the left folds over the positive cells read so far); the four exits of the
source (`n == 0`, `s == 0`, `a == 0`, the fit) are matched with the model's `if`s by `gammafit_of_inv`.
The only field fact used: the cast of the integer counter `n` is the cast of the natural number of positive cells.
-/
namespace Hdc.GenNum
open Hdc Hdc.Gen.NumKernels Std.Do

set_option mvcgen.warning false
set_option linter.unusedSimpArgs false

section gammafit
variable {α : Type} [Field α] [LinearOrder α] [IsStrictOrderedRing α]

/-- The translated `gammafit` equals the hand model, the root finder of the model being Brent's method on
    `a ↦ log a − digamma a − s` with the source's tolerances and 100 passes.  No hypothesis: any list (empty,
    no positive cell, …), any `F`, `digamma`, `xtol`, `rtol`. -/
theorem gen_gammafit_eq_model (F : GamFns α) (digamma : α → α) (xtol rtol : α) (x : List α) :
    Gen.NumKernels.gammafit F digamma xtol rtol x.toArray
      = Hdc.gammafit (brentRoot F digamma xtol rtol) x := by
  generalize hres : Gen.NumKernels.gammafit F digamma xtol rtol x.toArray = res
  apply Id.of_wp_run_eq hres
  mvcgen -trivial invariants
  -- `for xx in x`, state `(n, xts, logs)`
  · ⇓⟨xs, s⟩ => ⌜FitInv F.log x xs.prefix.length s.2.1 s.2.2 s.1⌝
  all_goals
    pyn_ranges
    simp (config := {zetaDelta := true}) only [List.size_toArray, List.length_append,
      List.length_singleton, List.length_nil, pyRange_length, decide_eq_true_eq, gt_iff_lt,
      Int.toNat_natCast] at *
  all_goals first
    -- one pass: a positive cell / any other cell; entry
    | exact (‹FitInv _ _ _ _ _ _›).step_pos (by omega) ‹_ < _› (by omega)
    | exact (‹FitInv _ _ _ _ _ _›).step_neg (by omega) ‹¬ _ < _› (by omega)
    | exact FitInv.init F.log x
    -- the four exits after the loop
    | (rw [gammafit_of_inv (brentRoot F digamma xtol rtol) ‹FitInv _ _ _ _ _ _› (by omega)]
       simp only [brentRoot, gen_brentq_eq_model] at *
       simp only [*, if_true, if_false, ite_true, ite_false, Bool.false_eq_true])

/-- hypothesis form: any `F` whose root finder is Brent's method on `a ↦ log a − digamma a − s` -/
theorem gen_gammafit_eq_model' (F : GamFns α) (digamma : α → α) (xtol rtol : α) (x : List α)
    (hroot : F.root = fun xa xb s => Hdc.brentq (fun a => F.log a - digamma a - s) xtol rtol 100 xa xb) :
    Gen.NumKernels.gammafit F digamma xtol rtol x.toArray = Hdc.gammafit F x := by
  rw [gen_gammafit_eq_model]
  congr 1
  cases F
  simp only [brentRoot] at hroot ⊢
  rw [← hroot]

/-- a toy instance over ℚ: `log v = v²`, `sqrt = id`, 0.4 = 2/5, 0.9 = 9/10 (`root` is not used by the program) -/
def Gq : GamFns ℚ := ⟨fun v => v * v, fun v => v, fun _ _ _ => 0, fun _ v => v, fun v => v, 2 / 5, 9 / 10⟩

/-- a `digamma` for which `log a − digamma a − s` is `a + 1/8` at the `s = −2/3` of the series below -/
def dgq : ℚ → ℚ := fun a => a * a - (a + 1 / 8) + 2 / 3

/-- non-vacuity: three positive cells and a negative one; s = −2/3, bracket [−1/12, −7/36], root −1/8, β = 2/(−1/8) -/
example : Gen.NumKernels.gammafit Gq dgq (1 / 1000) (1 / 1000) [1, 2, -1, 3].toArray = (-1 / 8, -16) := by
  rw [gen_gammafit_eq_model]; decide +kernel
/-- no positive cell: not fittable -/
example : Gen.NumKernels.gammafit Gq dgq (1 / 1000) (1 / 1000) [0, -2, 0].toArray = (0, 0) := by
  rw [gen_gammafit_eq_model]; decide +kernel
/-- no sign change on the bracket (`digamma = 0`): `brentq` returns 0, not fittable -/
example : Gen.NumKernels.gammafit Gq (fun _ => 0) (1 / 1000) (1 / 1000) [1, 2, -1, 3].toArray = (0, 0) := by
  rw [gen_gammafit_eq_model]; decide +kernel
/-- `s == 0` (a single positive cell): not fittable -/
example : Gen.NumKernels.gammafit Gq dgq (1 / 1000) (1 / 1000) [5, -1].toArray = (0, 0) := by
  rw [gen_gammafit_eq_model]; decide +kernel

end gammafit
end Hdc.GenNum
