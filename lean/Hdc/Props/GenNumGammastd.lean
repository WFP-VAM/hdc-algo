import Hdc.Lemmas.GenNumGammastd
import Hdc.Gen.NumGammastd
import Hdc.Props.GenNumGammafit
import Std.Tactic.Do
/-
GenNumGammastd  The GENERATED translation of `ops/stats.py::gammastd` (Hdc/Gen/NumGammastd.lean, written by
harness/py2lean_spi.py from the current Python source) computes the hand model `Hdc.gammastd`.

  gen_gammastd_eq_model    (gammastd F digamma xtol rtol x nodata cs ce 0 0).toList
                             = (Hdc.gammastd (brentRoot F digamma xtol rtol) x nodata cs ce).map (·.getD nodata)
                           for EVERY series `x`, every `nodata`, every calibration window `cs ce : ℕ`
                           (the model separates "no value" (`none`) from the value; the source stores `nodata` there)
  gen_gammastd_eq_model_arr   the same as an equation between arrays

The window bounds are natural numbers because the model's are (`(x.drop cs).take (ce − cs)`); the translation of
`x[cal_start:cal_stop]` (`pySlice`) implements Python's wrap-around for negative bounds, which the model does not describe.
The overrides `a`, `b` of the source are at their defaults `0` (the only way the wrappers call `gammastd`; the model
has no overrides).  No other hypothesis.

Method: `mvcgen`, one invariant per loop (Hdc/Lemmas/GenNumGammastd.lean): `CntInv` (the two counters over the cells
that are not nodata), `FillInv` (cells `< ix` are the model's cells, the others still nodata; the two writes
`y[ix] = …; y[ix] = ndtri(y[ix])` are one model cell).  The source's chain of early returns is matched with the model's
`if`s by `gammastd_of_counts`; the call of the translated `gammafit` on the slice is bridged by `gen_gammafit_eq_model`
and `pySlice_nat`.  (The statements after `if (a == 0) and (b == 0): … else: …` are verified once per branch; the
`else` branch is unreachable for `a = b = 0`.)
-/
namespace Hdc.GenNum
open Hdc Hdc.Gen.NumKernels Std.Do

set_option mvcgen.warning false
set_option linter.unusedSimpArgs false

section gammastd
variable {α : Type} [Field α] [LinearOrder α] [IsStrictOrderedRing α]

/-- The translated `gammastd` (overrides `a = b = 0`) equals the hand model cell by cell, `none` read as `nodata`. -/
theorem gen_gammastd_eq_model (F : GamFns α) (digamma : α → α) (xtol rtol : α) (x : List α) (nodata : α)
    (cs ce : ℕ) :
    (Gen.NumKernels.gammastd F digamma xtol rtol x.toArray nodata (cs : ℤ) (ce : ℤ) (nat 0) (nat 0)).toList
      = (Hdc.gammastd (brentRoot F digamma xtol rtol) x nodata cs ce).map (fun o => o.getD nodata) := by
  generalize hres : Gen.NumKernels.gammastd F digamma xtol rtol x.toArray nodata (cs : ℤ) (ce : ℤ) (nat 0) (nat 0) = res
  apply Id.of_wp_run_eq hres
  mvcgen -trivial invariants
  -- counting loop, state `(n_zero, n_valid)`
  · ⇓⟨xs, s⟩ => ⌜CntInv x nodata xs.prefix.length s.1 s.2⌝
  -- output loop after `alpha, beta = gammafit(x[cal_start:cal_stop])`, state `y`
  · ⇓⟨xs, s⟩ => by
      py_name p_zero as p0; py_name alpha as al; py_name beta as be
      exact ⌜FillInv (brentRoot F digamma xtol rtol) nodata p0 al be x xs.prefix.length s⌝
  -- output loop after `alpha, beta = (a, b)`: not reached for `a = b = 0`
  · ⇓⟨xs, s⟩ => ⌜True⌝
  all_goals
    pyn_ranges
    simp (config := {zetaDelta := true}) only [List.size_toArray, List.length_append,
      List.length_singleton, List.length_nil, pyRange_length, decide_eq_true_eq, gt_iff_lt,
      Int.toNat_natCast, Bool.not_eq_true', decide_eq_false_iff_not, not_not, Bool.or_eq_true,
      Bool.and_eq_true, pySlice_nat, gen_gammafit_eq_model, eqv_self, and_self, not_true_eq_false] at *
  all_goals first
    | trivial
    | contradiction
    | (py_name cur as c
       refine CntInv.step (cur := c) ‹CntInv _ _ _ _ _› (by omega) (by omega) ?_ ?_ <;>
         (clear hrange; simp only [*, if_true, if_false, ite_true, ite_false, not_true_eq_false, not_false_eq_true, Bool.false_eq_true]))
    | exact CntInv.init x nodata
    | (py_name cur as c
       exact FillInv.step_skip (cur := c) ‹FillInv _ _ _ _ _ _ _ _› (by omega) (by omega) (Or.inl ‹_›))
    | (py_name cur as c
       exact FillInv.step_skip (cur := c) ‹FillInv _ _ _ _ _ _ _ _› (by omega) (by omega) (Or.inr ‹_›))
    | (py_name cur as c
       exact FillInv.step_valid (cur := c) ‹FillInv _ _ _ _ _ _ _ _› (by omega) (by omega) ‹¬ eqv _ _ = true› ‹¬ _ < _› rfl rfl)
    | exact FillInv.init _ nodata _ _ _ x _ rfl
    | (rw [toList_npFullLike, gammastd_of_counts _ x nodata cs ce ‹CntInv _ _ _ _ _› (by omega)]
       simp only [*, if_true, if_false, ite_true, ite_false, not_true_eq_false, not_false_eq_true,
         Bool.false_eq_true, List.size_toArray, brentRoot_c09, or_self, or_true, true_or])
    | (rw [(‹FillInv _ _ _ _ _ _ _ _›).final (by omega), gammastd_of_counts _ x nodata cs ce ‹CntInv _ _ _ _ _› (by omega)]
       simp only [*, if_true, if_false, ite_true, ite_false, not_true_eq_false, not_false_eq_true,
         Bool.false_eq_true, brentRoot_c09])

/-- the same as an equation between arrays -/
theorem gen_gammastd_eq_model_arr (F : GamFns α) (digamma : α → α) (xtol rtol : α) (x : List α) (nodata : α)
    (cs ce : ℕ) :
    Gen.NumKernels.gammastd F digamma xtol rtol x.toArray nodata (cs : ℤ) (ce : ℤ) (nat 0) (nat 0)
      = ((Hdc.gammastd (brentRoot F digamma xtol rtol) x nodata cs ce).map (fun o => o.getD nodata)).toArray := by
  apply Array.toList_inj.1
  rw [gen_gammastd_eq_model]

/-- non-vacuity (toy special functions `Gq`, `dgq` of GenNumGammafit: `gammainc a v = v`, `ndtri = id`): four valid
    cells, one of them zero (p0 = 1/4), a negative and a nodata cell; fit on the whole series: α = −1/8, β = −16 -/
example : (Gen.NumKernels.gammastd Gq dgq (1 / 1000) (1 / 1000) [1, 2, -1, 3, -9999, 0].toArray (-9999)
      ((0 : ℕ) : ℤ) ((6 : ℕ) : ℤ) (nat 0) (nat 0)).toList = [13 / 64, 5 / 32, -9999, 7 / 64, -9999, 1 / 4] := by
  rw [gen_gammastd_eq_model]; decide +kernel
/-- the window `[1:3)` holds the cells 2, −1: a single positive cell, `s == 0`, not fittable -/
example : (Gen.NumKernels.gammastd Gq dgq (1 / 1000) (1 / 1000) [1, 2, -1, 3, -9999, 0].toArray (-9999)
      ((1 : ℕ) : ℤ) ((3 : ℕ) : ℤ) (nat 0) (nat 0)).toList = [-9999, -9999, -9999, -9999, -9999, -9999] := by
  rw [gen_gammastd_eq_model]; decide +kernel
/-- more than 90 % zeros among the valid cells -/
example : (Gen.NumKernels.gammastd Gq dgq (1 / 1000) (1 / 1000) (List.replicate 10 (0 : ℚ) ++ [1]).toArray (-9999)
      ((0 : ℕ) : ℤ) ((11 : ℕ) : ℤ) (nat 0) (nat 0)).toList = List.replicate 11 (-9999) := by
  rw [gen_gammastd_eq_model]; decide +kernel
/-- no valid cell -/
example : (Gen.NumKernels.gammastd Gq dgq (1 / 1000) (1 / 1000) [-9999, -3].toArray (-9999)
      ((0 : ℕ) : ℤ) ((2 : ℕ) : ℤ) (nat 0) (nat 0)).toList = [-9999, -9999] := by
  rw [gen_gammastd_eq_model]; decide +kernel

end gammastd
end Hdc.GenNum
