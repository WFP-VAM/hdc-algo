import Hdc.Lemmas.GenNumGammastdGrp
import Hdc.Gen.NumGammastdGrp
import Hdc.Props.GenNumGammastd
import Std.Tactic.Do
/-
GenNumGammastdGrp  The GENERATED translation of `ops/stats.py::gammastd_grp` (Hdc/Gen/NumGammastdGrp.lean, written by
harness/py2lean_spi.py from the current Python source; the NumPy mask idioms go through the combinators of Hdc/PyNpS.lean)
computes the hand model `Hdc.gammastdGrp` followed by `spiCell` (scale by 1000, saturate to int16, round).

  gen_gammastd_grp_eq_model   (gammastd_grp … xx groups numGroups nodata cal_indices yy0).toList
        = mergeOut (grpCell rnd nodata) (Hdc.gammastdGrp (brentRoot F …) xx groups numGroups nodata cal) yy0
      i.e. cell i = yy0[i] where the model has `none` (label ≥ numGroups: never written), otherwise
      `spiCell rnd (−32768) 32767 1000 nodata c` for the model's cell `c`.
  gen_gammastd_grp_eq_model_ndtri   the same under the stronger, simpler hypothesis `∀ p, F.ndtri p ≠ nodata`

Hypotheses (the contract of the gufunc) and why each is needed:
  hg   len(groups) = len(xx)      `xx[groups == grp]` (NumPy: IndexError otherwise; the combinators truncate)
  hy   len(yy) = len(xx)          the output core dimension `(n)` of the gufunc signature
  hrnd round(nodata) = nodata     `np.round(res, 0, res)` also rounds the sentinel cells; the model's `spiCell none` is
                                  `nodata` itself (nodata is an integer in every caller: the output is int16)
  hnd  no value of the model equals the sentinel   the source recognises "no value" by `res != nodata`; a standardised value
                                  that happened to equal `nodata` would be left unscaled (the model scales it).
The labels are natural numbers (the model's are; `groups == grp` never matches a negative label for `grp ≥ 0`), the rows of
`cal_indices` are `[start, stop]` with natural entries; a missing row reads as `(0, 0)` on both sides.

Method: `mvcgen`, one invariant for the loop over the groups (`GrpInv`, Hdc/Lemmas/GenNumGammastdGrp.lean: the buffer
holds the model's output for the groups done so far); the call of the translated `gammastd` is bridged by
`gen_gammastd_eq_model_arr` (`gen_gammastd_group`); the three paths of the body (`continue` for an all-nodata group,
scaling, no valid cell in the result) are `GrpInv.step_fill` / `GrpInv.step_set` with `scaled_cells'` / `unscaled_cells`.
-/
namespace Hdc.GenNum
open Hdc Hdc.Gen.NumKernels Std.Do
open Hdc.Spi (grpResult)

set_option mvcgen.warning false
set_option linter.unusedSimpArgs false

section grp
variable {α : Type} [Field α] [LinearOrder α] [IsStrictOrderedRing α]

/-- the call `gammastd(xx[groups == grp], nodata, cal_indices[grp, 0], cal_indices[grp, 1])` of the translated
    `gammastd` computes the model's result for the group -/
theorem gen_gammastd_group (F : GamFns α) (digamma : α → α) (xtol rtol : α) (xx : List α) (groups : List ℕ)
    (nodata : α) (cal : List (ℕ × ℕ)) (p : ℕ) :
    Gen.NumKernels.gammastd F digamma xtol rtol (gatherGrp xx groups p).toArray nodata
        (rdI2 (calArr cal) (p : ℤ) 0) (rdI2 (calArr cal) (p : ℤ) 1) (nat 0) (nat 0)
      = ((grpResult (brentRoot F digamma xtol rtol) xx groups nodata cal p).map
          (fun o => o.getD nodata)).toArray := by
  rw [(rdI2_cal cal p).1, (rdI2_cal cal p).2, gen_gammastd_eq_model_arr]
  rfl

/-- The translated `gammastd_grp` writes, into the cells of the groups `0 … numGroups−1`, the model's grouped SPI
    scaled by 1000, saturated to the int16 range and rounded; the other cells keep their content. -/
theorem gen_gammastd_grp_eq_model (F : GamFns α) (digamma : α → α) (xtol rtol : α) (rnd : α → α)
    (xx : List α) (groups : List ℕ) (numGroups : ℕ) (nodata : α) (cal : List (ℕ × ℕ)) (yy0 : List α)
    (hg : groups.length = xx.length) (hy : yy0.length = xx.length)
    (hrnd : rnd nodata = nodata)
    (hnd : ∀ g < numGroups, some nodata ∉ grpResult (brentRoot F digamma xtol rtol) xx groups nodata cal g) :
    (Gen.NumKernels.gammastd_grp F digamma xtol rtol rnd xx.toArray (groupsArr groups) (numGroups : ℤ) nodata
        (calArr cal) yy0.toArray).toList
      = mergeOut (grpCell rnd nodata)
          (Hdc.gammastdGrp (brentRoot F digamma xtol rtol) xx groups numGroups nodata cal) yy0 := by
  generalize hres : Gen.NumKernels.gammastd_grp F digamma xtol rtol rnd xx.toArray (groupsArr groups)
    (numGroups : ℤ) nodata (calArr cal) yy0.toArray = res
  have hnd : ∀ g < numGroups, ∀ v,
      some v ∈ grpResult (brentRoot F digamma xtol rtol) xx groups nodata cal g → v ≠ nodata :=
    fun g hg v hv e => hnd g hg (e ▸ hv)
  apply Id.of_wp_run_eq hres
  mvcgen -trivial invariants
  -- `for grp in range(num_groups)`, state `(yy, grp_ix, cal_start, cal_stop, pix, res, valid_ix)`
  · ⇓⟨xs, s⟩ => ⌜GrpInv (brentRoot F digamma xtol rtol) rnd xx groups nodata cal yy0 xs.prefix.length s.1⌝
  all_goals
    pyn_ranges
    try obtain ⟨rfl, hlt⟩ := hrange
    simp (config := {zetaDelta := true}) only [List.size_toArray, List.length_append,
      List.length_singleton, List.length_nil, pyRange_length, decide_eq_true_eq, gt_iff_lt,
      Int.toNat_natCast, Bool.not_eq_true', decide_eq_false_iff_not, not_not, Int.zero_add, zero_add,
      groupsArr_mask, npGather_toArray, gen_gammastd_group, List.map_toArray, npMaskSet_toArray,
      npCount_toArray, filter_id_map_length, gatherL_groups, Int.natCast_eq_zero, Int.natCast_pos,
      Int.sub_zero] at *
  all_goals first
    | exact (‹GrpInv _ _ _ _ _ _ _ _ _›).step_fill hg hy ‹_›
    | exact (‹GrpInv _ _ _ _ _ _ _ _ _›).step_set hg hy _
        (scaled_cells' rnd nodata _ (hnd _ (by omega)) hrnd)
    | exact (‹GrpInv _ _ _ _ _ _ _ _ _›).step_set hg hy _
        (unscaled_cells rnd nodata _ (hnd _ (by omega)) (by omega))
    | exact GrpInv.init _ rnd xx groups nodata cal yy0 hy
    | exact ‹GrpInv _ _ _ _ _ _ _ _ _›

/-- the same under a hypothesis on the special function only: `ndtri` never returns the sentinel -/
theorem gen_gammastd_grp_eq_model_ndtri (F : GamFns α) (digamma : α → α) (xtol rtol : α) (rnd : α → α)
    (xx : List α) (groups : List ℕ) (numGroups : ℕ) (nodata : α) (cal : List (ℕ × ℕ)) (yy0 : List α)
    (hg : groups.length = xx.length) (hy : yy0.length = xx.length)
    (hrnd : rnd nodata = nodata) (hnd : ∀ p, F.ndtri p ≠ nodata) :
    (Gen.NumKernels.gammastd_grp F digamma xtol rtol rnd xx.toArray (groupsArr groups) (numGroups : ℤ) nodata
        (calArr cal) yy0.toArray).toList
      = mergeOut (grpCell rnd nodata)
          (Hdc.gammastdGrp (brentRoot F digamma xtol rtol) xx groups numGroups nodata cal) yy0 := by
  apply gen_gammastd_grp_eq_model F digamma xtol rtol rnd xx groups numGroups nodata cal yy0 hg hy hrnd
  intro g _ hmem
  obtain ⟨p, hp⟩ := gammastd_some_is_ndtri _ _ _ _ _ _ hmem
  exact hnd p hp.symm

/-- `np.round` on ℚ (half to even) -/
def rndq : ℚ → ℚ := fun v => (Py.roundHalfEvenRat v : ℚ)

/-- non-vacuity (toy special functions `Gq`, `dgq` of GenNumGammafit).  Group 0 is the series of the `gammastd` example
    (window [0, 6)): 13/64, 5/32, 7/64, 1/4 become 203, 156, 109, 250; group 1 is a single cell (not fittable: nodata);
    the label 2 is outside `range(num_groups)`: the cell keeps its content 77. -/
example :
    (Gen.NumKernels.gammastd_grp Gq dgq (1 / 1000) (1 / 1000) rndq [1, 2, 5, -1, 3, -9999, 0, 7].toArray
        (groupsArr [0, 0, 1, 0, 0, 0, 0, 2]) ((2 : ℕ) : ℤ) (-9999) (calArr [(0, 6), (0, 1)])
        [77, 77, 77, 77, 77, 77, 77, 77].toArray).toList
      = [203, 156, -9999, -9999, 109, -9999, 250, 77] := by
  refine (gen_gammastd_grp_eq_model (α := ℚ) _ _ _ _ _ _ _ _ _ _ _ ?_ ?_ ?_ ?_).trans ?_ <;> decide +kernel

/-- `Gq` with `ndtri v = −1000·v` -/
def Gq1000 : GamFns ℚ := { Gq with ndtri := fun v => -1000 * v }

/-- saturation: with `ndtri v = −1000·v` the indices −1000·(13/64)·1000, … leave the int16 range and are stored as −32768 -/
example :
    (Gen.NumKernels.gammastd_grp Gq1000 dgq (1 / 1000) (1 / 1000) rndq
        [1, 2, -1, 3, -9999, 0].toArray (groupsArr [0, 0, 0, 0, 0, 0]) ((1 : ℕ) : ℤ) (-9999) (calArr [(0, 6)])
        [0, 0, 0, 0, 0, 0].toArray).toList
      = [-32768, -32768, -9999, -32768, -9999, -32768] := by
  refine (gen_gammastd_grp_eq_model (α := ℚ) _ _ _ _ _ _ _ _ _ _ _ ?_ ?_ ?_ ?_).trans ?_ <;> decide +kernel

end grp
end Hdc.GenNum
