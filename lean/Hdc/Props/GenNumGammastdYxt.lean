import Hdc.Lemmas.GenNumGammastdYxt
import Hdc.Gen.NumGammastdYxt
import Hdc.Props.GenNumGammastd
import Std.Tactic.Do
/-
GenNumGammastdYxt  The GENERATED translation of `ops/stats.py::gammastd_yxt` (Hdc/Gen/NumGammastdYxt.lean, written by
harness/py2lean_spi.py from the current Python source) computes the model `Hdc.gammastdYxt` (Hdc/Model/StatsExt.lean:
per pixel `Hdc.gammastd`, then `Hdc.spiCell`; the hand model of Hdc/Model/Stats.lean has no function for this wrapper).

  gen_gammastd_yxt_eq_model   fromArr3 (gammastd_yxt … (toArr3 x) nodata cal_start cal_stop)
                                = Hdc.gammastdYxt (brentRoot F …) rnd (−32768) 32767 1000 x nodata cs ce

Hypotheses and why each is needed:
  hcube  `x` is a rectangular (rows, columns, time) cube: what a NumPy 3-d array is (the translation stores it as nested arrays)
  hrnd   round(nodata) = nodata    `np.round(s, 0, s)` also rounds the sentinel cells (as for `gammastd_grp`)
  hnd    no value of the model equals the sentinel (the source recognises "no value" by `s[ti] == nodata`, as for `gammastd_grp`)
The window bounds are `Option ℕ` (`None` = the defaults `0` / `t`).

Method: `mvcgen`, three invariants (Hdc/Lemmas/GenNumGammastdYxt.lean): `YInv` for the loops over rows and columns (the
pixels before `(ri, ci)` hold the model's series, the others are still nodata), `ScaleInv` for the loop over the time steps.
-/
namespace Hdc.GenNum
open Hdc Hdc.Gen.NumKernels Std.Do

set_option mvcgen.warning false
set_option linter.unusedSimpArgs false

section yxt
variable {α : Type} [Field α] [LinearOrder α] [IsStrictOrderedRing α]

/-- the call `gammastd(x[ri, ci, :], nodata, cal_start, cal_stop)` of the translated `gammastd` computes the model's
    series of the pixel -/
theorem gen_gammastd_pixel (F : GamFns α) (digamma : α → α) (xtol rtol : α) (x : List (List (List α)))
    (nodata : α) (cs ce : Option ℕ) (t p q : ℕ) :
    Gen.NumKernels.gammastd F digamma xtol rtol (xrow x p q).toArray nodata
        ((cs.map Int.ofNat).getD 0) ((ce.map Int.ofNat).getD (t : ℤ)) (nat 0) (nat 0)
      = ((pixModel (brentRoot F digamma xtol rtol) x nodata cs ce t p q).map (fun o => o.getD nodata)).toArray := by
  rw [optInt_getD_zero, optInt_getD_nat, gen_gammastd_eq_model_arr, pixModel]

/-- The translated `gammastd_yxt` equals the per-pixel model: every pixel's series standardised, scaled by 1000,
    saturated to the int16 range and rounded. -/
theorem gen_gammastd_yxt_eq_model (F : GamFns α) (digamma : α → α) (xtol rtol : α) (rnd : α → α)
    (x : List (List (List α))) (nodata : α) (cs ce : Option ℕ)
    (hcube : Cube x) (hrnd : rnd nodata = nodata)
    (hnd : ∀ i < x.length, ∀ j < (x.headD []).length, some nodata ∉
      pixModel (brentRoot F digamma xtol rtol) x nodata cs ce ((x.headD []).headD []).length i j) :
    fromArr3 (Gen.NumKernels.gammastd_yxt F digamma xtol rtol rnd (toArr3 x) nodata
        (cs.map Int.ofNat) (ce.map Int.ofNat))
      = Hdc.gammastdYxt (brentRoot F digamma xtol rtol) rnd (-(nat 32768)) (nat 32767) (nat 1000) x nodata cs ce := by
  generalize hres : Gen.NumKernels.gammastd_yxt F digamma xtol rtol rnd (toArr3 x) nodata
        (cs.map Int.ofNat) (ce.map Int.ofNat) = res
  have hrect : Rect x (x.headD []).length ((x.headD []).headD []).length := hcube
  have hnd' : ∀ i < x.length, ∀ j < (x.headD []).length, ∀ v,
      some v ∈ pixModel (brentRoot F digamma xtol rtol) x nodata cs ce
        ((x.headD []).headD []).length i j → v ≠ nodata := fun i hi j hj v hv e => hnd i hi j hj (e ▸ hv)
  -- the model's cells of pixel `(i, j)`; `subst_vars` puts them back in every verification condition
  obtain ⟨M, hM⟩ : ∃ M, M = fun i j => (pixModel (brentRoot F digamma xtol rtol) x nodata cs ce
    ((x.headD []).headD []).length i j).map (grpCell rnd nodata) := ⟨_, rfl⟩
  apply Id.of_wp_run_eq hres
  mvcgen -trivial invariants
  -- rows, state `(·, ·, y)`
  · ⇓⟨xs, s⟩ => ⌜YInv M nodata x.length (x.headD []).length ((x.headD []).headD []).length xs.prefix.length 0 s.2.2⌝
  -- columns
  · ⇓⟨xs, s⟩ => by
      py_name cur as ro
      exact ⌜YInv M nodata x.length (x.headD []).length ((x.headD []).headD []).length ro.toNat xs.prefix.length s.2.2⌝
  -- time steps, state `s`
  · ⇓⟨xs, s⟩ => by
      py_name cur as co; py_name cur as ro
      exact ⌜ScaleInv nodata ((pixModel (brentRoot F digamma xtol rtol) x nodata cs ce
        ((x.headD []).headD []).length ro.toNat co.toNat).map (fun o => o.getD nodata)) xs.prefix.length s⌝
  all_goals
    pyn_ranges
    try casesm* (_ : ℤ) = _ ∧ _
    subst_vars
    simp (config := {zetaDelta := true}) only [List.size_toArray, List.length_append,
      List.length_singleton, List.length_nil, pyRange_length, decide_eq_true_eq, gt_iff_lt,
      Int.toNat_natCast, Bool.not_eq_true', decide_eq_false_iff_not, not_not, Int.zero_add, zero_add,
      Int.sub_zero, (shape3_toArr3 x).1, (shape3_toArr3 x).2.1, (shape3_toArr3 x).2.2, rd3_nat, rowOf_toArr3,
      gen_gammastd_pixel, List.map_toArray, npCount_toArray, filter_id_map_length, Int.natCast_eq_zero,
      Int.natCast_pos, true_and] at *
  all_goals first
    -- a pixel without data: `y[ri, ci, :] = nodata; continue`
    | exact (‹YInv _ _ _ _ _ _ _ _›).step_fill (by omega) (by omega)
        (by rw [pix_all_nodata _ rnd x nodata cs ce _ _ _ ‹_›, xrow_length x _ _ hrect _ _ (by omega) (by omega)])
    -- time steps: a sentinel cell (`continue`) / a value (scaled, saturated)
    | exact (‹ScaleInv _ _ _ _›).step_skip
        (by rw [List.length_map, pixModel_length, xrow_length x _ _ hrect _ _ (by omega) (by omega)]; omega) rfl ‹_›
    | exact (‹ScaleInv _ _ _ _›).step_scale
        (by rw [List.length_map, pixModel_length, xrow_length x _ _ hrect _ _ (by omega) (by omega)]; omega) rfl ‹_›
    | exact ScaleInv.init _ _
    -- after the time steps: `np.round(s, 0, s); y[ri, ci, :] = s[:]`
    | exact (‹YInv _ _ _ _ _ _ _ _›).step_write (by omega) (by omega) _
        (by rw [Array.toList_map, (‹ScaleInv _ _ _ _›).final
              (by rw [List.length_map, pixModel_length, xrow_length x _ _ hrect _ _ (by omega) (by omega)]),
            scaled_cells_yxt rnd nodata _ (hnd' _ (by omega) _ (by omega)) hrnd])
    -- no value in the result: the pixel keeps its nodata row
    | exact (‹YInv _ _ _ _ _ _ _ _›).step_keep (by omega) (by omega)
        (by rw [all_nodata_cells rnd nodata _ (hnd' _ (by omega) _ (by omega)) (by omega), pixModel_length,
              xrow_length x _ _ hrect _ _ (by omega) (by omega)])
    -- end of a row of pixels / entry of the loops / the result
    | exact (‹YInv _ _ _ _ _ _ _ _›).next_plane (le_refl _)
    | exact YInv.init _ nodata x _ _ hrect
    | exact YInv.final ‹YInv _ _ _ _ _ _ _ _› hrect (le_refl _)
    | assumption

/-- non-vacuity (toy special functions `Gq`, `dgq` of GenNumGammafit, `np.round` on ℚ): a 2 × 2 cube of 6 steps.
    Pixel (0,0) is the series of the `gammastd` example (default window): 203, 156, 109, 250; pixel (0,1) has no
    data; pixel (1,0) has a single positive cell (not fittable); pixel (1,1) has more than 90 % zeros. -/
example :
    fromArr3 (Gen.NumKernels.gammastd_yxt Gq dgq (1 / 1000) (1 / 1000) (fun v => (Py.roundHalfEvenRat v : ℚ))
      (toArr3 [[[1, 2, -1, 3, -9999, 0], [-9999, -9999, -9999, -9999, -9999, -9999]],
               [[5, -1, -9999, -2, -3, -9999], [0, 0, 0, 0, 0, 0]]])
      (-9999) (Option.map Int.ofNat none) (Option.map Int.ofNat none))
    = [[[203, 156, -9999, 109, -9999, 250], [-9999, -9999, -9999, -9999, -9999, -9999]],
       [[-9999, -9999, -9999, -9999, -9999, -9999], [-9999, -9999, -9999, -9999, -9999, -9999]]] := by
  refine (gen_gammastd_yxt_eq_model (α := ℚ) _ _ _ _ _ _ _ _ _ ?_ ?_ ?_).trans ?_
  · exact ⟨by decide, by decide⟩
  · decide +kernel
  · decide +kernel
  · decide +kernel

end yxt
end Hdc.GenNum
