import Hdc.Lemmas.GenNumGu
import Std.Tactic.Do
/-
GenNumGu  The GENERATED translation of `hdc/algo/ops/ws2dgu.py::ws2dgu` (Hdc/Gen/NumWs2dgu.lean, written by
harness/py2lean_fixed.py from the current Python source: an `Id.run do` program over an abstract carrier, its
NumPy vector expressions composed from the combinators of Hdc/PyNpF.lean) computes the hand model `Hdc.gu`.

  gen_ws2dgu_eq_model     = (curve of `Hdc.gu`).map rnd  /  the input (pass-through), for all inputs
  gen_ws2dgu_some, gen_ws2dgu_none, gen_ws2dgu_size     corollaries

Method: `gen_ws2dgu_body` (Hdc/Lemmas/GenNumGu.lean; `mvcgen` splits the program into its three paths: λ = 0, fewer
than two valid cells, the fit) says which store is performed, with `w`, `n > 1` and the cleaned `y` in the model's
terms (`fitOrPass`, Hdc/Lemmas/GenNumFixed.lean, which has the three branches of `Hdc.gu`); the call of the
translated `ws2d` is the model's by `C01gen.gen_ws2d_eq_model`.  The generated expressions are never copied into this file.
-/
namespace Hdc.GenNum
open Hdc Hdc.Gen.NumKernels Std.Do Hdc.PyNpF

section gu
variable {α : Type} [Field α] [LinearOrder α] [IsStrictOrderedRing α]

/-- The translated `ws2dgu` equals the hand model `Hdc.gu` with the missing-cell test
    `x == nodata or isnan(x) or isinf(x)` (`isnan`, `isinf` arbitrary predicates: an ordered field has no
    NaN / ∞): the rounded smoothed curve if `λ ≠ 0` and at least two cells are valid, the input otherwise.

    Hypotheses.
    * `hout : out0.size = len(y)` - the gufunc layout `(n),(),() -> (n)`; `out[:] = …` and
      `np.round(z, 0, out)` write *into* `out` (the content of `out0` is irrelevant).
    * `h2 : len(y) ≠ 2` - `ws2d` is specified for `n ≥ 3` (C01gen); with `n ≤ 1` the kernel never calls
      it (fewer than two valid cells), so only `n = 2` is excluded: there source and model differ. -/
theorem gen_ws2dgu_eq_model (rnd : α → α) (isnan isinf : α → Bool) (y : List α) (lam nodata : α)
    (out0 : Array α) (hout : out0.size = y.length) (h2 : y.length ≠ 2) :
    Gen.NumKernels.ws2dgu rnd isnan isinf y.toArray lam nodata out0 =
      match Hdc.gu (fun x => eqv x nodata || isnan x || isinf x) y lam with
      | some z => (z.map rnd).toArray
      | none => y.toArray := by
  rw [gen_ws2dgu_body rnd isnan isinf y lam nodata out0 _ rfl]
  exact fitOrPass_eq hout _ fun _ hc =>
    round_gen_ws2d_list rnd _ _ out0 lam (by simp) (by simp [hout]) (by simp [three_le_of_count _ y hc h2])

/-- the model produces a curve: the output is its rounding -/
theorem gen_ws2dgu_some (rnd : α → α) (isnan isinf : α → Bool) (y : List α) (lam nodata : α)
    (out0 : Array α) (hout : out0.size = y.length) (h2 : y.length ≠ 2) (z : List α)
    (hm : Hdc.gu (fun x => eqv x nodata || isnan x || isinf x) y lam = some z) :
    Gen.NumKernels.ws2dgu rnd isnan isinf y.toArray lam nodata out0 = (z.map rnd).toArray := by
  rw [gen_ws2dgu_eq_model rnd isnan isinf y lam nodata out0 hout h2, hm]

/-- the model passes the input through (`λ = 0` or fewer than two valid cells); no restriction on `len(y)` -/
theorem gen_ws2dgu_none (rnd : α → α) (isnan isinf : α → Bool) (y : List α) (lam nodata : α)
    (out0 : Array α) (hout : out0.size = y.length)
    (hm : Hdc.gu (fun x => eqv x nodata || isnan x || isinf x) y lam = none) :
    Gen.NumKernels.ws2dgu rnd isnan isinf y.toArray lam nodata out0 = y.toArray := by
  rw [gen_ws2dgu_body rnd isnan isinf y lam nodata out0 _ rfl]
  exact fitOrPass_none hout _ hm

/-- the output keeps the length of the series -/
theorem gen_ws2dgu_size (rnd : α → α) (isnan isinf : α → Bool) (y : Array α) (lam nodata : α)
    (out0 : Array α) :
    (Gen.NumKernels.ws2dgu rnd isnan isinf y lam nodata out0).size = out0.size := by
  rw [← y.toArray_toList, gen_ws2dgu_body rnd isnan isinf _ lam nodata out0 _ rfl]
  exact size_fitOrPass ..

/-! ### non-vacuity on concrete rational inputs (`rnd` the identity, no NaN / ∞ in ℚ) -/

/-- five valid cells, λ = 2; the buffer starts with garbage -/
example :
    Gen.NumKernels.ws2dgu (fun v => v) (fun _ => false) (fun _ => false) [1, 2, 4, 3, 5].toArray
        (2 : ℚ) (-1) #[7, 7, 7, 7, 7]
      = #[827 / 737, 1580 / 737, 208 / 67, 2853 / 737, 3507 / 737] := by
  rw [gen_ws2dgu_some _ _ _ [1, 2, 4, 3, 5] _ _ _ (by rfl) (by decide)
    [827 / 737, 1580 / 737, 208 / 67, 2853 / 737, 3507 / 737] (by decide +kernel)]
  rfl

/-- one nodata cell (weight 0, its value kept out of the arithmetic) -/
example :
    Gen.NumKernels.ws2dgu (fun v => v) (fun _ => false) (fun _ => false) [1, -1, 4, 3, 5].toArray
        (2 : ℚ) (-1) #[7, 7, 7, 7, 7]
      = #[279 / 233, 519 / 233, 736 / 233, 907 / 233, 1107 / 233] := by
  rw [gen_ws2dgu_some _ _ _ [1, -1, 4, 3, 5] _ _ _ (by rfl) (by decide)
    [279 / 233, 519 / 233, 736 / 233, 907 / 233, 1107 / 233] (by decide +kernel)]
  rfl

/-- a cell flagged by `isnan` is missing as well (here: the predicate `x = 4`) -/
example :
    Gen.NumKernels.ws2dgu (fun v => v) (fun x => decide (x = 4)) (fun _ => false)
        [1, 2, 4, 3, 5].toArray (2 : ℚ) (-1) #[7, 7, 7, 7, 7]
      = Gen.NumKernels.ws2dgu (fun v => v) (fun _ => false) (fun _ => false)
        [1, 2, -1, 3, 5].toArray (2 : ℚ) (-1) #[0, 0, 0, 0, 0] := by
  rw [gen_ws2dgu_eq_model _ _ _ [1, 2, 4, 3, 5] _ _ _ (by rfl) (by decide),
    gen_ws2dgu_eq_model _ _ _ [1, 2, -1, 3, 5] _ _ _ (by rfl) (by decide)]
  decide +kernel

/-- a single valid cell: pass-through -/
example :
    Gen.NumKernels.ws2dgu (fun v => v) (fun _ => false) (fun _ => false) [1, -1, -1, -1].toArray
        (2 : ℚ) (-1) #[7, 7, 7, 7] = #[1, -1, -1, -1] := by
  rw [gen_ws2dgu_none _ _ _ [1, -1, -1, -1] _ _ _ (by rfl) (by decide +kernel)]

/-- λ = 0: pass-through, also on two cells -/
example :
    Gen.NumKernels.ws2dgu (fun v => v) (fun _ => false) (fun _ => false) [1, 2].toArray
        (0 : ℚ) (-1) #[7, 7] = #[1, 2] := by
  rw [gen_ws2dgu_none _ _ _ [1, 2] _ _ _ (by rfl) (by decide +kernel)]

/-! ### the two hypotheses are needed -/

/-- `len(y) = 2`, both cells valid: the source (`ws2d` reads wrapped-around cells) and the model differ -/
example :
    Gen.NumKernels.ws2dgu (fun v => v) (fun _ => false) (fun _ => false) [1, 2].toArray (2 : ℚ)
        (-1) #[7, 7] = #[11 / 7, 38 / 21]
    ∧ Hdc.gu (fun x => eqv x (-1) || false || false) [1, 2] (2 : ℚ) = some [-11 / 7, -10 / 7] := by
  decide +kernel

/-- a buffer of another length than the series: `out[:] = y[:]` cannot be performed (NumPy raises; the
    translation keeps the buffer) -/
example :
    Gen.NumKernels.ws2dgu (fun v => v) (fun _ => false) (fun _ => false) [1, 2, 4, 3, 5].toArray
        (0 : ℚ) (-1) #[7, 7, 7] = #[7, 7, 7] := by
  decide +kernel

end gu

end Hdc.GenNum
