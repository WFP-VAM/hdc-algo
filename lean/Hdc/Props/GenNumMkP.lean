import Hdc.Gen.NumMkP
import Std.Tactic.Do
/-
GenNumMkP  The GENERATED translation of `ops/stats.py::mk_p_value` (Hdc/Gen/NumMkP.lean, harness/py2lean_stats.py) is the
hand model `Hdc.mkP`.  Externals, the same fields of `F : MKFns α` on both sides: `erf` -> `F.erf`, `sqrt` -> `F.sqrt`,
the literal `0.5` -> `F.half`, and `sc.ndtri(1 - alpha / 2)` with the default `alpha = 0.05`, a compile-time constant of
the source, -> `F.zcrit` (the translator evaluates the argument to 0.975 and looks `ndtri(0.975)` up in the kernel's table
of named constants).  `h = int(<comparison>)` stays a `Bool`.
-/
namespace Hdc.GenNumMk
open Hdc Hdc.Gen.NumKernels Std.Do

set_option mvcgen.warning false
set_option linter.unusedSectionVars false

section
variable {α : Type} [Add α] [Sub α] [Mul α] [Div α] [Neg α] [NatCast α] [LT α] [DecidableLT α]

/-- The translated `mk_p_value` equals the model: every `F`, every `z`; bare operator classes.  No hypothesis. -/
theorem gen_mk_p_value_eq_model (F : MKFns α) (z : α) :
    Gen.NumKernels.mk_p_value F z = Hdc.mkP F z := by
  generalize hres : Gen.NumKernels.mk_p_value F z = res
  apply Id.of_wp_run_eq hres
  mvcgen -trivial
  all_goals rfl

end

/-! ### Non-vacuity (Rat, `erf` and `sqrt` replaced by the identity, critical value 2) -/

example : Gen.NumKernels.mk_p_value (⟨id, id, 1 / 2, 2, fun i => (i : Rat)⟩ : MKFns Rat) 3 = (-1 / 2, true) := by
  rw [gen_mk_p_value_eq_model]; decide +kernel
example : Gen.NumKernels.mk_p_value (⟨id, id, 1 / 2, 2, fun i => (i : Rat)⟩ : MKFns Rat) (-1) = (1 / 2, false) := by
  rw [gen_mk_p_value_eq_model]; decide +kernel

end Hdc.GenNumMk
