import Hdc.Lemmas.GenNumMkScore
import Hdc.Gen.NumMkScore
import Std.Tactic.Do
/-
GenNumMkScore  The GENERATED translation of the WHOLE `ops/stats.py::mk_score` over the floating carrier
(Hdc/Gen/NumMkScore.lean, harness/py2lean_stats.py) returns the model's score `Hdc.mkS` and Kendall's tau `Hdc.mkTau`.
(The integer translation `Gen.Kernels.mk_score_counts`, GenKMk, is cut before `tau` and works on `Array Int`;
`mann_kendall_trend_1d` calls this one.)  The literal `0.5` is `F.half`; the conversion of the integers `s`, `n`, `n - 1`
to the floating type is `F.ofInt` in the generated program, while the model converts `s` with `F.ofInt` and the lengths
with the canonical cast `nat`: the theorem assumes `hof`, `F.ofInt` agrees with the canonical cast on the naturals.
-/
namespace Hdc.GenNumMk
open Hdc Hdc.Gen.NumKernels Hdc.PyNpT Hdc.GenNum Std.Do
open Hdc.Ws2d (fnl)

set_option mvcgen.warning false
set_option linter.unusedSimpArgs false
set_option linter.unusedTactic false
set_option linter.unreachableTactic false

variable {α : Type} [Field α] [LinearOrder α]

/-- The translated `mk_score` returns `(S, tau)` of the model, for any series (including the empty and the one-element
    one, where the source divides by 0 and so does the model: `x / 0 = 0` in a field).
    Hypothesis `hof`: on the naturals the int -> float conversion `F.ofInt` is the canonical cast (needed for `tau` only:
    the model writes the lengths `n`, `n - 1` with `nat`, the source converts them like `s`). -/
theorem gen_mk_score_eq_model (F : MKFns α) (hof : ∀ k : ℕ, F.ofInt (k : ℤ) = (k : α)) (x : List α) :
    Gen.NumKernels.mk_score F x.toArray = (Hdc.mkS x, Hdc.mkTau F.half x F.ofInt) := by
  generalize hres : Gen.NumKernels.mk_score F x.toArray = res
  apply Id.of_wp_run_eq hres
  mvcgen -trivial invariants
  -- outer loop, after `p` rows: everything the rows `< p` contribute
  · ⇓⟨xs, s⟩ => ⌜s = ((preA x xs.prefix.length : Int), (preB x xs.prefix.length : Int))⌝
  -- inner loop in row `k`, after `q` partners
  · ⇓⟨xs, s⟩ => by
      py_name cur as k
      exact ⌜s = ((preA x k.toNat + above x k.toNat xs.prefix.length : Int),
        (preB x k.toNat + below x k.toNat xs.prefix.length : Int))⌝
  all_goals first
    -- one iteration of the inner loop (one condition per combination of the two `if`s)
    | (rename_i h1 h2 hb
       obtain ⟨ha, hbl⟩ := above_below_range (x := x) ‹pyRange 0 _ = _› ‹pyRange (_ + 1) _ = _›
         (fun h => (rd_nonneg _ _ h).trans (av_toArray x _)) (fun h => (rd_nonneg _ _ h).trans (av_toArray x _))
       simp only [decide_eq_true_eq] at h1 h2
       subst hb
       simp (config := {zetaDelta := true}) only [ha, hbl, h1, h2, if_true, if_false, Int.add_zero, Int.add_assoc])
    -- entry of the inner loop; exit of the inner loop: one more row counted
    | (py_name cur as k; py_name pref as pref
       rename_i h
       obtain ⟨hc, -⟩ := pyRange_split _ _ _ _ _ ‹pyRange 0 _ = pref ++ k :: _›
       have hk : k.toNat = pref.length := by omega
       have hq : ((x.toArray.size : ℤ) - (k + 1)).toNat = x.length - (pref.length + 1) := by
         rw [List.size_toArray]
         omega
       subst h
       simp (config := {zetaDelta := true}) only [hk, hq, pyRange_length, List.length_append, List.length_singleton,
         List.length_nil, preA, preB, above_zero, below_zero, Nat.cast_zero, Int.add_zero, Nat.cast_add])
    -- exit of the outer loop (it stops one row early: the last row has no partner), `s` and `tau`
    | (rename_i h
       have hq : ((x.length : ℤ) - 1 - 0).toNat = x.length - 1 := by omega
       have hs : ((preA x (x.length - 1) : ℤ) - (preB x (x.length - 1) : ℤ)) = mkS x := by
         rw [mkS, mkCounts_eq_pre x]
       subst h
       simp (config := {zetaDelta := true}) only [pyRange_length, hq, hs, List.size_toArray, tau_eq F hof])
    -- entry of the outer loop (`_s1 = _s2 = 0`)
    | rfl

/-! ### Non-vacuity: concrete rational inputs -/

/-- 4 concordant, 1 discordant pair, one tie: S = 3, tau = 3 / (0.5 · 4 · 3) -/
example : Gen.NumKernels.mk_score (⟨id, id, 1 / 2, 2, fun i => (i : ℚ)⟩ : MKFns ℚ) [1, 3, 2, 3].toArray
    = (3, 1 / 2) := by
  rw [gen_mk_score_eq_model _ (fun _ => Int.cast_natCast _)]; decide +kernel

example : Gen.NumKernels.mk_score (⟨id, id, 1 / 2, 2, fun i => (i : ℚ)⟩ : MKFns ℚ) ([] : List ℚ).toArray
    = (0, 0) := by
  rw [gen_mk_score_eq_model _ (fun _ => Int.cast_natCast _)]; decide +kernel

end Hdc.GenNumMk
