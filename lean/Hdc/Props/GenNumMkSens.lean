import Hdc.Lemmas.GenNumMkSens
import Hdc.Gen.NumMkSens
import Std.Tactic.Do
/-
GenNumMkSens  The GENERATED translation of `ops/stats.py::mk_sens_slope` (Hdc/Gen/NumMkSens.lean, harness/py2lean_stats.py)
returns the model's Theil-Sen slope `Hdc.sensSlope` (median of `Hdc.slopesFrom`, all pairwise slopes in the source's
order) and the intercept `median(x) - (n - 1) / 2 * slope`.

EXTERNAL: `np.nanmedian` is mapped to `PyNpT.npMedian` = the model's own `Hdc.median` (median by sorting; the carrier has no
NaN, so `nanmedian` = `median`): the refinement is modulo this identification.  What is translated and proved is the
filling of the slope buffer `d`: `nd = int(n * (n - 1) / 2)` (-> `Int.tdiv`), `d = np.ones(nd)`, the double loop with the
running index `ix`, the divided differences `(x[j] - x[i]) / (j - i)`.
-/
namespace Hdc.GenNumMk
open Hdc Hdc.Gen.NumKernels Hdc.PyNpT Hdc.GenNum Std.Do
open Hdc.Ws2d (fnl)

set_option mvcgen.warning false
set_option linter.unusedSimpArgs false

variable {α : Type} [Field α] [LinearOrder α] [IsStrictOrderedRing α]

/-- The translated `mk_sens_slope` equals the model, for every series over a linearly ordered field (for the empty series
    both medians are the default 0).  No hypothesis.  The intercept has no separate model function: it is stated through
    `Hdc.median` and `Hdc.sensSlope`. -/
theorem gen_mk_sens_slope_eq_model (x : List α) :
    Gen.NumKernels.mk_sens_slope x.toArray
      = (Hdc.sensSlope x, Hdc.median x - (((x.length : ℤ) - 1 : ℤ) : α) / nat 2 * Hdc.sensSlope x) := by
  generalize hres : Gen.NumKernels.mk_sens_slope x.toArray = res
  apply Id.of_wp_run_eq hres
  mvcgen -trivial invariants
  · ⇓⟨xs, s⟩ => ⌜SInv x (slopesFrom 0 (x.drop xs.prefix.length)) s.2 s.1⌝
  · ⇓⟨xs, s⟩ => by
      py_name cur as i
      exact ⌜SInv x ((rowOf x i.toNat).drop xs.prefix.length ++ slopesFrom 0 (x.drop (i.toNat + 1))) s.2 s.1⌝
  all_goals
    pyn_ranges
    simp (config := {zetaDelta := true}) only [List.size_toArray, List.length_append,
      List.length_singleton, List.length_nil, pyRange_length,
      Int.sub_zero, Int.zero_add, Int.toNat_natCast] at *
    py_subst_ranges
    try simp only [Int.toNat_natCast] at *
  all_goals first
    -- `d[ix] = (x[j] - x[i]) / (j - i); ix += 1`
    | exact (‹SInv _ _ _ _›).step (by omega) rfl (by omega) (by push_cast; ring)
    -- entry / exit of the inner loop
    | exact (‹SInv _ _ _ _›).enter (by omega)
    | exact (‹SInv _ _ _ _›).exit (by omega)
    -- `d = np.ones(nd)`
    | exact SInv.init x
    -- the two medians
    | (have hd := (‹SInv _ _ _ _›).final (by omega)
       simp only [npMedian, hd, sensSlope])

/-- the slope alone -/
theorem gen_mk_sens_slope_fst (x : List α) :
    (Gen.NumKernels.mk_sens_slope x.toArray).1 = Hdc.sensSlope x := by
  rw [gen_mk_sens_slope_eq_model]

/-! ### Non-vacuity: slopes 2, 1/2, 5/3, −1, 3/2, 4; median (3/2 + 5/3) / 2; intercept 5/2 − 3/2 · 19/12 -/

example : Gen.NumKernels.mk_sens_slope ([1, 3, 2, 6] : List ℚ).toArray = (19 / 12, 1 / 8) := by
  rw [gen_mk_sens_slope_eq_model]
  have h : slopesFrom 0 ([1, 3, 2, 6] : List ℚ) = [2, 1 / 2, 5 / 3, -1, 3 / 2, 4] := by
    norm_num [slopesFrom, List.zipIdx, nat]
  have hs : sensSlope ([1, 3, 2, 6] : List ℚ) = 19 / 12 := by
    unfold sensSlope
    rw [h, Stats.median_of_sorted _ [-1, 1 / 2, 3 / 2, 5 / 3, 2, 4] (by decide +kernel) (by decide +kernel)]
    norm_num
  have hm : median ([1, 3, 2, 6] : List ℚ) = 5 / 2 := by
    rw [Stats.median_of_sorted _ [1, 2, 3, 6] (by decide +kernel) (by decide +kernel)]
    norm_num
  rw [hs, hm]
  norm_num [nat]

end Hdc.GenNumMk
