import Hdc.Props.GenNumMkScore
import Hdc.Props.GenNumMkVar
import Hdc.Props.GenNumMkZ
import Hdc.Props.GenNumMkP
import Hdc.Props.GenNumMkSens
import Hdc.Gen.NumMkTrend
import Std.Tactic.Do
/-
GenNumMkTrend  The GENERATED translation of `ops/stats.py::mann_kendall_trend_1d` (Hdc/Gen/NumMkTrend.lean,
harness/py2lean_stats.py) is the hand model `Hdc.mkTrend`: (tau, p, slope, trend).

The generated program CALLS the generated `mk_score`, `mk_variance_s`, `mk_z_score`, `mk_p_value`, `mk_sens_slope`; the
proof rewrites each call with that kernel's refinement theorem (GenNumMkScore, GenNumMkVar, GenNumMkZ, GenNumMkP,
GenNumMkSens), so it holds modulo the same externals: `np.unique` = `Py.unique`, `np.nanmedian` = `median`,
`sqrt`/`erf`/`0.5`/`ndtri(0.975)`/int->float = the fields of `F : MKFns α`.
-/
namespace Hdc.GenNumMk
open Hdc Hdc.Gen.NumKernels Hdc.PyNpT Hdc.GenNum Std.Do

set_option mvcgen.warning false

variable {α : Type} [Field α] [LinearOrder α] [IsStrictOrderedRing α]

/-- The translated `mann_kendall_trend_1d` equals the model for every series, every `F` whose int -> float conversion
    is the canonical cast on the naturals (`hof`, inherited from `gen_mk_score_eq_model`: the model writes the lengths in `tau` with `nat`). -/
theorem gen_mann_kendall_trend_1d_eq_model (F : MKFns α) (hof : ∀ k : ℕ, F.ofInt (k : ℤ) = (k : α))
    (x : List α) :
    Gen.NumKernels.mann_kendall_trend_1d F x.toArray = Hdc.mkTrend F x := by
  generalize hres : Gen.NumKernels.mann_kendall_trend_1d F x.toArray = res
  apply Id.of_wp_run_eq hres
  mvcgen -trivial
  all_goals
    simp (config := {zetaDelta := true}) only [gen_mk_score_eq_model F hof, gen_mk_variance_s_eq_model,
      gen_mk_z_score_eq_model, gen_mk_p_value_eq_model, gen_mk_sens_slope_eq_model,
      decide_eq_true_eq, Bool.not_eq_true'] at *
  all_goals
    try simp only [Bool.not_eq_false] at *
    clear hof
    simp only [mkTrend, *, Bool.not_true, Bool.not_false, Bool.false_eq_true, if_true, if_false]

/-! ### Non-vacuity (ℚ; `sqrt`, `erf` replaced by the identity, critical value 1/10): tau, p and the three trend
indicators (the slope component is the median of GenNumMkSens, whose sort the kernel does not unfold) -/

example : (fun r : ℚ × ℚ × ℚ × ℤ => (r.1, r.2.1, r.2.2.2))
      (Gen.NumKernels.mann_kendall_trend_1d (⟨id, id, 1 / 2, 1 / 10, fun i => (i : ℚ)⟩ : MKFns ℚ) [1, 3, 2, 6].toArray)
    = (2 / 3, 43 / 52, 1) := by
  rw [gen_mann_kendall_trend_1d_eq_model _ (fun _ => Int.cast_natCast _)]; decide +kernel

example : (fun r : ℚ × ℚ × ℚ × ℤ => (r.1, r.2.1, r.2.2.2))
      (Gen.NumKernels.mann_kendall_trend_1d (⟨id, id, 1 / 2, 1 / 10, fun i => (i : ℚ)⟩ : MKFns ℚ)
        [9, 7, 7, 4, 3, 1].toArray)
    = (-14 / 15, 125 / 164, -1) := by
  rw [gen_mann_kendall_trend_1d_eq_model _ (fun _ => Int.cast_natCast _)]; decide +kernel

example : (fun r : ℚ × ℚ × ℚ × ℤ => (r.1, r.2.1, r.2.2.2))
      (Gen.NumKernels.mann_kendall_trend_1d (⟨id, id, 1 / 2, 1 / 10, fun i => (i : ℚ)⟩ : MKFns ℚ) [2, 2, 2].toArray)
    = (0, 1, 0) := by
  rw [gen_mann_kendall_trend_1d_eq_model _ (fun _ => Int.cast_natCast _)]; decide +kernel

end Hdc.GenNumMk
