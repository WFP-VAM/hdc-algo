import Hdc.Lemmas.GenNumMkVar
import Hdc.Gen.NumMkVariance
import Std.Tactic.Do
/-
GenNumMkVar  The GENERATED translation of `ops/stats.py::mk_variance_s` (Hdc/Gen/NumMkVariance.lean,
harness/py2lean_stats.py) returns `F.ofInt (mkVar18 x) / 18`, the model's integer `18 · Var(S)` (`Hdc.mkVar18`, via
`Hdc.tieSizes`) converted and divided as `Hdc.mkTrend` does.

EXTERNAL: `np.unique(x)` is mapped to `PyNpT.npUnique` = the model's own `Hdc.Py.unique` (sorted distinct values by insertion):
the refinement is modulo this identification.  The tie counting (two nested loops with `==` on the data) and both
`return`s are translated and proved.  The int -> float conversion of the numerator is `F.ofInt` on both sides.
-/
namespace Hdc.GenNumMk
open Hdc Hdc.Gen.NumKernels Hdc.PyNpT Hdc.GenNum Std.Do
open Hdc.Ws2d (fnl)

set_option mvcgen.warning false
set_option linter.unusedSimpArgs false
set_option linter.unusedTactic false

variable {α : Type} [Field α] [LinearOrder α]

/-- The translated `mk_variance_s` equals the model, for every series (also the empty one) and every `F`.
    No hypothesis.  (`[Field α] [LinearOrder α]` only: the lemmas about the cells read them with default 0.) -/
theorem gen_mk_variance_s_eq_model (F : MKFns α) (x : List α) :
    Gen.NumKernels.mk_variance_s F x.toArray = F.ofInt (Hdc.mkVar18 x) / nat 18 := by
  rw [mkVar18_eq]
  generalize hres : Gen.NumKernels.mk_variance_s F x.toArray = res
  apply Id.of_wp_run_eq hres
  mvcgen -trivial invariants
  -- `for i` over the distinct values, state (_tp, tp): the tie terms of the values before `xu[i]`
  · ⇓⟨xs, s⟩ => ⌜s.2 = tpSum x xs.prefix.length⌝
  -- `for ii`, state _tp: the number of the first `ii` cells equal to `xu[i]`
  · ⇓⟨xs, s⟩ => by
      py_name cur as i
      exact ⌜s = (cntEq (fnl (Hdc.Py.unique x) i.toNat) (x.take xs.prefix.length) : ℕ)⌝
  -- entry of `for ii` (`_tp = 0`), entry of `for i` (`tp = 0`)
  case vc4.step.pre => rfl
  case vc6.isFalse.pre => rfl
  all_goals
    pyn_ranges
    simp (config := {zetaDelta := true}) only [npUnique, List.size_toArray, List.length_append,
      List.length_singleton, List.length_nil, pyRange_length, decide_eq_true_eq, Nat.cast_inj,
      Int.sub_zero, Int.zero_add, Int.toNat_natCast, List.take_length] at *
    py_subst_ranges
    try simp only [Int.toNat_natCast] at *
  all_goals first
    -- all values distinct: `return n (n-1) (2n+5) / 18`;  after the loops: `return (… - tp) / 18`
    | (simp only [*, if_true, if_false]; done)
    -- one cell of the inner loop: `if xu[i] == x[ii]: _tp += 1`
    | (simp only [rd_of_eq _ _ _ rfl, av_toArray] at *
       rw [cntEq_take_succ _ x _ (by omega)]
       simp only [*, if_true, if_false, Bool.false_eq_true, add_zero]; done)
    -- exit of the inner loop: `tp += _tp (_tp - 1) (2 _tp + 5)`
    | (rw [tpSum_succ x _ (by omega)]
       simp only [*, tieTerm]; done)

/-! ### Non-vacuity: concrete rational inputs -/

/-- no ties: 4 · 3 · 13 / 18 -/
example : Gen.NumKernels.mk_variance_s (⟨id, id, 1 / 2, 2, fun i => (i : ℚ)⟩ : MKFns ℚ) [4, 1, 3, 2].toArray
    = 26 / 3 := by
  rw [gen_mk_variance_s_eq_model]; decide +kernel

/-- ties of sizes 2 and 3: (5 · 4 · 15 − 2 · 1 · 9 − 3 · 2 · 11) / 18 -/
example : Gen.NumKernels.mk_variance_s (⟨id, id, 1 / 2, 2, fun i => (i : ℚ)⟩ : MKFns ℚ) [2, 1, 2, 1, 2].toArray
    = 12 := by
  rw [gen_mk_variance_s_eq_model]; decide +kernel

end Hdc.GenNumMk
