import Hdc.Gen.NumMkZ
import Std.Tactic.Do
/-
GenNumMkZ  The GENERATED translation of `ops/stats.py::mk_z_score` (Hdc/Gen/NumMkZ.lean, harness/py2lean_stats.py) is the
hand model `Hdc.mkZ`.  `sqrt` and the conversion of the integer score are the fields `F.sqrt`, `F.ofInt` of the model's
parameter record `F : MKFns α` on both sides (the refinement is modulo these externals).
-/
namespace Hdc.GenNumMk
open Hdc Hdc.Gen.NumKernels Std.Do

set_option mvcgen.warning false
set_option linter.unusedSectionVars false

section
variable {α : Type} [Add α] [Sub α] [Mul α] [Div α] [Neg α] [NatCast α] [LT α] [DecidableLT α]

/-- The translated `mk_z_score` equals the model: every `F`, every score `s`, every variance `vs`; over the bare
    operator classes (both sides are the same expression trees: no field axiom is used).  No hypothesis. -/
theorem gen_mk_z_score_eq_model (F : MKFns α) (s : Int) (vs : α) :
    Gen.NumKernels.mk_z_score F s vs = Hdc.mkZ F s vs := by
  generalize hres : Gen.NumKernels.mk_z_score F s vs = res
  apply Id.of_wp_run_eq hres
  mvcgen -trivial
  all_goals
    simp only [decide_eq_true_eq, gt_iff_lt] at *
    simp only [mkZ, *, if_true, if_false]

end

/-! ### Non-vacuity (Rat, `sqrt` replaced by the identity) -/

example : Gen.NumKernels.mk_z_score (⟨id, id, 1 / 2, 2, fun i => (i : Rat)⟩ : MKFns Rat) 7 4 = 3 / 2 := by
  rw [gen_mk_z_score_eq_model]; decide +kernel
example : Gen.NumKernels.mk_z_score (⟨id, id, 1 / 2, 2, fun i => (i : Rat)⟩ : MKFns Rat) (-7) 4 = -3 / 2 := by
  rw [gen_mk_z_score_eq_model]; decide +kernel
example : Gen.NumKernels.mk_z_score (⟨id, id, 1 / 2, 2, fun i => (i : Rat)⟩ : MKFns Rat) 0 4 = 0 := by
  rw [gen_mk_z_score_eq_model]; decide +kernel

end Hdc.GenNumMk
