import Hdc.Lemmas.GenNum
import Hdc.Gen.NumWs2doptv
import Hdc.Lemmas.GenNumOptv
import Std.Tactic.Do
/-
GenNumOptv  The GENERATED translation of the floating-point loop kernel `ws2doptv` (Hdc/Gen/NumWs2doptv.lean, an
imperative `Id.run do` program over an abstract carrier `α` with Python index semantics, regenerated
from the Python source on every verification run) computes its hand model.

  gen_ws2doptv_eq_model        = Hdc.optv (curve rounded, λ) / pass-through
  gen_ws2doptv_some, gen_ws2doptv_none     the same as equations between the returned arrays

Method (as in C01gen / GenKernels): the verification-condition generator `mvcgen` (Std.Do) is run on
the generated program with one invariant per loop (Hdc/Lemmas/GenNumOptv.lean); the generated expressions are
never copied into this file: every verification condition is an instance of a lemma stated in the shape of
the condition (entry, one pass, exit of each loop).
-/
namespace Hdc.GenNum
open Hdc Hdc.Gen.NumKernels Std.Do
open Hdc.Ws2dGen (av Holds)
open Hdc.Ws2d (fnl)

set_option mvcgen.warning false

/-! ### ws2doptv: V-curve selection of λ -/

section optv
variable {α : Type} [Field α] [LinearOrder α] [IsStrictOrderedRing α]

/-- The translated `ws2doptv` equals the hand model `Hdc.optv` (missing-cell test `x == nodata`):
    the smoothed, rounded curve and the selected λ when at least two cells are valid, the
    pass-through `out[:] = y[:]`, `lopt = 0` otherwise.

    Hypotheses: `3 ≤ len(y)` (what the translated `ws2d` needs), at least 2 grid points (otherwise the
    source reads `llas[1]`, `v[0]` out of range), `lopt` a one-cell buffer.  The content and even the
    size of `out0` are irrelevant (the source rebinds `out`).

    One invariant per loop of the source (Hdc/Lemmas/GenNumOptv.lean): `WInv` (weights, count),
    `SweepG` (λ grid), `AccInv` (the two `+=` accumulations = `sumF`), `Holds` (first differences),
    `VInvG` (V-curve), `ArgInvG` (first strict minimum); every verification condition is an instance of a lemma
    stated in its shape. -/
theorem gen_ws2doptv_eq_model (F : VFns α) (rnd : α → α) (y llas : List α) (nodata : α)
    (out0 lopt0 : Array α) (h3 : 3 ≤ y.length) (h2 : 2 ≤ llas.length) (hl : lopt0.size = 1) :
    match Hdc.optv F (fun x => eqv x nodata) y llas with
    | some (z, lo) =>
      (Gen.NumKernels.ws2doptv F rnd y.toArray nodata llas.toArray out0 lopt0).1.toList
          = z.map rnd ∧
      (Gen.NumKernels.ws2doptv F rnd y.toArray nodata llas.toArray out0 lopt0).2.toList = [lo]
    | none =>
      (Gen.NumKernels.ws2doptv F rnd y.toArray nodata llas.toArray out0 lopt0).1.toList = y ∧
      (Gen.NumKernels.ws2doptv F rnd y.toArray nodata llas.toArray out0 lopt0).2.toList = [0] := by
  generalize hres : Gen.NumKernels.ws2doptv F rnd y.toArray nodata llas.toArray out0 lopt0 = res
  apply Id.of_wp_run_eq hres
  mvcgen -trivial invariants
  -- weights loop, state `(w, n)`
  · ⇓⟨xs, s⟩ => ⌜WInv nodata y xs.prefix.length s.1 s.2⌝
  -- λ grid, state `(i, fits, pens, z, diff1, lmda, w_tmp, y_tmp, z_tmp, z2)`
  · ⇓⟨xs, s⟩ => ⌜SweepG y llas (fAt F (weightsOf (missNd nodata) y) y llas) (pAt F (weightsOf (missNd nodata) y) y llas) xs.prefix.length
        s.2.1 s.2.2.1 s.2.2.2.2.1⌝
  -- `fits[lix] += …`, state `(i, fits, w_tmp, y_tmp, z_tmp)`
  · ⇓⟨xs, s⟩ => by
      py_name fits as fits0; py_name cur as k; py_name z as zc
      exact ⌜AccInv fits0 s.2.1 k.toNat (fitTerms (weightsOf (missNd nodata) y) y zc.toList) xs.prefix.length⌝
  -- `diff1[i] = z[i+1] - z[i]`, state `(i, diff1, z_tmp, z2)`
  · ⇓⟨xs, s⟩ => by
      py_name z as zc
      exact ⌜Holds (y.length - 1) (fnl (diffs zc.toList)) xs.prefix.length s.2.1⌝
  -- `pens[lix] += …`, state `(i, pens, z_tmp, z2)`
  · ⇓⟨xs, s⟩ => by
      py_name pens as pens0; py_name cur as k; py_name z as zc
      exact ⌜AccInv pens0 s.2.1 k.toNat (penTerms zc.toList) xs.prefix.length⌝
  -- V-curve, state `(i, lamids, v, l1, l2, f1, f2, p1, p2)`
  · ⇓⟨xs, s⟩ => ⌜VInvG F llas (fAt F (weightsOf (missNd nodata) y) y llas) (pAt F (weightsOf (missNd nodata) y) y llas) xs.prefix.length s.2.1 s.2.2.1⌝
  -- first strict minimum, state `(i, k, vmin)`
  · ⇓⟨xs, s⟩ => ⌜ArgInvG F llas (fAt F (weightsOf (missNd nodata) y) y llas) (pAt F (weightsOf (missNd nodata) y) y llas) xs.prefix.length s.2.1 s.2.2⌝
  -- weights loop: nodata cell / valid cell / entry
  case vc1 => exact (‹WInv _ _ _ _ _›).step_miss_gen ‹pyRange 0 _ = _› ‹eqv _ _ = true›
  case vc2 => exact (‹WInv _ _ _ _ _›).step_valid_gen ‹pyRange 0 _ = _› ‹¬ eqv _ _ = true›
  case vc3 => exact WInv.init nodata y
  -- fewer than two valid cells: pass-through
  case vc18 =>
    rw [optv_invalid F (missNd nodata) y llas ((‹WInv _ _ _ _ _›).invalid ‹¬ decide _ = true›)]
    exact ⟨trivial, by rw [wr_single _ _ hl]; simp [nat]⟩
  -- everything else happens after the weights loop, in the branch `n > 1`: `w` is the model's weight vector, so
  -- the translated `ws2d(y, lmda, w)` has the length of `y`
  all_goals
    obtain ⟨hw, hv⟩ := (‹WInv _ _ _ _ _›).valid ‹decide ((_ : ℤ) > 1) = true›
    have hwl : (weightsOf (missNd nodata) y).length = y.length := Smooth.weightsOf_length _ y
    have hws := (congrArg Array.size hw).trans hwl
  -- λ grid: the two sums and the differences for `z = ws2d(y, 10 ** llas[lix], w)`
  case vc4 =>              -- `fits[lix] += …`: one pass
    exact (‹SweepG _ _ _ _ _ _ _ _›).fit_step ‹pyRange 0 _ = _ ++ _ :: _› ‹AccInv _ _ _ _ _› ‹pyRange 0 _ = _› hw hwl
      (gen_ws2d_size y _ _ hws h3)
  -- entry of the `fits[lix] +=` loop; `diff1[i] = z[i+1] - z[i]`: one pass, entry
  case vc5 => exact (‹SweepG _ _ _ _ _ _ _ _›).fit_init ‹pyRange 0 _ = _› _
  case vc6 => exact diffs_step ‹Holds _ _ _ _› ‹pyRange 0 _ = _› (gen_ws2d_size y _ _ hws h3)
  case vc7 =>
    exact ⟨(‹SweepG _ _ _ _ _ _ _ _›).dsz, fun j hj => absurd hj (Nat.not_lt_zero j)⟩
  case vc8 =>              -- `pens[lix] += …`: one pass
    exact (‹SweepG _ _ _ _ _ _ _ _›).pen_step ‹pyRange 0 _ = _ ++ _ :: _› ‹AccInv _ _ _ (penTerms _) _› ‹Holds _ _ _ _›
      ‹pyRange 0 _ = _› (gen_ws2d_size y _ _ hws h3)
  -- entry of the `pens[lix] +=` loop
  case vc9 => exact (‹SweepG _ _ _ _ _ _ _ _›).pen_init ‹pyRange 0 _ = _› _
  case vc10 =>             -- one pass of the loop over the λ grid
    exact (‹SweepG _ _ _ _ _ _ _ _›).step ‹pyRange 0 _ = _› hwl (gen_ws2d_size y _ _ hws h3)
      (zAt_gen ‹pyRange 0 _ = _› hw hwl h3) rfl rfl ‹AccInv _ _ _ (fitTerms _ _ _) _› ‹Holds _ _ _ _›
      ‹AccInv _ _ _ (penTerms _) _›
  -- entry of the loop over the λ grid
  case vc11 => exact SweepG.init
  -- V-curve and its first strict minimum
  -- V-curve loop: one pass, entry
  case vc12 => exact (‹VInvG _ _ _ _ _ _ _›).step ‹SweepG _ _ _ _ _ _ _ _› ‹pyRange 0 _ = _›
  case vc13 => exact VInvG.init
  case vc14 =>             -- minimum loop: `v[i] < vmin`
    exact (‹ArgInvG _ _ _ _ _ _ _›).step_lt ‹VInvG _ _ _ _ _ _ _› ‹pyRange 1 _ = _› ‹decide _ = true›
  case vc15 =>             -- minimum loop: otherwise
    exact (‹ArgInvG _ _ _ _ _ _ _›).step_ge ‹VInvG _ _ _ _ _ _ _› ‹pyRange 1 _ = _› ‹¬ decide _ = true›
  case vc16 =>             -- entry of the minimum loop
    exact ArgInvG.init h2 ‹VInvG _ _ _ _ _ _ _›
  -- after the minimum loop: `lopt[0] = 10 ** lamids[k]`, the final fit, rounding
  case vc17 =>
    have hk := (‹ArgInvG _ _ _ _ _ _ _›).final ‹VInvG _ _ _ _ _ _ _› h2
    rw [optv_valid F (missNd nodata) y llas hv h2]
    simp (config := {zetaDelta := true}) only [Array.toList_map, rd_wr_zero lopt0 _ hl.ge, hk, hw,
      C01gen.gen_ws2d_eq_model y _ _ hwl h3, wr_single _ _ hl, and_self]

/-- the same, as an equation between the returned pair of arrays: the model selects a λ -/
theorem gen_ws2doptv_some (F : VFns α) (rnd : α → α) (y llas : List α) (nodata : α)
    (out0 lopt0 : Array α) (h3 : 3 ≤ y.length) (h2 : 2 ≤ llas.length) (hl : lopt0.size = 1)
    (z : List α) (lo : α) (hm : Hdc.optv F (fun x => eqv x nodata) y llas = some (z, lo)) :
    Gen.NumKernels.ws2doptv F rnd y.toArray nodata llas.toArray out0 lopt0
      = ((z.map rnd).toArray, #[lo]) := by
  have h := gen_ws2doptv_eq_model F rnd y llas nodata out0 lopt0 h3 h2 hl
  rw [hm] at h
  dsimp only at h
  apply Prod.ext <;> apply Array.toList_inj.1
  · exact h.1
  · exact h.2

/-- … the model passes the input through (fewer than two valid cells) -/
theorem gen_ws2doptv_none (F : VFns α) (rnd : α → α) (y llas : List α) (nodata : α)
    (out0 lopt0 : Array α) (h3 : 3 ≤ y.length) (h2 : 2 ≤ llas.length) (hl : lopt0.size = 1)
    (hm : Hdc.optv F (fun x => eqv x nodata) y llas = none) :
    Gen.NumKernels.ws2doptv F rnd y.toArray nodata llas.toArray out0 lopt0
      = (y.toArray, #[0]) := by
  have h := gen_ws2doptv_eq_model F rnd y llas nodata out0 lopt0 h3 h2 hl
  rw [hm] at h
  dsimp only at h
  apply Prod.ext <;> apply Array.toList_inj.1
  · exact h.1
  · exact h.2

/-- a toy instance of the transcendental functions over ℚ (identity maps, `ln 10 := 1`) -/
def Fq : VFns ℚ := ⟨fun x => x, fun x => x, fun x => x, 1⟩

/-- non-vacuity: five valid cells, three grid points; `round` the identity; the buffers start with
    garbage (`out0` even has the wrong size) -/
example :
    Gen.NumKernels.ws2doptv Fq (fun v => v) [1, 2, 4, 3, 5].toArray (-1) [1, 2, 3].toArray #[]
        #[9] = (#[979 / 864, 7387 / 3456, 593 / 192, 13403 / 3456, 4115 / 864], #[5 / 2]) := by
  rw [gen_ws2doptv_some Fq _ _ _ _ _ _ (by decide) (by decide) rfl
    [979 / 864, 7387 / 3456, 593 / 192, 13403 / 3456, 4115 / 864] (5 / 2) (by decide +kernel)]
  rfl

/-- one nodata cell (weight 0), four grid points -/
example :
    Gen.NumKernels.ws2doptv Fq (fun v => v) [1, 2, -1, 3, 5].toArray (-1) [1, 2, 3, 4].toArray
        #[7, 7, 7, 7, 7] #[9]
      = (#[1237 / 1258, 2299 / 1258, 91 / 34, 4509 / 1258, 5793 / 1258], #[7 / 2]) := by
  rw [gen_ws2doptv_some Fq _ _ _ _ _ _ (by decide) (by decide) rfl
    [1237 / 1258, 2299 / 1258, 91 / 34, 4509 / 1258, 5793 / 1258] (7 / 2) (by decide +kernel)]
  rfl

/-- a single valid cell: pass-through, `lopt = 0` -/
example :
    Gen.NumKernels.ws2doptv Fq (fun v => v) [1, -1, -1, -1, -1].toArray (-1) [1, 2, 3].toArray
        #[] #[9] = (#[1, -1, -1, -1, -1], #[0]) := by
  rw [gen_ws2doptv_none Fq _ _ _ _ _ _ (by decide) (by decide) rfl (by decide +kernel)]

end optv

end Hdc.GenNum
