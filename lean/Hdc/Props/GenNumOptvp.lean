import Hdc.Lemmas.GenNum
import Hdc.Gen.NumWs2doptvp
import Hdc.Lemmas.GenNumOptvp
import Std.Tactic.Do
/-
GenNumOptvp  The GENERATED translation of `hdc/algo/ops/ws2doptvp.py::ws2doptvp` (Hdc/Gen/NumWs2doptvp.lean, an imperative
`Id.run do` program over an abstract carrier `α`, regenerated from the Python source by harness/py2lean_optvp.py)
computes the hand model `Hdc.optvp`.

  gen_ws2doptvp_eq_model                    = Hdc.optvp (curve rounded, λ) / pass-through
  gen_ws2doptvp_some, gen_ws2doptvp_none    the same as equations between the returned arrays

Method: `mvcgen` with one invariant per loop; every verification condition is an instance of a lemma of
Hdc/Lemmas/GenNumOptvp.lean, Hdc/Lemmas/GenNumOptv.lean stated in the shape of the condition (entry, one pass, exit of
each loop), so the generated expressions are never copied into this file (only the positions of the loop variables
inside the state tuples of the `for` loops appear).
-/
namespace Hdc.GenNum
open Hdc Hdc.Gen.NumKernels Std.Do
open Hdc.Ws2dGen (av Holds)
open Hdc.Ws2d (fnl)

set_option mvcgen.warning false

section optvp
variable {α : Type} [Field α] [LinearOrder α] [IsStrictOrderedRing α]

/-- The translated `ws2doptvp` equals the hand model `Hdc.optvp` (missing-cell test `x == nodata`): the rounded curve of
    the asymmetric fit at the λ selected on the V-curve of the warm-started sweep when at least two cells are valid, the
    pass-through `out[:] = y[:]`, `lopt = 0` otherwise.

    Hypotheses: the shapes the gufunc signature `(n),(),(),(m) -> (n),()` guarantees (`out` has the length of `y`,
    `lopt` is a one-cell buffer); and, only when at least two cells are valid (otherwise the source touches neither
    `ws2d` nor the grid): `3 ≤ len(y)` (what the translated `ws2d` needs) and at least 2 grid points (otherwise the
    source reads `llas[1]`, `v[0]` out of range).  The contents of `out0`, `lopt0` are irrelevant. -/
theorem gen_ws2doptvp_eq_model (F : VFns α) (rnd : α → α) (y llas : List α) (nodata p : α)
    (out0 lopt0 : Array α) (ho : out0.size = y.length) (hl : lopt0.size = 1)
    (hc : 1 < countValid (missNd nodata) y → 3 ≤ y.length ∧ 2 ≤ llas.length) :
    match Hdc.optvp F (fun x => eqv x nodata) y p llas with
    | some (z, lo) =>
      (Gen.NumKernels.ws2doptvp F rnd y.toArray nodata p llas.toArray out0 lopt0).1.toList
          = z.map rnd ∧
      (Gen.NumKernels.ws2doptvp F rnd y.toArray nodata p llas.toArray out0 lopt0).2.toList = [lo]
    | none =>
      (Gen.NumKernels.ws2doptvp F rnd y.toArray nodata p llas.toArray out0 lopt0).1.toList = y ∧
      (Gen.NumKernels.ws2doptvp F rnd y.toArray nodata p llas.toArray out0 lopt0).2.toList = [0] := by
  generalize hres : Gen.NumKernels.ws2doptvp F rnd y.toArray nodata p llas.toArray out0 lopt0 = res
  apply Id.of_wp_run_eq hres
  mvcgen -trivial invariants
  -- weights loop, state `(w, n)`
  · ⇓⟨xs, s⟩ => ⌜WInv nodata y xs.prefix.length s.1 s.2⌝
  -- λ grid, state `(i, j, fits, pens, z, znew, diff1, wa, ww, lmda, z_tmp, w_tmp, y_tmp, z2)`
  · ⇓⟨xs, s⟩ => ⌜SweepP F (weightsOf (missNd nodata) y) y p llas xs.prefix.length s.2.2.1 s.2.2.2.1
      s.2.2.2.2.1 s.2.2.2.2.2.1 s.2.2.2.2.2.2.1 s.2.2.2.2.2.2.2.1 s.2.2.2.2.2.2.2.2.1⌝
  -- re-weighting loop, state `(i, j, z, znew, wa, ww, z_tmp, y_tmp)`
  · ⇓⟨xs, s⟩ => by
      py_name z as z0; py_name lmda as lam
      exact ⌜IInv y (weightsOf (missNd nodata) y) lam p
        (irls y (weightsOf (missNd nodata) y) lam p 10 z0.toList (zerosLike y)) xs.prefix.length
        s.2.2.1 s.2.2.2.1 s.2.2.2.2.1 s.2.2.2.2.2.1⌝
  -- `wa[j] = …; ww[j] = w[j] * wa[j]`, state `(j, wa, ww, z_tmp, y_tmp)`
  · ⇓⟨xs, s⟩ => by
      py_name z as zc
      exact ⌜AWInv p (weightsOf (missNd nodata) y) y zc.toList xs.prefix.length s.2.1 s.2.2.1⌝
  -- `z_tmp += abs(znew[j] - z[j])`, state `(j, z_tmp)`
  · ⇓⟨xs, s⟩ => by
      py_name z as zc; py_name znew as zn
      exact ⌜L1Inv zn.toList zc.toList xs.prefix.length s.2⌝
  -- `fits[lix] += …`, state `(i, fits, z_tmp, w_tmp, y_tmp)`
  · ⇓⟨xs, s⟩ => by
      py_name fits as fits0; py_name cur as k; py_name z as zc
      exact ⌜AccInv fits0 s.2.1 k.toNat (fitTerms (weightsOf (missNd nodata) y) y zc.toList)
        xs.prefix.length⌝
  -- `diff1[i] = z[i+1] - z[i]`, state `(i, diff1, z_tmp, z2)`
  · ⇓⟨xs, s⟩ => by
      py_name z as zc
      exact ⌜Holds (y.length - 1) (fnl (diffs zc.toList)) xs.prefix.length s.2.1⌝
  -- `pens[lix] += …`, state `(i, pens, z_tmp, z2)`
  · ⇓⟨xs, s⟩ => by
      py_name pens as pens0; py_name cur as k; py_name z as zc
      exact ⌜AccInv pens0 s.2.1 k.toNat (penTerms zc.toList) xs.prefix.length⌝
  -- V-curve, state `(i, lamids, v, l1, l2, fit1, fit2, pen1, pen2)`
  · ⇓⟨xs, s⟩ => ⌜VInvG F llas (fG F (weightsOf (missNd nodata) y) y p llas)
      (pG F (weightsOf (missNd nodata) y) y p llas) xs.prefix.length s.2.1 s.2.2.1⌝
  -- first strict minimum, state `(i, k, vmin)`
  · ⇓⟨xs, s⟩ => ⌜ArgInvG F llas (fG F (weightsOf (missNd nodata) y) y p llas)
      (pG F (weightsOf (missNd nodata) y) y p llas) xs.prefix.length s.2.1 s.2.2⌝
  -- final re-weighting loop (same three states); λ is `lopt[0]`
  · ⇓⟨xs, s⟩ => by
      py_name z as z0; py_name lopt as lo
      exact ⌜IInv y (weightsOf (missNd nodata) y) (rd lo 0) p
        (irls y (weightsOf (missNd nodata) y) (rd lo 0) p 10 z0.toList (zerosLike y)) xs.prefix.length
        s.2.2.1 s.2.2.2.1 s.2.2.2.2.1 s.2.2.2.2.2.1⌝
  · ⇓⟨xs, s⟩ => by
      py_name z as zc
      exact ⌜AWInv p (weightsOf (missNd nodata) y) y zc.toList xs.prefix.length s.2.1 s.2.2.1⌝
  · ⇓⟨xs, s⟩ => by
      py_name z as zc; py_name znew as zn
      exact ⌜L1Inv zn.toList zc.toList xs.prefix.length s.2⌝
  -- weights loop: nodata cell / valid cell / entry
  case vc1 => exact (‹WInv _ _ _ _ _›).step_miss_gen ‹pyRange 0 _ = _› ‹eqv _ _ = true›
  case vc2 => exact (‹WInv _ _ _ _ _›).step_valid_gen ‹pyRange 0 _ = _› ‹¬ eqv _ _ = true›
  case vc3 => exact WInv.init nodata y
  -- fewer than two valid cells: pass-through
  case vc34 =>
    rw [optvp_invalid F (missNd nodata) y p llas ((‹WInv _ _ _ _ _›).invalid ‹¬ decide _ = true›)]
    exact ⟨passthrough_eq ho rfl rfl, by rw [wr_single _ _ hl]; simp [nat]⟩
  -- everything else happens after the weights loop, in the branch `n > 1`: `w` is the model's weight vector
  all_goals
    obtain ⟨hw, hv⟩ := (‹WInv _ _ _ _ _›).valid ‹decide ((_ : ℤ) > 1) = true›
    obtain ⟨h3, h2⟩ := hc hv
    have hwl : (weightsOf (missNd nodata) y).length = y.length := Smooth.weightsOf_length _ y
  -- the re-weighting loop, both copies (`wa[j]`, `ww[j]`; `z_tmp += …`; `break` or `z[0:m] = znew[0:m]`)
  case vc4 | vc25 =>       -- `wa[j] = …; ww[j] = …`: one pass, the `if` taken
    exact (‹AWInv _ _ _ _ _ _ _›).step_p ‹pyRange 0 _ = _› hw hwl (‹IInv _ _ _ _ _ _ _ _ _ _›).zsz ‹decide _ = true›
  case vc5 | vc26 =>       -- the same, the `if` not taken
    exact (‹AWInv _ _ _ _ _ _ _›).step_p1 ‹pyRange 0 _ = _› hw hwl (‹IInv _ _ _ _ _ _ _ _ _ _›).zsz ‹¬ decide _ = true›
  -- entry of the `wa[j]` loop
  case vc6 | vc27 => exact AWInv.init (‹IInv _ _ _ _ _ _ _ _ _ _›).asz (‹IInv _ _ _ _ _ _ _ _ _ _›).wsz
  case vc7 =>              -- `z_tmp += abs(znew[j] - z[j])`: one pass
    have hI := ‹IInv _ _ _ _ _ _ _ _ _ _›
    exact (‹L1Inv _ _ _ _›).step_rd ‹pyRange 0 _ = _› (hI.size_znew_set (congrArg Nat.cast hI.nsz) _)
      hI.zsz
  -- entry of the `z_tmp +=` loop
  case vc8 | vc29 => exact L1Inv.init _ _
  case vc9 =>              -- exit of the `z_tmp +=` loop: `break`
    have hI := ‹IInv _ _ _ _ _ _ _ _ _ _›
    exact hI.brk ‹pyRange 0 10 = _› h3 hwl ‹AWInv _ _ _ _ _ _ _› ‹L1Inv _ _ _ _›
      (congrArg Nat.cast hI.nsz) ‹eqv _ _ = true›
  case vc10 =>             -- exit of the `z_tmp +=` loop: `z[0:m] = znew[0:m]`, one pass of the re-weighting loop
    have hI := ‹IInv _ _ _ _ _ _ _ _ _ _›
    exact hI.step ‹pyRange 0 10 = _› h3 hwl ‹AWInv _ _ _ _ _ _ _› ‹L1Inv _ _ _ _›
      (congrArg Nat.cast hI.nsz) ‹¬ eqv _ _ = true›
  case vc11 =>             -- entry of the re-weighting loop
    have hS := ‹SweepP _ _ _ _ _ _ _ _ _ _ _ _ _›
    exact IInv.init _ (hS.zsz hwl) hS.nsz hS.asz hS.wsz
  -- λ grid: the two sums and the differences for the curve the re-weighting loop ended with
  case vc12 =>             -- `fits[lix] += …`: one pass
    exact (‹SweepP _ _ _ _ _ _ _ _ _ _ _ _ _›).sg.fit_step ‹pyRange 0 _ = _ ++ _ :: _› ‹AccInv _ _ _ _ _› ‹pyRange 0 _ = _› hw hwl
      (‹IInv _ _ _ _ _ _ _ _ _ _›).zsz
  -- entry of the `fits[lix] +=` loop
  case vc13 => exact (‹SweepP _ _ _ _ _ _ _ _ _ _ _ _ _›).sg.fit_init ‹pyRange 0 _ = _› _
  -- `diff1[i] = z[i+1] - z[i]`: one pass, entry
  case vc14 => exact diffs_step ‹Holds _ _ _ _› ‹pyRange 0 _ = _› (‹IInv _ _ _ _ _ _ _ _ _ _›).zsz
  case vc15 =>
    exact ⟨(‹SweepP _ _ _ _ _ _ _ _ _ _ _ _ _›).sg.dsz, fun j hj => absurd hj (Nat.not_lt_zero j)⟩
  case vc16 =>             -- `pens[lix] += …`: one pass
    exact (‹SweepP _ _ _ _ _ _ _ _ _ _ _ _ _›).sg.pen_step ‹pyRange 0 _ = _ ++ _ :: _› ‹AccInv _ _ _ (penTerms _) _› ‹Holds _ _ _ _›
      ‹pyRange 0 _ = _› (‹IInv _ _ _ _ _ _ _ _ _ _›).zsz
  case vc17 =>             -- entry of the `pens[lix] +=` loop
    exact (‹SweepP _ _ _ _ _ _ _ _ _ _ _ _ _›).sg.pen_init ‹pyRange 0 _ = _› _
  case vc18 =>             -- one pass of the loop over the λ grid
    exact (‹SweepP _ _ _ _ _ _ _ _ _ _ _ _ _›).step ‹pyRange 0 _ = _› hwl ‹IInv _ _ _ _ _ _ _ _ _ _› ‹AccInv _ _ _ (fitTerms _ _ _) _› ‹Holds _ _ _ _›
      ‹AccInv _ _ _ (penTerms _) _›
  -- entry of the loop over the λ grid
  case vc19 => exact SweepP.init
  -- V-curve and its first strict minimum
  -- V-curve loop: one pass, entry
  case vc20 => exact (‹VInvG _ _ _ _ _ _ _›).step (‹SweepP _ _ _ _ _ _ _ _ _ _ _ _ _›).sg ‹pyRange 0 _ = _›
  case vc21 => exact VInvG.init
  case vc22 =>             -- minimum loop: `v[i] < vmin`
    exact (‹ArgInvG _ _ _ _ _ _ _›).step_lt ‹VInvG _ _ _ _ _ _ _› ‹pyRange 1 _ = _› ‹decide _ = true›
  case vc23 =>             -- minimum loop: otherwise
    exact (‹ArgInvG _ _ _ _ _ _ _›).step_ge ‹VInvG _ _ _ _ _ _ _› ‹pyRange 1 _ = _› ‹¬ decide _ = true›
  case vc24 =>             -- entry of the minimum loop
    exact ArgInvG.init h2 ‹VInvG _ _ _ _ _ _ _›
  -- the final re-weighting loop; λ is `lopt[0]`
  case vc28 =>             -- `z_tmp += abs(znew[j] - z[j])`: one pass
    have hI := ‹IInv _ _ _ _ _ _ _ _ _ _›
    exact (‹L1Inv _ _ _ _›).step_rd ‹pyRange 0 _ = _› (hI.size_znew_set rfl _) hI.zsz
  case vc30 =>             -- exit of the `z_tmp +=` loop: `break`
    exact (‹IInv _ _ _ _ _ _ _ _ _ _›).brk ‹pyRange 0 10 = _› h3 hwl ‹AWInv _ _ _ _ _ _ _› ‹L1Inv _ _ _ _› rfl
      ‹eqv _ _ = true›
  case vc31 =>             -- exit of the `z_tmp +=` loop: `z[0:m] = znew[0:m]`, one pass
    exact (‹IInv _ _ _ _ _ _ _ _ _ _›).step ‹pyRange 0 10 = _› h3 hwl ‹AWInv _ _ _ _ _ _ _› ‹L1Inv _ _ _ _› rfl
      ‹¬ eqv _ _ = true›
  case vc32 =>             -- entry of the final re-weighting loop (`z` refilled with zeros)
    have hS := ‹SweepP _ _ _ _ _ _ _ _ _ _ _ _ _›
    exact IInv.init _ (by rw [size_z_fill]; exact hS.zsz hwl) hS.nsz hS.asz hS.wsz
  -- after the final re-weighting loop: `z = ws2d(y, lopt[0], ww)`; `np.round(z, 0, out)`
  case vc33 =>
    have hI := ‹IInv _ _ _ _ _ _ _ _ _ _›
    obtain ⟨hlo, hz⟩ := final_fit ‹SweepP _ _ _ _ _ _ _ _ _ _ _ _ _› ‹VInvG _ _ _ _ _ _ _› ‹ArgInvG _ _ _ _ _ _ _›
      (rd_wr_zero lopt0 _ hl.ge) hI hwl h3 h2
    rw [optvp_valid F (missNd nodata) y p llas hv h2]
    exact ⟨(round_out rnd ho hI.wsz h3).trans (congrArg (List.map rnd) hz),
      (wr_single _ _ hl).trans (congrArg (fun l => [l]) ((rd_wr_zero lopt0 _ hl.ge).symm.trans hlo))⟩

/-- the same, as an equation between the returned pair of arrays: the model selects a λ -/
theorem gen_ws2doptvp_some (F : VFns α) (rnd : α → α) (y llas : List α) (nodata p : α)
    (out0 lopt0 : Array α) (ho : out0.size = y.length) (hl : lopt0.size = 1)
    (h3 : 3 ≤ y.length) (h2 : 2 ≤ llas.length)
    (z : List α) (lo : α) (hm : Hdc.optvp F (fun x => eqv x nodata) y p llas = some (z, lo)) :
    Gen.NumKernels.ws2doptvp F rnd y.toArray nodata p llas.toArray out0 lopt0
      = ((z.map rnd).toArray, #[lo]) := by
  have h := gen_ws2doptvp_eq_model F rnd y llas nodata p out0 lopt0 ho hl (fun _ => ⟨h3, h2⟩)
  rw [hm] at h
  dsimp only at h
  apply Prod.ext <;> apply Array.toList_inj.1
  · exact h.1
  · exact h.2

/-- … the model passes the input through (fewer than two valid cells): no condition on `len(y)` or on the grid -/
theorem gen_ws2doptvp_none (F : VFns α) (rnd : α → α) (y llas : List α) (nodata p : α)
    (out0 lopt0 : Array α) (ho : out0.size = y.length) (hl : lopt0.size = 1)
    (hv : ¬ 1 < countValid (missNd nodata) y) :
    Gen.NumKernels.ws2doptvp F rnd y.toArray nodata p llas.toArray out0 lopt0
      = (y.toArray, #[0]) := by
  have h := gen_ws2doptvp_eq_model F rnd y llas nodata p out0 lopt0 ho hl (fun h => absurd h hv)
  rw [optvp_invalid F (missNd nodata) y p llas hv] at h
  dsimp only at h
  apply Prod.ext <;> apply Array.toList_inj.1
  · exact h.1
  · exact h.2

/-- a toy instance of the transcendental functions over ℚ (identity maps, `ln 10 := 1`) -/
def FqP : VFns ℚ := ⟨fun x => x, fun x => x, fun x => x, 1⟩

/-- non-vacuity: five valid cells, three grid points, `p = 9/10`; `round` the identity; the buffers start with
    garbage -/
example :
    Gen.NumKernels.ws2doptvp FqP (fun v => v) [1, 2, 4, 3, 5].toArray (-1) (9 / 10) [1, 2, 3].toArray
        #[0, 0, 0, 0, 0] #[9]
      = (#[979721 / 566496, 764371 / 283248, 16359 / 4496, 1272419 / 283248, 3020905 / 566496],
          #[5 / 2]) := by
  rw [gen_ws2doptvp_some FqP (fun v => v) [1, 2, 4, 3, 5] [1, 2, 3] (-1) (9 / 10) #[0, 0, 0, 0, 0] #[9]
    rfl rfl (by decide) (by decide)
    [979721 / 566496, 764371 / 283248, 16359 / 4496, 1272419 / 283248, 3020905 / 566496] (5 / 2)
    (by decide +kernel)]
  rfl

/-- one nodata cell (weight 0), four grid points, `p = 1/10` -/
example :
    Gen.NumKernels.ws2doptvp FqP (fun v => v) [1, 2, -1, 3, 5].toArray (-1) (1 / 10)
        [0, 1, 2, 3].toArray #[7, 7, 7, 7, 7] #[9]
      = (#[45227 / 50402, 41402 / 25201, 60294 / 25201, 79753 / 25201, 200485 / 50402], #[5 / 2]) := by
  rw [gen_ws2doptvp_some FqP (fun v => v) [1, 2, -1, 3, 5] [0, 1, 2, 3] (-1) (1 / 10) #[7, 7, 7, 7, 7] #[9]
    rfl rfl (by decide) (by decide)
    [45227 / 50402, 41402 / 25201, 60294 / 25201, 79753 / 25201, 200485 / 50402] (5 / 2)
    (by decide +kernel)]
  rfl

/-- a single valid cell: pass-through, `lopt = 0` (a one-point grid is fine here) -/
example :
    Gen.NumKernels.ws2doptvp FqP (fun v => v) [1, -1, -1, -1, -1].toArray (-1) (1 / 10) [0].toArray
        #[7, 7, 7, 7, 7] #[9] = (#[1, -1, -1, -1, -1], #[0]) := by
  rw [gen_ws2doptvp_none FqP (fun v => v) [1, -1, -1, -1, -1] [0] (-1) (1 / 10) #[7, 7, 7, 7, 7] #[9]
    rfl rfl (by decide +kernel)]

end optvp

end Hdc.GenNum
