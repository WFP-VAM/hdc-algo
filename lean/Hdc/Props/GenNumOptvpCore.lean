import Hdc.Lemmas.GenNum
import Hdc.Gen.NumWs2doptvpCore
import Hdc.Lemmas.GenNumOptvp
import Std.Tactic.Do
/-
GenNumOptvpCore  The GENERATED translation of `hdc/algo/ops/ws2doptvp.py::_ws2doptvp` (Hdc/Gen/NumWs2doptvpCore.lean, an
imperative `Id.run do` program over an abstract carrier `α`, regenerated from the Python source by
harness/py2lean_optvp.py) computes the hand model `Hdc.optvpCore`.

  gen_ws2doptvpCore_eq_model   optvpCore F y w p llas = some (curve, λ) of the program
  gen_ws2doptvpCore_eq         the same as an equation for the returned pair

Method: `mvcgen` with one invariant per loop; every verification condition is an instance of a lemma of
Hdc/Lemmas/GenNumOptvp.lean, Hdc/Lemmas/GenNumOptv.lean stated in the shape of the condition (entry, one pass, exit of each
loop), so the generated
expressions are never copied into this file (only the positions of the loop variables inside the state tuples of the
`for` loops appear, in the comments next to the invariants).
-/
namespace Hdc.GenNum
open Hdc Hdc.Gen.NumKernels Std.Do
open Hdc.Ws2dGen (av Holds)
open Hdc.Ws2d (fnl)

set_option mvcgen.warning false

section optvpCore
variable {α : Type} [Field α] [LinearOrder α] [IsStrictOrderedRing α]

/-- The translated `_ws2doptvp` equals the hand model `Hdc.optvpCore`: the curve of the final asymmetric fit
    (restarted from the zero curve) and the λ selected on the V-curve of the warm-started sweep.

    Hypotheses: `len(w) = len(y)` and `3 ≤ len(y)` (what the translated `ws2d` needs), at least 2 grid points (otherwise
    the source reads `llas[1]`, `v[0]` out of range).

    One invariant per loop of the source: from Hdc/Lemmas/GenNumOptvp.lean `SweepP` (λ grid, warm start), `IInv`
    (re-weighting loop with `break`: the model's loop continued from the current state returns the model's result),
    `AWInv` (asymmetric weights), `L1Inv` (`Σ|znew − z|`); from Hdc/Lemmas/GenNumOptv.lean `AccInv` (the two `+=`
    accumulations), `VInvG` (V-curve), `ArgInvG` (first strict minimum); `Holds` (first differences) from
    Hdc/Lemmas/Ws2dGen.lean; and the second copy of the re-weighting loop. -/
theorem gen_ws2doptvpCore_eq_model (F : VFns α) (y w llas : List α) (p : α)
    (hw : w.length = y.length) (h3 : 3 ≤ y.length) (h2 : 2 ≤ llas.length) :
    Hdc.optvpCore F y w p llas = some
      ((Gen.NumKernels.ws2doptvpCore F y.toArray w.toArray p llas.toArray).1.toList,
       (Gen.NumKernels.ws2doptvpCore F y.toArray w.toArray p llas.toArray).2) := by
  generalize hres : Gen.NumKernels.ws2doptvpCore F y.toArray w.toArray p llas.toArray = res
  apply Id.of_wp_run_eq hres
  mvcgen -trivial invariants
  -- λ grid, state `(lmda, z_tmp, w_tmp, y_tmp, z2, i, j, fits, pens, z, znew, diff1, wa, ww)`
  · ⇓⟨xs, s⟩ => ⌜SweepP F w y p llas xs.prefix.length s.2.2.2.2.2.2.2.1 s.2.2.2.2.2.2.2.2.1
      s.2.2.2.2.2.2.2.2.2.1 s.2.2.2.2.2.2.2.2.2.2.1 s.2.2.2.2.2.2.2.2.2.2.2.1 s.2.2.2.2.2.2.2.2.2.2.2.2.1
      s.2.2.2.2.2.2.2.2.2.2.2.2.2⌝
  -- re-weighting loop, state `(z_tmp, y_tmp, i, j, z, znew, wa, ww)`
  · ⇓⟨xs, s⟩ => by
      py_name z as z0; py_name lmda as lam
      exact ⌜IInv y w lam p (irls y w lam p 10 z0.toList (zerosLike y)) xs.prefix.length
        s.2.2.2.2.1 s.2.2.2.2.2.1 s.2.2.2.2.2.2.1 s.2.2.2.2.2.2.2⌝
  -- `wa[j] = …; ww[j] = w[j] * wa[j]`, state `(z_tmp, y_tmp, j, wa, ww)`
  · ⇓⟨xs, s⟩ => by
      py_name z as zc
      exact ⌜AWInv p w y zc.toList xs.prefix.length s.2.2.2.1 s.2.2.2.2⌝
  -- `z_tmp += abs(znew[j] - z[j])`, state `(z_tmp, j)`
  · ⇓⟨xs, s⟩ => by
      py_name z as zc; py_name znew as zn
      exact ⌜L1Inv zn.toList zc.toList xs.prefix.length s.1⌝
  -- `fits[lix] += …`, state `(z_tmp, w_tmp, y_tmp, i, fits)`
  · ⇓⟨xs, s⟩ => by
      py_name fits as fits0; py_name cur as k; py_name z as zc
      exact ⌜AccInv fits0 s.2.2.2.2 k.toNat (fitTerms w y zc.toList) xs.prefix.length⌝
  -- `diff1[i] = z[i+1] - z[i]`, state `(z_tmp, z2, i, diff1)`
  · ⇓⟨xs, s⟩ => by
      py_name z as zc
      exact ⌜Holds (y.length - 1) (fnl (diffs zc.toList)) xs.prefix.length s.2.2.2⌝
  -- `pens[lix] += …`, state `(z_tmp, z2, i, pens)`
  · ⇓⟨xs, s⟩ => by
      py_name pens as pens0; py_name cur as k; py_name z as zc
      exact ⌜AccInv pens0 s.2.2.2 k.toNat (penTerms zc.toList) xs.prefix.length⌝
  -- V-curve, state `(l1, l2, fit1, fit2, pen1, pen2, i, lamids, v)`
  · ⇓⟨xs, s⟩ => ⌜VInvG F llas (fG F w y p llas) (pG F w y p llas) xs.prefix.length
      s.2.2.2.2.2.2.2.1 s.2.2.2.2.2.2.2.2⌝
  -- first strict minimum, state `(i, k, vmin)`
  · ⇓⟨xs, s⟩ => ⌜ArgInvG F llas (fG F w y p llas) (pG F w y p llas) xs.prefix.length s.2.1 s.2.2⌝
  -- final re-weighting loop (same three states)
  · ⇓⟨xs, s⟩ => by
      py_name z as z0; py_name lopt as lam
      exact ⌜IInv y w lam p (irls y w lam p 10 z0.toList (zerosLike y)) xs.prefix.length
        s.2.2.2.2.1 s.2.2.2.2.2.1 s.2.2.2.2.2.2.1 s.2.2.2.2.2.2.2⌝
  · ⇓⟨xs, s⟩ => by
      py_name z as zc
      exact ⌜AWInv p w y zc.toList xs.prefix.length s.2.2.2.1 s.2.2.2.2⌝
  · ⇓⟨xs, s⟩ => by
      py_name z as zc; py_name znew as zn
      exact ⌜L1Inv zn.toList zc.toList xs.prefix.length s.1⌝
  -- the re-weighting loop, both copies (`wa[j]`, `ww[j]`; `z_tmp += …`; `break` or `z[0:m] = znew[0:m]`)
  case vc1 | vc22 =>       -- `wa[j] = …; ww[j] = …`: one pass, the `if` taken
    exact (‹AWInv _ _ _ _ _ _ _›).step_p ‹pyRange 0 _ = _› rfl hw (‹IInv _ _ _ _ _ _ _ _ _ _›).zsz
      ‹decide _ = true›
  case vc2 | vc23 =>       -- the same, the `if` not taken
    exact (‹AWInv _ _ _ _ _ _ _›).step_p1 ‹pyRange 0 _ = _› rfl hw (‹IInv _ _ _ _ _ _ _ _ _ _›).zsz
      ‹¬ decide _ = true›
  case vc3 | vc24 =>       -- entry of the `wa[j]` loop
    exact AWInv.init (‹IInv _ _ _ _ _ _ _ _ _ _›).asz (‹IInv _ _ _ _ _ _ _ _ _ _›).wsz
  case vc4 =>              -- `z_tmp += abs(znew[j] - z[j])`: one pass
    have hI := ‹IInv _ _ _ _ _ _ _ _ _ _›
    exact (‹L1Inv _ _ _ _›).step_rd ‹pyRange 0 _ = _› (hI.size_znew_set (congrArg Nat.cast hI.nsz) _)
      hI.zsz
  -- entry of the `z_tmp +=` loop
  case vc5 | vc26 => exact L1Inv.init _ _
  case vc6 =>              -- exit of the `z_tmp +=` loop: `break`
    have hI := ‹IInv _ _ _ _ _ _ _ _ _ _›
    exact hI.brk ‹pyRange 0 10 = _› h3 hw ‹AWInv _ _ _ _ _ _ _› ‹L1Inv _ _ _ _›
      (congrArg Nat.cast hI.nsz) ‹eqv _ _ = true›
  case vc7 =>              -- exit of the `z_tmp +=` loop: `z[0:m] = znew[0:m]`, one pass of the re-weighting loop
    have hI := ‹IInv _ _ _ _ _ _ _ _ _ _›
    exact hI.step ‹pyRange 0 10 = _› h3 hw ‹AWInv _ _ _ _ _ _ _› ‹L1Inv _ _ _ _›
      (congrArg Nat.cast hI.nsz) ‹¬ eqv _ _ = true›
  case vc8 =>              -- entry of the re-weighting loop
    have hS := ‹SweepP _ _ _ _ _ _ _ _ _ _ _ _ _›
    exact IInv.init _ (hS.zsz hw) hS.nsz hS.asz hS.wsz
  -- λ grid: the two sums and the differences for the curve the re-weighting loop ended with
  case vc9 =>              -- `fits[lix] += …`: one pass
    exact (‹SweepP _ _ _ _ _ _ _ _ _ _ _ _ _›).sg.fit_step ‹pyRange 0 _ = _ ++ _ :: _› ‹AccInv _ _ _ _ _›
      ‹pyRange 0 _ = _› rfl hw (‹IInv _ _ _ _ _ _ _ _ _ _›).zsz
  case vc10 =>             -- entry of the `fits[lix] +=` loop
    exact (‹SweepP _ _ _ _ _ _ _ _ _ _ _ _ _›).sg.fit_init ‹pyRange 0 _ = _› _
  case vc11 =>             -- `diff1[i] = z[i+1] - z[i]`: one pass
    exact diffs_step ‹Holds _ _ _ _› ‹pyRange 0 _ = _› (‹IInv _ _ _ _ _ _ _ _ _ _›).zsz
  case vc12 =>             -- entry of the `diff1` loop
    exact ⟨(‹SweepP _ _ _ _ _ _ _ _ _ _ _ _ _›).sg.dsz, fun j hj => absurd hj (Nat.not_lt_zero j)⟩
  case vc13 =>             -- `pens[lix] += …`: one pass
    exact (‹SweepP _ _ _ _ _ _ _ _ _ _ _ _ _›).sg.pen_step ‹pyRange 0 _ = _ ++ _ :: _›
      ‹AccInv _ _ _ (penTerms _) _› ‹Holds _ _ _ _› ‹pyRange 0 _ = _› (‹IInv _ _ _ _ _ _ _ _ _ _›).zsz
  case vc14 =>             -- entry of the `pens[lix] +=` loop
    exact (‹SweepP _ _ _ _ _ _ _ _ _ _ _ _ _›).sg.pen_init ‹pyRange 0 _ = _› _
  case vc15 =>             -- one pass of the loop over the λ grid
    exact (‹SweepP _ _ _ _ _ _ _ _ _ _ _ _ _›).step ‹pyRange 0 _ = _› hw ‹IInv _ _ _ _ _ _ _ _ _ _›
      ‹AccInv _ _ _ (fitTerms _ _ _) _› ‹Holds _ _ _ _› ‹AccInv _ _ _ (penTerms _) _›
  -- entry of the loop over the λ grid
  case vc16 => exact SweepP.init
  -- V-curve and its first strict minimum
  case vc17 =>             -- V-curve loop: one pass
    exact (‹VInvG _ _ _ _ _ _ _›).step (‹SweepP _ _ _ _ _ _ _ _ _ _ _ _ _›).sg ‹pyRange 0 _ = _›
  -- entry of the V-curve loop
  case vc18 => exact VInvG.init
  case vc19 =>             -- minimum loop: `v[i] < vmin`
    exact (‹ArgInvG _ _ _ _ _ _ _›).step_lt ‹VInvG _ _ _ _ _ _ _› ‹pyRange 1 _ = _› ‹decide _ = true›
  case vc20 =>             -- minimum loop: otherwise
    exact (‹ArgInvG _ _ _ _ _ _ _›).step_ge ‹VInvG _ _ _ _ _ _ _› ‹pyRange 1 _ = _› ‹¬ decide _ = true›
  -- entry of the minimum loop
  case vc21 => exact ArgInvG.init h2 ‹VInvG _ _ _ _ _ _ _›
  -- the final re-weighting loop
  case vc25 =>             -- `z_tmp += abs(znew[j] - z[j])`: one pass
    have hI := ‹IInv _ _ _ _ _ _ _ _ _ _›
    exact (‹L1Inv _ _ _ _›).step_rd ‹pyRange 0 _ = _› (hI.size_znew_set rfl _) hI.zsz
  case vc27 =>             -- exit of the `z_tmp +=` loop: `break`
    exact (‹IInv _ _ _ _ _ _ _ _ _ _›).brk ‹pyRange 0 10 = _› h3 hw ‹AWInv _ _ _ _ _ _ _›
      ‹L1Inv _ _ _ _› rfl ‹eqv _ _ = true›
  case vc28 =>             -- exit of the `z_tmp +=` loop: `z[0:m] = znew[0:m]`, one pass
    exact (‹IInv _ _ _ _ _ _ _ _ _ _›).step ‹pyRange 0 10 = _› h3 hw ‹AWInv _ _ _ _ _ _ _›
      ‹L1Inv _ _ _ _› rfl ‹¬ eqv _ _ = true›
  case vc29 =>             -- entry of the final re-weighting loop (`z` refilled with zeros)
    have hS := ‹SweepP _ _ _ _ _ _ _ _ _ _ _ _ _›
    exact IInv.init _ (by rw [size_z_fill]; exact hS.zsz hw) hS.nsz hS.asz hS.wsz
  -- after the final re-weighting loop: `z = ws2d(y, lopt, ww)`; `return z, lopt`
  case vc30 =>
    obtain ⟨hlo, hz⟩ := final_fit ‹SweepP _ _ _ _ _ _ _ _ _ _ _ _ _› ‹VInvG _ _ _ _ _ _ _›
      ‹ArgInvG _ _ _ _ _ _ _› rfl ‹IInv _ _ _ _ _ _ _ _ _ _› hw h3 h2
    rw [optvpCore_eq F y w p llas h2, hz]
    exact congrArg (fun l => some (_, l)) hlo.symm

/-- the same, as an equation for the returned pair -/
theorem gen_ws2doptvpCore_eq (F : VFns α) (y w llas : List α) (p : α)
    (hw : w.length = y.length) (h3 : 3 ≤ y.length) (h2 : 2 ≤ llas.length)
    (z : List α) (lo : α) (hm : Hdc.optvpCore F y w p llas = some (z, lo)) :
    Gen.NumKernels.ws2doptvpCore F y.toArray w.toArray p llas.toArray = (z.toArray, lo) := by
  have h := gen_ws2doptvpCore_eq_model F y w llas p hw h3 h2
  rw [hm] at h
  injection h with h
  injection h with h1 h2
  apply Prod.ext
  · apply Array.toList_inj.1; exact h1.symm
  · exact h2.symm

/-- a toy instance of the transcendental functions over ℚ (identity maps, `ln 10 := 1`) -/
def FqC : VFns ℚ := ⟨fun x => x, fun x => x, fun x => x, 1⟩

/-- non-vacuity: five cells, one of weight 0, three grid points, `p = 9/10` -/
example :
    Gen.NumKernels.ws2doptvpCore FqC [1, 2, 4, 3, 5].toArray [1, 1, 0, 1, 1].toArray (9 / 10)
        [1, 2, 3].toArray
      = (#[94443 / 94618, 93118 / 47309, 139046 / 47309, 185577 / 47309, 466565 / 94618], 5 / 2) := by
  rw [gen_ws2doptvpCore_eq FqC [1, 2, 4, 3, 5] [1, 1, 0, 1, 1] [1, 2, 3] (9 / 10) rfl (by decide) (by decide)
    [94443 / 94618, 93118 / 47309, 139046 / 47309, 185577 / 47309, 466565 / 94618] (5 / 2)
    (by decide +kernel)]

end optvpCore

end Hdc.GenNum
