import Hdc.Lemmas.GenNumOptvplc
import Hdc.Props.GenNumOptvp
/-
GenNumOptvplc  The GENERATED translation of `hdc/algo/ops/ws2doptvplc.py::ws2doptvplc` (Hdc/Gen/NumWs2doptvplc.lean, an
imperative `Id.run do` program over an abstract carrier `α`, regenerated from the Python source by
harness/py2lean_optvp.py) computes the hand model `Hdc.optvplc`.

  gen_ws2doptvplc_eq_model                      = Hdc.optvplc (curve rounded, λ) / pass-through
  gen_ws2doptvplc_some, gen_ws2doptvplc_none    the same as equations between the returned arrays

The two things of the source that are outside the carrier conventions are PARAMETERS of the generated program, and the
theorem holds for every value of them: `np.arange` (`arange : α → α → α → Array α`; the model takes the three grids
as lists: they are `arange (-2) 1.2 0.2`, `arange 0 3.2 0.2`, `arange (-1) 1.2 0.2`) and the comparison `lc <= 0.5`
(`le : α → α → Bool`; the model takes the two tests `lc > 0.5`, `lc <= 0.5` as independent Booleans, so that the NaN
case - neither holds - is covered: third grid).  The float literals 0.5, 1.2, 0.2, 3.2 are parameters as everywhere.

Method: the translated program is that of ws2doptvp with the grid it has chosen (`ws2doptvplc_eq_ws2doptvp`, Hdc/Lemmas/GenNumOptvplc.lean), and the
model is `Hdc.optvp` on that grid by definition; so the theorem is `gen_ws2doptvp_eq_model` (Hdc/Props/GenNumOptvp.lean).
-/
namespace Hdc.GenNum
open Hdc Hdc.Gen.NumKernels Std.Do

section optvplc
variable {α : Type} [Field α] [LinearOrder α] [IsStrictOrderedRing α]

/-- The translated `ws2doptvplc` equals the hand model `Hdc.optvplc` (missing-cell test `x == nodata`), for every
    `arange` and every `le`: the grid is `arange(-2, 1.2, 0.2)` when `lc > 0.5`, `arange(0, 3.2, 0.2)` when `lc <= 0.5`,
    `arange(-1, 1.2, 0.2)` otherwise; then as `ws2doptvp`.

    Hypotheses: the shapes the gufunc signature `(n),(),(),() -> (n),()` guarantees (`out` has the length of `y`, `lopt`
    is a one-cell buffer); and, only when at least two cells are valid: `3 ≤ len(y)` (what the translated `ws2d` needs)
    and at least 2 points in the selected grid (with NumPy's `arange` the grids have 16, 16 and 11 points). -/
theorem gen_ws2doptvplc_eq_model (F : VFns α) (rnd : α → α) (le : α → α → Bool)
    (arange : α → α → α → Array α) (c0_5 c1_2 c0_2 c3_2 : α) (y : List α) (nodata p lc : α)
    (out0 lopt0 : Array α) (ho : out0.size = y.length) (hl : lopt0.size = 1)
    (hc : 1 < countValid (missNd nodata) y → 3 ≤ y.length ∧
      2 ≤ (if decide (c0_5 < lc) then (arange (-(nat 2)) c1_2 c0_2).toList
           else if le lc c0_5 then (arange (nat 0) c3_2 c0_2).toList
           else (arange (-(nat 1)) c1_2 c0_2).toList).length) :
    match Hdc.optvplc F (fun x => eqv x nodata) y p (decide (c0_5 < lc)) (le lc c0_5)
        (arange (-(nat 2)) c1_2 c0_2).toList (arange (nat 0) c3_2 c0_2).toList
        (arange (-(nat 1)) c1_2 c0_2).toList with
    | some (z, lo) =>
      (Gen.NumKernels.ws2doptvplc F rnd le arange c0_5 c1_2 c0_2 c3_2 y.toArray nodata p lc out0
          lopt0).1.toList = z.map rnd ∧
      (Gen.NumKernels.ws2doptvplc F rnd le arange c0_5 c1_2 c0_2 c3_2 y.toArray nodata p lc out0
          lopt0).2.toList = [lo]
    | none =>
      (Gen.NumKernels.ws2doptvplc F rnd le arange c0_5 c1_2 c0_2 c3_2 y.toArray nodata p lc out0
          lopt0).1.toList = y ∧
      (Gen.NumKernels.ws2doptvplc F rnd le arange c0_5 c1_2 c0_2 c3_2 y.toArray nodata p lc out0
          lopt0).2.toList = [0] := by
  have hg : (if c0_5 < lc then arange (-(nat 2)) c1_2 c0_2
      else if le lc c0_5 then arange (nat 0) c3_2 c0_2 else arange (-(nat 1)) c1_2 c0_2) =
      (if decide (c0_5 < lc) then (arange (-(nat 2)) c1_2 c0_2).toList
        else if le lc c0_5 then (arange (nat 0) c3_2 c0_2).toList
        else (arange (-(nat 1)) c1_2 c0_2).toList).toArray := by
    simp only [apply_ite List.toArray, Array.toArray_toList, decide_eq_true_eq]
  rw [ws2doptvplc_eq_ws2doptvp, hg]
  exact gen_ws2doptvp_eq_model F rnd y _ nodata p out0 lopt0 ho hl hc

/-- the same, as an equation between the returned pair of arrays: the model selects a λ -/
theorem gen_ws2doptvplc_some (F : VFns α) (rnd : α → α) (le : α → α → Bool)
    (arange : α → α → α → Array α) (c0_5 c1_2 c0_2 c3_2 : α) (y : List α) (nodata p lc : α)
    (out0 lopt0 : Array α) (ho : out0.size = y.length) (hl : lopt0.size = 1) (h3 : 3 ≤ y.length)
    (h2 : 2 ≤ (if decide (c0_5 < lc) then (arange (-(nat 2)) c1_2 c0_2).toList
           else if le lc c0_5 then (arange (nat 0) c3_2 c0_2).toList
           else (arange (-(nat 1)) c1_2 c0_2).toList).length)
    (z : List α) (lo : α)
    (hm : Hdc.optvplc F (fun x => eqv x nodata) y p (decide (c0_5 < lc)) (le lc c0_5)
        (arange (-(nat 2)) c1_2 c0_2).toList (arange (nat 0) c3_2 c0_2).toList
        (arange (-(nat 1)) c1_2 c0_2).toList = some (z, lo)) :
    Gen.NumKernels.ws2doptvplc F rnd le arange c0_5 c1_2 c0_2 c3_2 y.toArray nodata p lc out0 lopt0
      = ((z.map rnd).toArray, #[lo]) := by
  have h := gen_ws2doptvplc_eq_model F rnd le arange c0_5 c1_2 c0_2 c3_2 y nodata p lc out0 lopt0 ho hl
    (fun _ => ⟨h3, h2⟩)
  rw [hm] at h
  dsimp only at h
  apply Prod.ext <;> apply Array.toList_inj.1
  · exact h.1
  · exact h.2

/-- … the model passes the input through (fewer than two valid cells): no condition on `len(y)` or on the grids -/
theorem gen_ws2doptvplc_none (F : VFns α) (rnd : α → α) (le : α → α → Bool)
    (arange : α → α → α → Array α) (c0_5 c1_2 c0_2 c3_2 : α) (y : List α) (nodata p lc : α)
    (out0 lopt0 : Array α) (ho : out0.size = y.length) (hl : lopt0.size = 1)
    (hv : ¬ 1 < countValid (missNd nodata) y) :
    Gen.NumKernels.ws2doptvplc F rnd le arange c0_5 c1_2 c0_2 c3_2 y.toArray nodata p lc out0 lopt0
      = (y.toArray, #[0]) := by
  have h := gen_ws2doptvplc_eq_model F rnd le arange c0_5 c1_2 c0_2 c3_2 y nodata p lc out0 lopt0 ho hl
    (fun h => absurd h hv)
  rw [optvplc_invalid F (missNd nodata) y p _ _ _ _ _ hv] at h
  dsimp only at h
  apply Prod.ext <;> apply Array.toList_inj.1
  · exact h.1
  · exact h.2

/-- a toy instance of the transcendental functions over ℚ (`10 ** x := x + 3`, positive on the grids; `ln 10 := 1`) -/
def FqL : VFns ℚ := ⟨fun x => x, fun x => x, fun x => x + 3, 1⟩

/-- a toy `arange` (three points from the start value) -/
def arQ : ℚ → ℚ → ℚ → Array ℚ := fun a _ c => #[a, a + c, a + 2 * c]

/-- non-vacuity, `lc = 0.7 > 0.5`: first grid (`-2, -1.8, -1.6`) -/
example :
    Gen.NumKernels.ws2doptvplc FqL (fun v => v) (fun a b => decide (a ≤ b)) arQ (1 / 2) (6 / 5) (1 / 5)
        (16 / 5) [1, 2, 4, 3, 5].toArray (-1) (9 / 10) (7 / 10) #[0, 0, 0, 0, 0] #[9]
      = (#[14543 / 8745, 23483 / 8745, 969 / 265, 39118 / 8745, 46078 / 8745], #[13 / 10]) := by
  rw [gen_ws2doptvplc_some FqL (fun v => v) (fun a b => decide (a ≤ b)) arQ (1 / 2) (6 / 5) (1 / 5) (16 / 5)
    [1, 2, 4, 3, 5] (-1) (9 / 10) (7 / 10) #[0, 0, 0, 0, 0] #[9] rfl rfl (by decide) (by decide +kernel)
    [14543 / 8745, 23483 / 8745, 969 / 265, 39118 / 8745, 46078 / 8745] (13 / 10) (by decide +kernel)]
  rfl

/-- `lc = 0.3 <= 0.5`: second grid (`0, 0.2, 0.4`); one nodata cell -/
example :
    Gen.NumKernels.ws2doptvplc FqL (fun v => v) (fun a b => decide (a ≤ b)) arQ (1 / 2) (6 / 5) (1 / 5)
        (16 / 5) [1, 2, -1, 3, 5].toArray (-1) (9 / 10) (3 / 10) #[0, 0, 0, 0, 0] #[9]
      = (#[17451 / 17506, 17242 / 8753, 25766 / 8753, 34377 / 8753, 86309 / 17506], #[33 / 10]) := by
  rw [gen_ws2doptvplc_some FqL (fun v => v) (fun a b => decide (a ≤ b)) arQ (1 / 2) (6 / 5) (1 / 5) (16 / 5)
    [1, 2, -1, 3, 5] (-1) (9 / 10) (3 / 10) #[0, 0, 0, 0, 0] #[9] rfl rfl (by decide) (by decide +kernel)
    [17451 / 17506, 17242 / 8753, 25766 / 8753, 34377 / 8753, 86309 / 17506] (33 / 10)
    (by decide +kernel)]
  rfl

/-- a carrier on which neither `lc > 0.5` nor `lc <= 0.5` holds (`le` constantly false, as for NaN): third grid
    (`-1, -0.8, -0.6`) -/
example :
    Gen.NumKernels.ws2doptvplc FqL (fun v => v) (fun _ _ => false) arQ (1 / 2) (6 / 5) (1 / 5)
        (16 / 5) [1, 2, -1, 3, 5].toArray (-1) (9 / 10) (3 / 10) #[0, 0, 0, 0, 0] #[9]
      = (#[81249 / 81364, 80053 / 40682, 59752 / 20341, 159513 / 40682, 401231 / 81364],
          #[23 / 10]) := by
  rw [gen_ws2doptvplc_some FqL (fun v => v) (fun _ _ => false) arQ (1 / 2) (6 / 5) (1 / 5) (16 / 5)
    [1, 2, -1, 3, 5] (-1) (9 / 10) (3 / 10) #[0, 0, 0, 0, 0] #[9] rfl rfl (by decide) (by decide +kernel)
    [81249 / 81364, 80053 / 40682, 59752 / 20341, 159513 / 40682, 401231 / 81364] (23 / 10)
    (by decide +kernel)]
  rfl

/-- a single valid cell: pass-through, `lopt = 0` -/
example :
    Gen.NumKernels.ws2doptvplc FqL (fun v => v) (fun a b => decide (a ≤ b)) arQ (1 / 2) (6 / 5) (1 / 5)
        (16 / 5) [1, -1, -1, -1, -1].toArray (-1) (9 / 10) (3 / 10) #[7, 7, 7, 7, 7] #[9]
      = (#[1, -1, -1, -1, -1], #[0]) := by
  rw [gen_ws2doptvplc_none FqL (fun v => v) (fun a b => decide (a ≤ b)) arQ (1 / 2) (6 / 5) (1 / 5) (16 / 5)
    [1, -1, -1, -1, -1] (-1) (9 / 10) (3 / 10) #[7, 7, 7, 7, 7] #[9] rfl rfl (by decide +kernel)]

end optvplc

end Hdc.GenNum
