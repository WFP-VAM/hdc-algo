import Hdc.Lemmas.GenNumOptvplcTyx
import Hdc.Lemmas.GenNumOptvplcTyxModel
import Hdc.Gen.NumWs2doptvplcTyx
import Std.Tactic.Do
/-
GenNumOptvplcTyx  The GENERATED translation of `hdc/algo/ops/ws2doptvplc.py::ws2doptvplc_tyx` (Hdc/Gen/NumWs2doptvplcTyx.lean,
written by harness/py2lean_tyx.py from the Python source on every run) computes, pixel by pixel, the hand model `Hdc.optvplc`.

  gen_tyx_struct               the loops: after them every pixel holds `pixOut` (the body in terms of the generated callees)
  gen_ws2doptvplc_tyx_pixel    MAIN: column `zz[:, r, c]` and `lopts[r, c]` = the model on the pixel's series
  gen_ws2doptvplc_tyx_shape    `zz.shape = (nt, nr, nc)`, `lopts.shape = (nr, nc)` (flattened sizes)

`numba.prange(nr)` is translated as `range(nr)`: the sequential order is one schedule.  That the iterations are independent (so
that every schedule gives the same result) is NOT proved here: it is Hdc/Props/C12.lean, from the effect summary of the kernel.
Types: `tyx`, `zz` integer (flattened, with the dimensions as parameters), `nodata` integer, `rnd : α → Int` = round half-even and
cast to the cell type; `arange`, the literals 0.5 1.2 0.2 3.2, `x ** -0.5` (`rsqrt`) and 1e-8 (`eps`) are parameters.
The callees are bridged by their own refinement theorems (`gen_ws2doptvpCore_eq_model`, `gen_autocorr_1d_nd_eq_model`); the source
smooths `xx` (0 in the nodata cells), the model the raw series: equal by `Smooth.optvpCore_masked`.
Method: `mvcgen`, one invariant per loop (rows, pixels of a row, cells of a pixel; Hdc/Lemmas/GenNumOptvplcTyx.lean).
-/
namespace Hdc.GenNumTyx
open Hdc Hdc.Gen.NumKernels Hdc.PyNpT Hdc.PyNpX Hdc.GenNum Std.Do
open Hdc.GenKernels (gv)

set_option mvcgen.warning false
set_option linter.unusedSimpArgs false
set_option linter.unusedTactic false

variable {α : Type} [Field α] [LinearOrder α] [IsStrictOrderedRing α]

/-- The loops of the translated `ws2doptvplc_tyx`: the returned `(zz, lopts)` hold, for every pixel `(r, c)`, what `pixOut`
    (one pass of the pixel loop, in terms of the generated callees) stores for the series `tyx[:, r, c]`. -/
theorem gen_tyx_struct (F : VFns α) (rnd : α → Int) (rsqrt : α → α) (eps : α) (arange : α → α → α → Array α)
    (c0_5 c1_2 c0_2 c3_2 : α) (tyx : List Int) (nt nr nc : ℕ) (p : α) (nodata : Int) :
    PixInv nt nr nc (fun r c => pixOut F rnd rsqrt eps (arange (-(nat 2)) c1_2 c0_2) (arange (nat 0) c3_2 c0_2) c0_5 p
        nodata (pixSeries tyx nt nr nc r c)) (nr * nc)
      (Gen.NumKernels.ws2doptvplc_tyx F rnd rsqrt eps arange c0_5 c1_2 c0_2 c3_2 tyx.toArray nt nr nc p nodata).1
      (Gen.NumKernels.ws2doptvplc_tyx F rnd rsqrt eps arange c0_5 c1_2 c0_2 c3_2 tyx.toArray nt nr nc p nodata).2 := by
  generalize hres : Gen.NumKernels.ws2doptvplc_tyx F rnd rsqrt eps arange c0_5 c1_2 c0_2 c3_2 tyx.toArray nt nr nc p
    nodata = res
  apply Id.of_wp_run_eq hres
  mvcgen -trivial invariants
  -- `for rr`, state (xx_raw, xx, ww, ngood, v, lc, llas, u_xx, u_lopts, zz, lopts): the pixels of the rows before `rr` are done
  · ⇓⟨xs, s⟩ => ⌜PixInv nt nr nc (fun r c => pixOut F rnd rsqrt eps (arange (-(nat 2)) c1_2 c0_2) (arange (nat 0) c3_2 c0_2) c0_5 p
        nodata (pixSeries tyx nt nr nc r c)) (xs.prefix.length * nc) s.2.2.2.2.2.2.2.2.2.1 s.2.2.2.2.2.2.2.2.2.2⌝
  -- `for cc`, same state: the three scratch arrays have length `nt`, the pixels before `(rr, cc)` are done
  · ⇓⟨xs, s⟩ => by
      py_name cur as rr
      exact ⌜s.1.size = nt ∧ s.2.1.size = nt ∧ s.2.2.1.size = nt ∧
        PixInv nt nr nc (fun r c => pixOut F rnd rsqrt eps (arange (-(nat 2)) c1_2 c0_2) (arange (nat 0) c3_2 c0_2) c0_5 p
          nodata (pixSeries tyx nt nr nc r c)) (rr.toNat * nc + xs.prefix.length) s.2.2.2.2.2.2.2.2.2.1 s.2.2.2.2.2.2.2.2.2.2⌝
  -- `for i`, state (xx, ww, ngood, v): cleaned series, weights and count of the first `i` cells
  · ⇓⟨xs, s⟩ => by
      py_name xx_raw as xr
      exact ⌜WInvT nodata xr xs.prefix.length s.1 s.2.1 s.2.2.1⌝
  all_goals
    pyn_ranges
    simp (config := {zetaDelta := true}) only [List.size_toArray, List.length_append,
      List.length_singleton, List.length_nil, GenNum.pyRange_length, decide_eq_true_eq, gt_iff_lt,
      Int.toNat_natCast, Int.sub_zero, SPred.down_pure] at *
  -- `for i`, one pass: `v == nodata`
  case vc1.step.isTrue =>
    obtain ⟨h1, h2, h3, hP⟩ := ‹_ ∧ _ ∧ _ ∧ PixInv _ _ _ _ _ _ _›
    have he := ‹rdI _ _ = nodata›
    py_name pref as pref
    rw [rdI_of_eq _ _ pref.length (by omega)] at he
    exact (‹WInvT _ _ _ _ _ _›).step_miss (by rw [size_npSetAll]; omega) (by omega) he
  -- `for i`, one pass: a valid cell
  case vc2.step.isFalse =>
    obtain ⟨h1, h2, h3, hP⟩ := ‹_ ∧ _ ∧ _ ∧ PixInv _ _ _ _ _ _ _›
    have hne := ‹¬ rdI _ _ = nodata›
    py_name pref as pref
    rw [rdI_of_eq _ _ pref.length (by omega)] at hne ⊢
    exact (‹WInvT _ _ _ _ _ _›).step_valid (by rw [size_npSetAll]; omega) (by omega) hne
  -- entry of `for i` (after `xx_raw[:] = tyx[:, rr, cc]`)
  case vc3.step.pre =>
    obtain ⟨h1, h2, h3, hP⟩ := ‹_ ∧ _ ∧ _ ∧ PixInv _ _ _ _ _ _ _›
    exact WInvT.init nodata _ _ _ (by rw [size_npSetAll, h1, h2]) (by rw [size_npSetAll, h1, h3])
  -- exit of `for i`, `ngood > 1`: the fit is stored; one pass of `for cc`
  case vc4.step.post.success.isTrue =>
    obtain ⟨h1, h2, h3, hP⟩ := ‹_ ∧ _ ∧ _ ∧ PixInv _ _ _ _ _ _ _›
    have hW := ‹WInvT _ _ _ _ _ _›
    refine ⟨by rw [size_npSetAll, h1], hW.sx.trans (by rw [size_npSetAll, h1]),
      hW.sw.trans (by rw [size_npSetAll, h1]), ?_⟩
    exact pix_step_fit F rnd rsqrt eps _ _ c0_5 p nodata tyx nt nr nc hP (by omega) (by omega)
      (col_eq_pixSeries tyx nt nr nc _ _ _ h1 (by omega) (by omega)) hW (by assumption) (by omega) (by omega)
  -- exit of `for i`, `ngood ≤ 1`: nothing is stored; one pass of `for cc`
  case vc5.step.post.success.isFalse =>
    obtain ⟨h1, h2, h3, hP⟩ := ‹_ ∧ _ ∧ _ ∧ PixInv _ _ _ _ _ _ _›
    have hW := ‹WInvT _ _ _ _ _ _›
    refine ⟨by rw [size_npSetAll, h1], hW.sx.trans (by rw [size_npSetAll, h1]),
      hW.sw.trans (by rw [size_npSetAll, h1]), ?_⟩
    exact pix_step_skip F rnd rsqrt eps _ _ c0_5 p nodata tyx nt nr nc hP (by omega)
      (col_eq_pixSeries tyx nt nr nc _ _ _ h1 (by omega) (by omega)) hW (by assumption)
  -- entry of `for cc` (fresh scratch arrays)
  case vc6.step.pre =>
    py_name cur as rr; py_name pref as pref
    have : rr.toNat = pref.length := by omega
    exact ⟨by simp, by simp, by simp, (‹PixInv _ _ _ _ _ _ _›).cast (by rw [this]; simp)⟩
  -- exit of `for cc`: one pass of `for rr`
  case vc7.step.post.success =>
    obtain ⟨h1, h2, h3, hP⟩ := ‹_ ∧ _ ∧ _ ∧ PixInv _ _ _ _ _ _ _›
    py_name cur as rr; py_name pref as pref
    have : rr.toNat = pref.length := by omega
    exact hP.cast (by rw [this, Nat.add_mul, Nat.one_mul])
  -- entry of `for rr`: `zz`, `lopts` from `np.zeros`
  case vc8.pre =>
    have e1 : ((nt : ℤ) * nr * nc).toNat = nt * nr * nc := by
      rw [← Nat.cast_mul, ← Nat.cast_mul]; exact Int.toNat_natCast _
    have e2 : ((nr : ℤ) * nc).toNat = nr * nc := by
      rw [← Nat.cast_mul]; exact Int.toNat_natCast _
    exact (PixInv.init nt nr nc _ _ _ e1 e2).cast (by simp)
  -- exit of `for rr`: `return zz, lopts`
  case vc9.post.success => assumption

/-- MAIN THEOREM.  For every pixel `(r, c)` of the cube: the column `zz[:, r, c]` and the cell `lopts[r, c]` returned by the
    translated `ws2doptvplc_tyx` are what the hand model `Hdc.optvplc` gives for the pixel's series
    `s = tyx[:, r, c]` (every cell cast to the carrier, missing = `== nodata`), with `hi := 0.5 < lc`, `lo := ¬ hi` and `lc` the
    MODEL autocorrelation `Hdc.autocorr1d` of the pixel: the curve rounded (and cast to the integer cell type) by `rnd`, and λ.
    The third grid of the model (`gNaN`, arbitrary) is never selected: this variant has only two grids, the second one also
    for `lc` NaN.  A pixel with fewer than two valid cells keeps the ZEROS of `np.zeros` and `lopts = 0` - NOT the input, as
    the gufunc `ws2doptvplc` does (`out[:] = y[:]`).

    Hypotheses: `r < nr`, `c < nc` (a pixel of the cube); only for a pixel with more than one valid cell: `3 ≤ nt` (what the
    translated `ws2d` needs) and at least 2 points in the selected grid.  No hypothesis on `len(tyx)`: cells beyond the
    buffer read 0 on both sides. -/
theorem gen_ws2doptvplc_tyx_pixel (F : VFns α) (rnd : α → Int) (rsqrt : α → α) (eps : α)
    (arange : α → α → α → Array α) (c0_5 c1_2 c0_2 c3_2 : α) (tyx : List Int) (nt nr nc : ℕ) (p : α) (nodata : Int)
    (gNaN : List α) (r c : ℕ) (hr : r < nr) (hc : c < nc)
    (hfit : 1 < goodI nodata (pixSeries tyx nt nr nc r c) → 3 ≤ nt ∧
      2 ≤ (if c0_5 < lcM rsqrt eps nodata (pixSeries tyx nt nr nc r c) then (arange (-(nat 2)) c1_2 c0_2).toList
           else (arange (nat 0) c3_2 c0_2).toList).length) :
    match Hdc.optvplc F (fun x : α => eqv x ((nodata : ℤ) : α)) (castS (pixSeries tyx nt nr nc r c)) p
        (decide (c0_5 < lcM rsqrt eps nodata (pixSeries tyx nt nr nc r c)))
        (!decide (c0_5 < lcM rsqrt eps nodata (pixSeries tyx nt nr nc r c)))
        (arange (-(nat 2)) c1_2 c0_2).toList (arange (nat 0) c3_2 c0_2).toList gNaN with
    | some (z, lo) =>
      npCol3 (Gen.NumKernels.ws2doptvplc_tyx F rnd rsqrt eps arange c0_5 c1_2 c0_2 c3_2 tyx.toArray nt nr nc p nodata).1
          (0 : Int) nt nr nc r c = (z.map rnd).toArray ∧
      rd (Gen.NumKernels.ws2doptvplc_tyx F rnd rsqrt eps arange c0_5 c1_2 c0_2 c3_2 tyx.toArray nt nr nc p nodata).2
          (flat2 nr nc r c) = lo
    | none =>
      npCol3 (Gen.NumKernels.ws2doptvplc_tyx F rnd rsqrt eps arange c0_5 c1_2 c0_2 c3_2 tyx.toArray nt nr nc p nodata).1
          (0 : Int) nt nr nc r c = (List.replicate nt (0 : Int)).toArray ∧
      rd (Gen.NumKernels.ws2doptvplc_tyx F rnd rsqrt eps arange c0_5 c1_2 c0_2 c3_2 tyx.toArray nt nr nc p nodata).2
          (flat2 nr nc r c) = 0 := by
  have hS := gen_tyx_struct F rnd rsqrt eps arange c0_5 c1_2 c0_2 c3_2 tyx nt nr nc p nodata
  obtain ⟨h1, h2⟩ := hS.final (fun r c => by rw [pixOut_length, pixSeries_length]) hr hc
  beta_reduce at h1 h2
  rw [pixOut_eq_model F rnd rsqrt eps (arange (-(nat 2)) c1_2 c0_2) (arange (nat 0) c3_2 c0_2) c0_5 p nodata
    (pixSeries tyx nt nr nc r c) gNaN (by simpa using hfit)] at h1 h2
  split <;> rename_i hm <;> simp only [hm, pixSeries_length] at h1 h2 <;> exact ⟨h1, h2⟩

/-- the shapes of the two results -/
theorem gen_ws2doptvplc_tyx_shape (F : VFns α) (rnd : α → Int) (rsqrt : α → α) (eps : α)
    (arange : α → α → α → Array α) (c0_5 c1_2 c0_2 c3_2 : α) (tyx : List Int) (nt nr nc : ℕ) (p : α) (nodata : Int) :
    (Gen.NumKernels.ws2doptvplc_tyx F rnd rsqrt eps arange c0_5 c1_2 c0_2 c3_2 tyx.toArray nt nr nc p nodata).1.size
      = nt * nr * nc ∧
    (Gen.NumKernels.ws2doptvplc_tyx F rnd rsqrt eps arange c0_5 c1_2 c0_2 c3_2 tyx.toArray nt nr nc p nodata).2.size
      = nr * nc :=
  ⟨(gen_tyx_struct F rnd rsqrt eps arange c0_5 c1_2 c0_2 c3_2 tyx nt nr nc p nodata).sz,
   (gen_tyx_struct F rnd rsqrt eps arange c0_5 c1_2 c0_2 c3_2 tyx nt nr nc p nodata).sl⟩

/-! ### Non-vacuity: a `(5, 1, 2)` cube over ℚ, nodata = −1 (toy transcendental functions, a three-point toy `arange`,
`rsqrt v = 1 / v`, `rnd v = ⌊v + 1/2⌋`), evaluated on the model side.  Pixel (0, 0) has the series `1 2 4 3 5`
(`lc = 1/200 <= 0.5`: second grid; `#eval` of the model gives the column `2 3 4 4 5`, λ = 33/10), pixel (0, 1) has one valid
cell; the example below is the second pixel. -/

def FqT : VFns ℚ := ⟨fun x => x, fun x => x, fun x => x + 3, 1⟩
def arT : ℚ → ℚ → ℚ → Array ℚ := fun a _ c => #[a, a + c, a + 2 * c]
def cubeT : List Int := [1, 1, 2, -1, 4, -1, 3, -1, 5, -1]

theorem cubeT_00 : pixSeries cubeT 5 1 2 0 0 = [1, 2, 4, 3, 5] := by decide
theorem cubeT_01 : pixSeries cubeT 5 1 2 0 1 = [1, -1, -1, -1, -1] := by decide

/-- pixel (0, 1): a single valid cell - the zeros of `np.zeros`, λ = 0 (the input is NOT copied) -/
example :
    npCol3 (Gen.NumKernels.ws2doptvplc_tyx FqT (fun v : ℚ => Rat.floor (v + 1 / 2)) (fun v => 1 / v) (1 / 100000000) arT
        (1 / 2) (6 / 5) (1 / 5) (16 / 5) cubeT.toArray (5 : ℕ) (1 : ℕ) (2 : ℕ) (9 / 10) (-1)).1 (0 : Int) (5 : ℕ) (1 : ℕ) (2 : ℕ)
        (0 : ℕ) (1 : ℕ) = #[0, 0, 0, 0, 0] := by
  have h := gen_ws2doptvplc_tyx_pixel FqT (fun v : ℚ => Rat.floor (v + 1 / 2)) (fun v => 1 / v) (1 / 100000000) arT
    (1 / 2) (6 / 5) (1 / 5) (16 / 5) cubeT 5 1 2 (9 / 10) (-1) [] 0 1 (by decide) (by decide)
    (fun h => absurd h (by rw [cubeT_01]; decide))
  rw [cubeT_01, Hdc.GenNum.optvplc_invalid _ _ _ _ _ _ _ _ _ (by rw [countValid_cast]; decide)] at h
  exact h.1
end Hdc.GenNumTyx
