import Hdc.Lemmas.GenNumPgu
import Std.Tactic.Do
/-
GenNumPgu  The GENERATED translation of `hdc/algo/ops/ws2dpgu.py::ws2dpgu` (Hdc/Gen/NumWs2dpgu.lean, written by
harness/py2lean_fixed.py from the current Python source: an `Id.run do` program over an abstract carrier, its
NumPy vector expressions composed from the combinators of Hdc/PyNpF.lean) computes the hand model `Hdc.pgu`
(`irls`: at most 10 re-weighting passes from the zero curve, early `break` when a pass reproduces the curve;
then one more fit with the last weights).

  gen_ws2dpgu_eq_model     = (curve of `Hdc.pgu`).map rnd  /  the input (pass-through), for all inputs
  gen_ws2dpgu_some, gen_ws2dpgu_none, gen_ws2dpgu_size     corollaries

Method: `gen_ws2dpgu_body` (Hdc/Lemmas/GenNumPgu.lean): one run of `mvcgen` with one invariant for the
`for _ in range(10): … break` loop (`PInv`, Hdc/Lemmas/GenNumFixed.lean: "the model's loop, continued from the
current curve with the remaining fuel, returns the model's result"; a `break` lands on the end of the range),
held under `len(y) ≠ 2` so that the same run also covers the inputs on which only the pass-through and the size
are claimed.  The result is a `fitOrPass` (Hdc/Lemmas/GenNumFixed.lean), which has the three branches of `Hdc.pgu`.
The generated expressions are never copied into this file.
-/
namespace Hdc.GenNum
open Hdc Hdc.Gen.NumKernels Std.Do Hdc.PyNpF Hdc.Smooth

section pgu
variable {α : Type} [Field α] [LinearOrder α] [IsStrictOrderedRing α]

/-- The translated `ws2dpgu` equals the hand model `Hdc.pgu` with the missing-cell test
    `x == nodata or isnan(x) or isinf(x)` (`isnan`, `isinf` arbitrary predicates): the rounded asymmetric
    (expectile) curve if `λ ≠ 0` and at least two cells are valid, the input otherwise.

    Hypotheses (as for `gen_ws2dgu_eq_model`).
    * `hout : out0.size = len(y)` - the gufunc layout `(n),(),(),() -> (n)`; the kernel writes *into* `out`.
    * `h2 : len(y) ≠ 2` - `ws2d` is specified for `n ≥ 3`; with `n ≤ 1` it is never called.
 -/
theorem gen_ws2dpgu_eq_model (rnd : α → α) (isnan isinf : α → Bool) (y : List α)
    (lam nodata p : α) (out0 : Array α) (hout : out0.size = y.length) (h2 : y.length ≠ 2) :
    Gen.NumKernels.ws2dpgu rnd isnan isinf y.toArray lam nodata p out0 =
      match Hdc.pgu (fun x => eqv x nodata || isnan x || isinf x) y lam p with
      | some z => (z.map rnd).toArray
      | none => y.toArray := by
  obtain ⟨ww, hr, hw⟩ := gen_ws2dpgu_body rnd isnan isinf y lam nodata p out0 _ rfl
  rw [hr]
  exact fitOrPass_eq hout _ (hw h2 hout)

/-- the model produces a curve: the output is its rounding -/
theorem gen_ws2dpgu_some (rnd : α → α) (isnan isinf : α → Bool) (y : List α) (lam nodata p : α)
    (out0 : Array α) (hout : out0.size = y.length) (h2 : y.length ≠ 2) (z : List α)
    (hm : Hdc.pgu (fun x => eqv x nodata || isnan x || isinf x) y lam p = some z) :
    Gen.NumKernels.ws2dpgu rnd isnan isinf y.toArray lam nodata p out0 = (z.map rnd).toArray := by
  rw [gen_ws2dpgu_eq_model rnd isnan isinf y lam nodata p out0 hout h2, hm]

/-- the model passes the input through (`λ = 0` or fewer than two valid cells); no restriction on `len(y)` -/
theorem gen_ws2dpgu_none (rnd : α → α) (isnan isinf : α → Bool) (y : List α) (lam nodata p : α)
    (out0 : Array α) (hout : out0.size = y.length)
    (hm : Hdc.pgu (fun x => eqv x nodata || isnan x || isinf x) y lam p = none) :
    Gen.NumKernels.ws2dpgu rnd isnan isinf y.toArray lam nodata p out0 = y.toArray := by
  obtain ⟨ww, hr, -⟩ := gen_ws2dpgu_body rnd isnan isinf y lam nodata p out0 _ rfl
  rw [hr]
  exact fitOrPass_none hout _ hm

/-- the output keeps the length of the buffer -/
theorem gen_ws2dpgu_size (rnd : α → α) (isnan isinf : α → Bool) (y : Array α) (lam nodata p : α)
    (out0 : Array α) :
    (Gen.NumKernels.ws2dpgu rnd isnan isinf y lam nodata p out0).size = out0.size := by
  obtain ⟨ww, hr, -⟩ := gen_ws2dpgu_body rnd isnan isinf y.toList lam nodata p out0 _ rfl
  rw [← y.toArray_toList, hr]
  exact size_fitOrPass ..

/-! ### non-vacuity on concrete rational inputs (`rnd` the identity, no NaN / ∞ in ℚ) -/

/-- seven valid cells, λ = 2, p = 9/10 (upper envelope); the buffer starts with garbage -/
example :
    Gen.NumKernels.ws2dpgu (fun v => v) (fun _ => false) (fun _ => false)
        [1, 2, 4, 3, 5, 9, 2].toArray (2 : ℚ) (-1) (9 / 10) #[7, 7, 7, 7, 7, 7, 7]
      = #[2615232807 / 2371664947, 17894268182 / 7114994841, 27906302764 / 7114994841,
          37662053063 / 7114994841, 47190924445 / 7114994841, 55706468849 / 7114994841,
          61841440702 / 7114994841] := by
  rw [gen_ws2dpgu_some _ _ _ [1, 2, 4, 3, 5, 9, 2] _ _ _ _ (by rfl) (by decide)
    [2615232807 / 2371664947, 17894268182 / 7114994841, 27906302764 / 7114994841,
      37662053063 / 7114994841, 47190924445 / 7114994841, 55706468849 / 7114994841,
      61841440702 / 7114994841] (by decide +kernel)]
  rfl

/-- one nodata cell -/
example :
    Gen.NumKernels.ws2dpgu (fun v => v) (fun _ => false) (fun _ => false)
        [1, 2, -1, 3, 5, 9, 2].toArray (2 : ℚ) (-1) (9 / 10) #[7, 7, 7, 7, 7, 7, 7]
      = #[100559501 / 102213981, 243259262 / 102213981, 386703539 / 102213981,
          529695283 / 102213981, 671037445 / 102213981, 798380309 / 102213981,
          891375782 / 102213981] := by
  rw [gen_ws2dpgu_some _ _ _ [1, 2, -1, 3, 5, 9, 2] _ _ _ _ (by rfl) (by decide)
    [100559501 / 102213981, 243259262 / 102213981, 386703539 / 102213981,
      529695283 / 102213981, 671037445 / 102213981, 798380309 / 102213981,
      891375782 / 102213981] (by decide +kernel)]
  rfl

/-- p = 1/2: the symmetric weights are half the validity weights and the loop stops by `break` -/
example :
    Gen.NumKernels.ws2dpgu (fun v => v) (fun _ => false) (fun _ => false)
        [1, 2, 3, 4, 5].toArray (2 : ℚ) (-1) (1 / 2) #[7, 7, 7, 7, 7] = #[1, 2, 3, 4, 5] := by
  rw [gen_ws2dpgu_some _ _ _ [1, 2, 3, 4, 5] _ _ _ _ (by rfl) (by decide) [1, 2, 3, 4, 5]
    (by decide +kernel)]
  rfl

/-- a single valid cell: pass-through (the nodata cells are returned as they came) -/
example :
    Gen.NumKernels.ws2dpgu (fun v => v) (fun _ => false) (fun _ => false)
        [1, -1, -1, -1].toArray (2 : ℚ) (-1) (9 / 10) #[7, 7, 7, 7] = #[1, -1, -1, -1] := by
  rw [gen_ws2dpgu_none _ _ _ [1, -1, -1, -1] _ _ _ _ (by rfl) (by decide +kernel)]

/-- λ = 0: pass-through, also on two cells -/
example :
    Gen.NumKernels.ws2dpgu (fun v => v) (fun _ => false) (fun _ => false)
        [1, 2].toArray (0 : ℚ) (-1) (9 / 10) #[7, 7] = #[1, 2] := by
  rw [gen_ws2dpgu_none _ _ _ [1, 2] _ _ _ _ (by rfl) (by decide +kernel)]

/-! ### the two hypotheses are needed -/

/-- `len(y) = 2`, both cells valid: the source (`ws2d` reads wrapped-around cells) and the model differ -/
example :
    Gen.NumKernels.ws2dpgu (fun v => v) (fun _ => false) (fun _ => false) [1, 2].toArray (2 : ℚ)
        (-1) (9 / 10) #[7, 7] = #[353401 / 185281, 368602 / 185281]
    ∧ Hdc.pgu (fun x => eqv x (-1) || false || false) [1, 2] (2 : ℚ) (9 / 10)
        = some [-327 / 253, -294 / 253] := by
  decide +kernel

/-- a buffer of another length than the series: `out[:] = y[:]` cannot be performed (NumPy raises; the
    translation keeps the buffer) -/
example :
    Gen.NumKernels.ws2dpgu (fun v => v) (fun _ => false) (fun _ => false) [1, 2, 4, 3, 5].toArray
        (0 : ℚ) (-1) (9 / 10) #[7, 7, 7] = #[7, 7, 7] := by
  decide +kernel

end pgu

end Hdc.GenNum
