import Hdc.Lemmas.GenNum
import Hdc.Gen.NumTinterpolate
import Hdc.Lemmas.GenNumTI
import Std.Tactic.Do
/-
GenNumTI  The GENERATED translation of `hdc/algo/ops/tinterpolate.py::tinterpolate` (Hdc/Gen/NumTinterpolate.lean, an
imperative `Id.run do` program over an abstract carrier `α` with Python index semantics, regenerated from the
Python source on every verification run) computes its hand model `Hdc.tinterp`.

  gen_tinterpolate_spec        any output buffer: the model's bands, then the old content
  gen_tinterpolate_eq_model    buffer of one cell per label run: = (tinterp …).map round(sum/days)

Method (as in C01gen / GenKernels): the verification-condition generator `mvcgen` (Std.Do) is run on the generated
program with one invariant per loop (`Scat`, `Runs`: Hdc/Lemmas/GenNumTI.lean); the generated expressions are
never copied into this file; positions of `for … in range(a, b)` come from `pyRange_split`; each verification
condition is handled under its tag, the `let` variables of the source being unfolded only in the hypotheses it
needs.
-/
namespace Hdc.GenNum
open Hdc Hdc.Gen.NumKernels Std.Do
open Hdc.Ws2dGen (av Holds)
open Hdc.Ws2d (fnl)
open Hdc.GenKernels (gv lv gv_toArray)

set_option mvcgen.warning false

/-! ### tinterpolate: scatter the observations, smooth, average per label run -/

section tinterpolate
variable {α : Type} [Field α] [LinearOrder α] [IsStrictOrderedRing α]

/-- the vector the model hands to the smoother -/
def tiTemp (x template : List α) : List α :=
  setLast (scatterMarks template x) (x.getLastD (nat 0))

/-- the daily curve of the translated source (a call of the translated `ws2d`) is the daily curve
    of the model (`Hdc.ws2d`): `C01gen.gen_ws2d_eq_model`, which needs at least 3 days -/
theorem ti_curve {t x : List α} {p : ℕ} {temp : Array α} {ii jj : ℤ} (lam : α)
    (h : Scat t x p temp ii jj) (hp : p = t.length) (h3 : 3 ≤ t.length) :
    (Gen.Ws2d.ws2d (wr temp (-1) (rd x.toArray (-1))) lam t.toArray).toList
      = Hdc.ws2d (tiTemp x t) lam t := by
  rw [h.final hp (by omega)]
  exact C01gen.gen_ws2d_eq_model _ t lam
    (by rw [Stats.setLast_length, Stats.scatterMarks_length])
    (by rw [Stats.setLast_length, Stats.scatterMarks_length]; exact h3)

/-- The translated `tinterpolate`, for an output buffer of ANY size: the buffer receives the model's
    values `round(sum / days)` run by run; if it is longer than the number of runs the cells beyond
    keep their content, if it is shorter the writes beyond its end are dropped (Python raises an
    IndexError there, Numba does not check).

    Contract used: `len(template) = len(labels) ≥ 3` (what the translated `ws2d` needs; the kernel's
    contract says ≥ 4 days), and at most `len(x)` nonzero template cells (otherwise the source
    reads `x[jj]` beyond the end of `x`). -/
theorem gen_tinterpolate_spec (rnd : α → α) (lam : α) (x template : List α) (labels : List Int)
    (out0 : Array α) (hlen : template.length = labels.length) (h3 : 3 ≤ template.length)
    (hm : nmarks template ≤ x.length) :
    (Gen.NumKernels.tinterpolate rnd lam x.toArray template.toArray labels.toArray out0).toList
      = ((Hdc.tinterp lam x template labels).map (band rnd)
          ++ out0.toList.drop (Hdc.tinterp lam x template labels).length).take out0.size := by
  have hzl : labels.length ≤ (Hdc.ws2d (tiTemp x template) lam template).length := by
    rw [tiTemp, Stats.tinterp_z_length, hlen]
  generalize hres :
    Gen.NumKernels.tinterpolate rnd lam x.toArray template.toArray labels.toArray out0 = res
  apply Id.of_wp_run_eq hres
  mvcgen -trivial invariants
  -- state `(temp, ii, jj)`
  · ⇓⟨xs, s⟩ => ⌜Scat template x xs.prefix.length s.1 s.2.1 s.2.2⌝
  -- state `(out, ii, jj, kk, v)`
  · ⇓⟨xs, s⟩ => ⌜Runs labels (Hdc.ws2d (tiTemp x template) lam template) (band rnd) out0
        xs.prefix.length s.1 s.2.1 s.2.2.1 s.2.2.2.1 s.2.2.2.2⌝
  -- scatter loop: a mark / no mark
  case vc1 | vc2 =>
    rename_i hc hS
    have hrange := pyRange_split _ _ _ _ _ ‹pyRange _ _ = _›
    simp (config := {zetaDelta := true}) only [List.size_toArray] at hrange
    rw [List.length_append]
    first
      | exact hS.step_mark (by omega) hm hc (by omega)
      | exact hS.step_zero (by omega) hc (by omega)
  case vc3 => exact Scat.init template x
  -- run-length loop: same label / new label
  case vc4 | vc5 =>
    rename_i hc hR
    have hrange := pyRange_split _ _ _ _ _ ‹pyRange _ _ = _›
    py_name pref as pref
    have hS := ‹Scat _ _ _ _ _ _›
    have hii := hR.hii
    simp (config := {zetaDelta := true}) only [List.size_toArray, pyRange_length, decide_eq_true_eq] at hS hrange hc ⊢
    rw [rdI_of_eq _ _ (pref.length + 1) (by omega), rdI_of_eq _ _ pref.length (by omega), gv_toArray,
      gv_toArray] at hc
    rw [rd_of_eq _ _ (pref.length + 1) (by omega), av_eq_fnl_toList, ti_curve lam hS (by omega) h3,
      List.length_append]
    first
      | exact hR.step_same (by omega) hzl hc
      | exact hR.step_new (by omega) hzl hc
  -- entry of the run-length loop (`v = z[0]`)
  case vc6 =>
    have hS := ‹Scat _ _ _ _ _ _›
    simp (config := {zetaDelta := true}) only [List.size_toArray, pyRange_length] at hS ⊢
    rw [rd_of_eq _ 0 0 rfl, av_eq_fnl_toList, ti_curve lam hS (by omega) h3]
    exact Runs.init labels _ _ out0 (by omega) (by omega)
  -- exit: the last run is written
  case vc7 =>
    have hR := ‹Runs _ _ _ _ _ _ _ _ _ _›
    simp (config := {zetaDelta := true}) only [List.size_toArray, pyRange_length] at hR ⊢
    have hf := hR.final (by omega) hzl
    exact toList_of_spec hf.1 hf.2

/-- The translated `tinterpolate` equals the hand model, under the kernel's contract: the output
    buffer has one cell per maximal run of equal labels. -/
theorem gen_tinterpolate_eq_model (rnd : α → α) (lam : α) (x template : List α)
    (labels : List Int) (out0 : Array α) (hlen : template.length = labels.length)
    (h3 : 3 ≤ template.length) (hm : nmarks template ≤ x.length)
    (hl : out0.size = (labels.splitBy (· == ·)).length) :
    (Gen.NumKernels.tinterpolate rnd lam x.toArray template.toArray labels.toArray out0).toList
      = (Hdc.tinterp lam x template labels).map (fun (v, k) => rnd (v / (k : α))) := by
  rw [gen_tinterpolate_spec rnd lam x template labels out0 hlen h3 hm, hl,
    ← tinterp_length lam x template labels hlen, List.take_left' (by simp)]
  rfl

/-- non-vacuity: 6 days, marks on days 0, 3, 5, two label runs of 3 days, λ = 1, `round` the identity;
    the buffer starts with garbage -/
example : (Gen.NumKernels.tinterpolate (fun v => v) (1 : ℚ) [10, 20, 30].toArray
      [1, 0, 0, 1, 0, 1].toArray [1, 1, 1, 2, 2, 2].toArray #[7, 7]).toList
    = [4070 / 309, 2580 / 103] := by
  rw [gen_tinterpolate_eq_model _ _ _ _ _ _ (by decide) (by decide) (by decide +kernel) (by decide)]
  decide +kernel

/-- a buffer that is one cell too long keeps its last cell -/
example : (Gen.NumKernels.tinterpolate (fun v => v) (1 : ℚ) [10, 20, 30].toArray
      [1, 0, 0, 1, 0, 1].toArray [1, 1, 1, 2, 2, 2].toArray #[7, 7, 7]).toList
    = [4070 / 309, 2580 / 103, 7] := by
  rw [gen_tinterpolate_spec _ _ _ _ _ _ (by decide) (by decide) (by decide +kernel)]
  decide +kernel

end tinterpolate

end Hdc.GenNum
