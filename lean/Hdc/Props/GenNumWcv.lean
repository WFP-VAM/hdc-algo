import Hdc.Lemmas.GenNumWcvTac
import Hdc.Gen.NumWs2dwcv
import Std.Tactic.Do
/-
GenNumWcv  The GENERATED translation of `hdc/algo/ops/ws2dwcv.py::ws2dwcv` (Hdc/Gen/NumWs2dwcv.lean, an imperative
`Id.run do` program over an abstract carrier `α`, written by harness/py2lean_wcv.py from the Python source, NumPy
idioms through the combinators of Hdc/PyNpW.lean) computes the hand model `Hdc.wcv` — the WHOLE function, both
`robust = False` and `robust = True`:

  gen_ws2dwcv_eq_model   ws2dwcv G cos isnan isinf rnd pi y nodata llas robust out lopt
                           = wcvOut rnd y (wcv G (x == nodata or isnan x or isinf x) y llas robust)

where `wcvOut` is what a caller sees: `some (y, [0])` for the pass-through (`n <= 4`), `some (round(z), [λ])` for a fit,
and `none` when the source reads the local `y_temp` before it is bound (Python: UnboundLocalError; model: `.unbound`;
the translator tracks it with the flags `y_temp_set` / `unbound`).

Hypotheses (all inputs otherwise: every `y`, `llas` — also empty —, `nodata`, `robust`, every `out` buffer):
  * `hG`: the model's eigenvalue table is the source's expression `-2 + 2 cos(i π / m)` (the model abstracts it as
    `G.eig i m`; `cos`, `π` are parameters of the translation);
  * `hl`: `lopt` is a one-cell buffer (the `()` output of the gufunc; with an empty buffer `lopt[0] = …` writes nothing).
`np.median`, `np.max`, `np.min` are the model's `median` / `maxL` / `minL` by DEFINITION of the combinators
`npMedian` / `npMax` / `npMin` (Hdc/PyNpW.lean): the theorem is modulo "NumPy's functions compute these".

Method: the straight-line head of the function (`m`, `w`, `n`, `d_eigs`) is taken out of the program and identified
with the model's values once; the rest goes through `mvcgen` (Std.Do) with one invariant per loop — `OuterInv` for
`for it in range(r_its)` (the model's chain of `gstep`s, or "the source has failed and `unbound` is up"), `SweepOk`
for `for s in lambda_range` (the model's `gcvSweep` over the λ values seen so far).  Each verification condition is
one lemma of Hdc/Lemmas/GenNumWcv.lean, stated on the arrays the source binds (`SweepOk.lt_arr`, `OuterInv.reweight_arr`,
…; the same lemmas serve GenNumWcvp.lean), and is addressed by the name `mvcgen` gives it.  `robust` decides `r_its`
and whether the re-weighting block runs, so the generator is run once for each value, on the program with the dead
branches removed (11 + 21 conditions, and the pass-through); it duplicates the loops along `if it > 1`.
-/
namespace Hdc.GenNum
open Hdc Hdc.Gen.NumKernels Hdc.PyNpW Hdc.Smooth Std.Do

set_option mvcgen.warning false

section wcv
variable {α : Type} [Field α] [LinearOrder α] [IsStrictOrderedRing α]

/-- The translated `ws2dwcv` equals the hand model `Hdc.wcv` (missing-cell test
    `x == nodata or isnan x or isinf x`), as the pair of arrays `(out, lopt)` a caller sees; `none` = the
    source's unbound-variable failure. -/
theorem gen_ws2dwcv_eq_model (G : GFns α) (cos : α → α) (isnan isinf : α → Bool) (rnd : α → α) (pi : α)
    (y llas : List α) (nodata : α) (robust : Bool) (out0 lopt0 : Array α)
    (hG : ∀ i m : ℕ, G.eig i m = -2 + 2 * cos ((i : α) * pi / (m : α))) (hl : lopt0.size = 1) :
    Gen.NumKernels.ws2dwcv G cos isnan isinf rnd pi y.toArray nodata llas.toArray robust out0 lopt0 =
      wcvOut rnd y (wcv G (missG nodata isnan isinf) y llas robust) := by
  generalize hres : Gen.NumKernels.ws2dwcv G cos isnan isinf rnd pi y.toArray nodata llas.toArray robust out0 lopt0 = res
  apply Id.of_wp_run_eq hres
  clear hres
  -- the straight-line head of the function: `m`, `w`, `n`, `d_eigs` are the model's
  extract_lets +onlyGivenNames -merge ya0 out lopt unbound y_temp y_temp_set robust_weights robust_weights_set
    ma wa na dea0 dea
  have hn4 : (nat 4 : α) < na ↔ 4 < countValid (missG nodata isnan isinf) y := four_lt_arr nodata isnan isinf y
  have hC : 4 < countValid (missG nodata isnan isinf) y →
      Bound _ _ _ _ (npWhereSA (npMap (fun e => eqv e (nat 0)) wa) (nat 0) ya0) wa dea na ma :=
    Bound.head G cos pi hG nodata isnan isinf y
  clear_value wa dea na ma
  clear dea0
  split
  next hn =>
    have h4 := hn4.1 (of_decide_eq_true hn)
    have C := hC h4
    have hya := C.ya
    have hma := C.m
    rw [cleanOf_length] at hma
    clear hn hn4 hC
    -- `robust` decides `r_its` and the re-weighting block: one run of the generator for each value
    cases robust
    case false =>
      simp -zeta only [Bool.not_false, Bool.false_eq_true, ↓reduceIte]
      mvcgen -trivial -elimLets invariants
      · outer_inv false
      · sweep_inv
      · sweep_inv
      -- inside the loops the last hypothesis of a condition is what the loop over the λ grid has established; the
      -- invariants given by tactic blocks reach the conditions unreduced
      all_goals
        rename_i hsw
        try dsimp only [id, PostCond.noThrow, SPred.down_pure] at hsw ⊢
      -- entry of the robust loop, of the loop over the λ grid
      case vc9 =>
        exact OuterInv.init G _ _ _ _ false _ ma.toNat (by rw [hma, cleanOf_length]; simp) _
      case vc3 | vc7 =>
        exact OuterInv.sweep_init ‹_›
      -- one λ: `gcv[0] < gcv_temp[0]` / not
      case vc1 | vc5 =>
        exact SweepOk.lt_arr C ‹_› hsw rfl rfl ‹_›
      case vc2 | vc6 =>
        exact SweepOk.ge_arr C ‹_› hsw rfl rfl ‹_›
      -- one iteration of the robust loop (the λ values: `[robust_gcv[1][1]]` if `it > 1`, `10 ** llas` otherwise)
      case vc4 | vc8 =>
        exact OuterInv.plain_arr C ‹_› (by wcv_lams) hsw Bool.false_ne_true
      -- after the loop: `robust_weights` unbound (excluded by the invariant) / bound
      case vc10 =>
        exact (OuterInv.out_eq h4 hsw rnd hya hl out0).1 ‹_›
      case vc11 =>
        exact (OuterInv.out_eq h4 hsw rnd hya hl out0).2
    case true =>
      simp -zeta only [Bool.not_true, Bool.false_eq_true, ↓reduceIte]
      mvcgen -trivial -elimLets invariants
      · outer_inv true
      · sweep_inv
      · sweep_inv
      all_goals
        rename_i hsw
        try dsimp only [id, PostCond.noThrow, SPred.down_pure] at hsw ⊢
      case vc19 =>
        exact OuterInv.init G _ _ _ _ true _ ma.toNat (by rw [hma, cleanOf_length]; simp) _
      case vc3 | vc12 =>
        exact OuterInv.sweep_init ‹_›
      case vc1 | vc10 =>
        exact SweepOk.lt_arr C ‹_› hsw rfl rfl ‹_›
      case vc2 | vc11 =>
        exact SweepOk.ge_arr C ‹_› hsw rfl rfl ‹_›
      -- `y_temp` unbound after the sweep: the source fails
      case vc4 | vc5 | vc6 | vc13 | vc14 | vc15 =>
        exact OuterInv.unset_arr ‹_› (by wcv_lams) hsw rfl ‹_› _ _ _ _
      -- `y_temp` bound: the new weights, or the old ones when fewer than two cells would keep a positive weight or
      -- the MAD is at noise level
      case vc7 | vc16 =>
        exact OuterInv.reweight_arr C ‹_› (by wcv_lams) hsw rfl ‹_› (.inl ⟨‹_›, ‹_›, rfl⟩)
      case vc8 | vc17 =>
        exact OuterInv.reweight_arr C ‹_› (by wcv_lams) hsw rfl ‹_› (.inr ⟨.inr ‹_›, rfl⟩)
      case vc9 | vc18 =>
        exact OuterInv.reweight_arr C ‹_› (by wcv_lams) hsw rfl ‹_› (.inr ⟨.inl ‹_›, rfl⟩)
      case vc20 =>
        exact (OuterInv.out_eq h4 hsw rnd hya hl out0).1 ‹_›
      case vc21 =>
        exact (OuterInv.out_eq h4 hsw rnd hya hl out0).2
  -- the pass-through branch `n <= 4`
  next hn =>
    mvcgen -trivial
    have h4 : ¬ 4 < countValid (missG nodata isnan isinf) y := fun h => hn (decide_eq_true (hn4.2 h))
    rw [wcv_unfold, if_neg h4]
    simp [wcvOut, wr_one _ _ hl, ya0]

end wcv

/-! ### non-vacuity: concrete rational inputs (toy transcendental functions) -/

/-- a toy cosine over ℚ -/
def cosq (x : ℚ) : ℚ := 1 - x * x / 2

/-- toy `GFns` over ℚ: `sqrt x = x`, `x ** 0.5 = x`, `10 ** x = x + 1`, `big = 10⁶`, `c1 = 3/2`, `c2 = 5`;
    the MAD threshold `madtol = 1000` is so large that the robust weights are always kept -/
def Gq : GFns ℚ :=
  ⟨fun i m => -2 + 2 * cosq ((i : ℚ) * 3 / (m : ℚ)), 1 / 1000, fun x => x, fun x => x, fun x => x + 1, 1000000,
    3 / 2, 5, 1000⟩

/-- … and one with `sqrt x = 1`, `c1 = 1`, `c2 = 2`, `madtol = 1/1000`, with which the robust loop does re-weight -/
def Gr : GFns ℚ :=
  ⟨fun i m => -2 + 2 * cosq ((i : ℚ) * 3 / (m : ℚ)), 1 / 1000, fun _ => 1, fun x => x, fun x => x + 1, 1000000,
    1, 2, 1 / 1000⟩

theorem hGq : ∀ i m : ℕ, Gq.eig i m = -2 + 2 * cosq ((i : ℚ) * 3 / (m : ℚ)) := fun _ _ => rfl
theorem hGr : ∀ i m : ℕ, Gr.eig i m = -2 + 2 * cosq ((i : ℚ) * 3 / (m : ℚ)) := fun _ _ => rfl

/-- `robust = False`: six valid cells, two grid points; the buffers start with garbage -/
example :
    Gen.NumKernels.ws2dwcv Gq cosq (fun _ => false) (fun _ => false) (fun v => v) 3
        [1, 5, 2, 8, 3, 4].toArray (-1) [0, 1].toArray false #[] #[9]
      = some (#[10075 / 5017, 16735 / 5017, 20866 / 5017, 24114 / 5017, 22709 / 5017, 20892 / 5017], #[2]) := by
  rw [gen_ws2dwcv_eq_model _ _ _ _ _ _ _ _ _ _ _ _ hGq rfl]
  decide +kernel

/-- `robust = True` (re-weighting in every iteration).  The model's `median` sorts with `List.mergeSort`
    (well-founded recursion), which the kernel cannot evaluate, so this instance is stated against the model;
    `#eval` gives `some (#[1, 4, 6, 8, 10], #[1])` for both sides. -/
example :
    Gen.NumKernels.ws2dwcv Gr cosq (fun _ => false) (fun _ => false) (fun v => (Rat.floor v : ℚ)) 3
        [1, 5, 2, 8, 3].toArray (-1) [0].toArray true #[] #[9]
      = wcvOut (fun v => (Rat.floor v : ℚ)) [1, 5, 2, 8, 3]
          (wcv Gr (missG (-1) (fun _ => false) (fun _ => false)) [1, 5, 2, 8, 3] [0] true) :=
  gen_ws2dwcv_eq_model _ _ _ _ _ _ _ _ _ _ _ _ hGr rfl

/-- four valid cells: pass-through, `lopt = 0` -/
example :
    Gen.NumKernels.ws2dwcv Gq cosq (fun _ => false) (fun _ => false) (fun v => v) 3
        [1, 5, -1, -1, 8, 3, -1].toArray (-1) [0, 1].toArray true #[7] #[9]
      = some (#[1, 5, -1, -1, 8, 3, -1], #[0]) := by
  rw [gen_ws2dwcv_eq_model _ _ _ _ _ _ _ _ _ _ _ _ hGq rfl]
  decide +kernel

/-- `robust = True` and no GCV score below the initial best (`big = 0`): the source reads the unbound
    `y_temp` (UnboundLocalError in Python; the model says `.unbound`): no result -/
example :
    Gen.NumKernels.ws2dwcv { Gq with big := 0 } cosq (fun _ => false) (fun _ => false) (fun v => v) 3
        [1, 5, 2, 8, 3, 4].toArray (-1) [0, 1].toArray true #[] #[9] = none := by
  rw [gen_ws2dwcv_eq_model _ _ _ _ _ _ _ _ _ _ _ _ (fun _ _ => rfl) rfl]
  decide +kernel

end Hdc.GenNum
