import Hdc.Lemmas.GenNumWcvTac
import Hdc.Gen.NumWs2dwcvp
import Std.Tactic.Do
/-
GenNumWcvp  The GENERATED translation of `hdc/algo/ops/ws2dwcvp.py::ws2dwcvp` (Hdc/Gen/NumWs2dwcvp.lean, written by
harness/py2lean_wcv.py) computes the hand model `Hdc.wcvp` — the whole function: the λ selection shared with ws2dwcv
(robust loop, loop over the λ grid), then the asymmetric re-weighting loop `for _ in range(10)` with its `break`, the
final fit and the rounding:

  gen_ws2dwcvp_eq_model  ws2dwcvp G cos isnan isinf rnd pi y nodata p llas robust out lopt
                           = wcvOut rnd y (wcvp G (x == nodata or isnan x or isinf x) y p llas robust)

Hypotheses and conventions as in GenNumWcv.lean (`hG`: eigenvalue table = the source's expression; `hl`: `lopt` is a
one-cell buffer; every `y`, `p`, `llas`, `nodata`, `robust`, `out`).

Invariants: `OuterInv`, `SweepOk` as for ws2dwcv, and `IrlsInv` for the re-weighting loop (`IrlsOk`: the model's
`irls`, continued from the current `(z, ww)` with the remaining passes, returns what it returns from the zero curve;
at a `break` the remaining budget is 0) — Hdc/Lemmas/GenNumWcv.lean.  As for ws2dwcv the generator is run once
for each value of `robust` (15 + 25 conditions, and the pass-through); those of the λ selection are closed by the same
lemmas as for ws2dwcv, in the same order.
-/
namespace Hdc.GenNum
open Hdc Hdc.Gen.NumKernels Hdc.PyNpW Hdc.Smooth Std.Do

set_option mvcgen.warning false

section wcvp
variable {α : Type} [Field α] [LinearOrder α] [IsStrictOrderedRing α]

/-- The translated `ws2dwcvp` equals the hand model `Hdc.wcvp`, as the pair of arrays `(out, lopt)` a caller
    sees; `none` = the source's unbound-variable failure. -/
theorem gen_ws2dwcvp_eq_model (G : GFns α) (cos : α → α) (isnan isinf : α → Bool) (rnd : α → α) (pi : α)
    (y llas : List α) (nodata p : α) (robust : Bool) (out0 lopt0 : Array α)
    (hG : ∀ i m : ℕ, G.eig i m = -2 + 2 * cos ((i : α) * pi / (m : α))) (hl : lopt0.size = 1) :
    Gen.NumKernels.ws2dwcvp G cos isnan isinf rnd pi y.toArray nodata p llas.toArray robust out0 lopt0 =
      wcvOut rnd y (wcvp G (missG nodata isnan isinf) y p llas robust) := by
  generalize hres : Gen.NumKernels.ws2dwcvp G cos isnan isinf rnd pi y.toArray nodata p llas.toArray robust out0 lopt0 = res
  apply Id.of_wp_run_eq hres
  clear hres
  -- the straight-line head of the function: `m`, `w`, `n`, `d_eigs` are the model's
  extract_lets +onlyGivenNames -merge ya0 out lopt unbound y_temp y_temp_set robust_weights robust_weights_set
    ma wa na dea0 dea
  have hn4 : (nat 4 : α) < na ↔ 4 < countValid (missG nodata isnan isinf) y := four_lt_arr nodata isnan isinf y
  have hC : 4 < countValid (missG nodata isnan isinf) y →
      Bound _ _ _ _ (npWhereSA (npMap (fun e => eqv e (nat 0)) wa) (nat 0) ya0) wa dea na ma :=
    Bound.head G cos pi hG nodata isnan isinf y
  clear_value wa dea na ma
  clear dea0
  split
  next hn =>
    have h4 := hn4.1 (of_decide_eq_true hn)
    have C := hC h4
    have hya := C.ya
    have hma := C.m
    rw [cleanOf_length] at hma
    have hmn : ma.toNat = y.length := by rw [hma, Int.toNat_natCast]
    clear hn hn4 hC
    -- `robust` decides `r_its` and the re-weighting block: one run of the generator for each value
    cases robust
    case false =>
      simp -zeta only [Bool.not_false, Bool.false_eq_true, ↓reduceIte]
      mvcgen -trivial -elimLets invariants
      · outer_inv false
      · sweep_inv
      · sweep_inv
      · irls_inv 0
      -- inside the loops the last hypothesis of a condition is what the loop over the λ grid has established; the
      -- invariants given by tactic blocks reach the conditions unreduced
      all_goals
        rename_i hsw
        try dsimp only [id, PostCond.noThrow, SPred.down_pure] at hsw ⊢
      -- entry of the robust loop, of the loop over the λ grid
      case vc9 =>
        exact OuterInv.init G _ _ _ _ false _ ma.toNat (by rw [hma, cleanOf_length]; simp) _
      case vc3 | vc7 =>
        exact OuterInv.sweep_init ‹_›
      -- one λ: `gcv[0] < gcv_temp[0]` / not
      case vc1 | vc5 =>
        exact SweepOk.lt_arr C ‹_› hsw rfl rfl ‹_›
      case vc2 | vc6 =>
        exact SweepOk.ge_arr C ‹_› hsw rfl rfl ‹_›
      -- one iteration of the robust loop (the λ values: `[robust_gcv[1][1]]` if `it > 1`, `10 ** llas` otherwise)
      case vc4 | vc8 =>
        exact OuterInv.plain_arr C ‹_› (by wcv_lams) hsw Bool.false_ne_true
      -- the re-weighting loop: a pass that reads the unbound `robust_weights` (excluded by the invariant of the
      -- robust loop), a pass that reproduces the curve (`break`), one that does not
      case vc10 | vc11 =>
        exact IrlsInv.unset hsw ‹_› _ _ _ _ _
      case vc12 =>
        exact IrlsInv.stop C hl ‹_› hsw rfl ‹_›
      case vc13 =>
        exact IrlsInv.step C hl ‹_› hsw rfl ‹_›
      -- its entry `z[:] = 0.0`, and after it the final fit with the last weights, rounding
      case vc14 =>
        exact IrlsInv.init h4 hsw _ hmn
      case vc15 =>
        exact IrlsInv.result (robust := false) h4 ‹_› rnd hya hl hsw out0
    case true =>
      simp -zeta only [Bool.not_true, Bool.false_eq_true, ↓reduceIte]
      mvcgen -trivial -elimLets invariants
      · outer_inv true
      · sweep_inv
      · sweep_inv
      · irls_inv 1
      all_goals
        rename_i hsw
        try dsimp only [id, PostCond.noThrow, SPred.down_pure] at hsw ⊢
      case vc19 =>
        exact OuterInv.init G _ _ _ _ true _ ma.toNat (by rw [hma, cleanOf_length]; simp) _
      case vc3 | vc12 =>
        exact OuterInv.sweep_init ‹_›
      case vc1 | vc10 =>
        exact SweepOk.lt_arr C ‹_› hsw rfl rfl ‹_›
      case vc2 | vc11 =>
        exact SweepOk.ge_arr C ‹_› hsw rfl rfl ‹_›
      -- `y_temp` unbound after the sweep: the source fails
      case vc4 | vc5 | vc6 | vc13 | vc14 | vc15 =>
        exact OuterInv.unset_arr ‹_› (by wcv_lams) hsw rfl ‹_› _ _ _ _
      -- `y_temp` bound: the new weights, or the old ones when fewer than two cells would keep a positive weight or
      -- the MAD is at noise level
      case vc7 | vc16 =>
        exact OuterInv.reweight_arr C ‹_› (by wcv_lams) hsw rfl ‹_› (.inl ⟨‹_›, ‹_›, rfl⟩)
      case vc8 | vc17 =>
        exact OuterInv.reweight_arr C ‹_› (by wcv_lams) hsw rfl ‹_› (.inr ⟨.inr ‹_›, rfl⟩)
      case vc9 | vc18 =>
        exact OuterInv.reweight_arr C ‹_› (by wcv_lams) hsw rfl ‹_› (.inr ⟨.inl ‹_›, rfl⟩)
      -- the re-weighting loop: a pass that reads the unbound `robust_weights` (excluded by the invariant of the
      -- robust loop), a pass that reproduces the curve (`break`), one that does not
      case vc20 | vc21 =>
        exact IrlsInv.unset hsw ‹_› _ _ _ _ _
      case vc22 =>
        exact IrlsInv.stop C hl ‹_› hsw rfl ‹_›
      case vc23 =>
        exact IrlsInv.step C hl ‹_› hsw rfl ‹_›
      -- its entry `z[:] = 0.0`, and after it the final fit with the last weights, rounding
      case vc24 =>
        exact IrlsInv.init h4 hsw _ hmn
      case vc25 =>
        exact IrlsInv.result (robust := true) h4 ‹_› rnd hya hl hsw out0
  next hn =>
    mvcgen -trivial
    have h4 : ¬ 4 < countValid (missG nodata isnan isinf) y := fun h => hn (decide_eq_true (hn4.2 h))
    rw [wcvp_unfold, if_neg h4]
    simp [wcvOut, wr_one _ _ hl, ya0]

end wcvp

/-! ### non-vacuity: concrete rational inputs (toy transcendental functions) -/

/-- a toy cosine over ℚ -/
def cosqp (x : ℚ) : ℚ := 1 - x * x / 2

/-- toy `GFns` over ℚ: `sqrt x = x`, `x ** 0.5 = x`, `10 ** x = x + 1`, `big = 10⁶` -/
def Gqp : GFns ℚ :=
  ⟨fun i m => -2 + 2 * cosqp ((i : ℚ) * 3 / (m : ℚ)), 1 / 1000, fun x => x, fun x => x, fun x => x + 1, 1000000,
    3 / 2, 5, 1000⟩

theorem hGqp : ∀ i m : ℕ, Gqp.eig i m = -2 + 2 * cosqp ((i : ℚ) * 3 / (m : ℚ)) := fun _ _ => rfl

/-- `robust = False`, `p = 9/10`: six valid cells, two grid points; the buffers start with garbage -/
example :
    Gen.NumKernels.ws2dwcvp Gqp cosqp (fun _ => false) (fun _ => false) (fun v => v) 3
        [1, 5, 2, 8, 3, 4].toArray (-1) (9 / 10) [0, 1].toArray false #[] #[9]
      = some (#[66554629 / 17720169, 86412385 / 17720169, 103828418 / 17720169, 117345812 / 17720169,
          122088247 / 17720169, 124166396 / 17720169], #[2]) := by
  rw [gen_ws2dwcvp_eq_model _ _ _ _ _ _ _ _ _ _ _ _ _ hGqp rfl]
  decide +kernel

/-- four valid cells: pass-through, `lopt = 0` -/
example :
    Gen.NumKernels.ws2dwcvp Gqp cosqp (fun _ => false) (fun _ => false) (fun v => v) 3
        [1, 5, -1, -1, 8, 3, -1].toArray (-1) (9 / 10) [0, 1].toArray true #[7] #[9]
      = some (#[1, 5, -1, -1, 8, 3, -1], #[0]) := by
  rw [gen_ws2dwcvp_eq_model _ _ _ _ _ _ _ _ _ _ _ _ _ hGqp rfl]
  decide +kernel

/-- `robust = True` and no GCV score below the initial best (`big = 0`): the source reads the unbound
    `y_temp`: no result -/
example :
    Gen.NumKernels.ws2dwcvp { Gqp with big := 0 } cosqp (fun _ => false) (fun _ => false) (fun v => v) 3
        [1, 5, 2, 8, 3, 4].toArray (-1) (9 / 10) [0, 1].toArray true #[] #[9] = none := by
  rw [gen_ws2dwcvp_eq_model _ _ _ _ _ _ _ _ _ _ _ _ _ (fun _ _ => rfl) rfl]
  decide +kernel

/-- `robust = True` (stated against the model: its `median` sorts with `List.mergeSort`, which the kernel
    cannot evaluate; `#eval` agrees on both sides) -/
example :
    Gen.NumKernels.ws2dwcvp Gqp cosqp (fun _ => false) (fun _ => false) (fun v => v) 3
        [1, 5, 2, -1, 8, 3, 4].toArray (-1) (9 / 10) [0, 1].toArray true #[] #[9]
      = wcvOut (fun v => v) [1, 5, 2, -1, 8, 3, 4]
          (wcvp Gqp (missG (-1) (fun _ => false) (fun _ => false)) [1, 5, 2, -1, 8, 3, 4] (9 / 10) [0, 1] true) :=
  gen_ws2dwcvp_eq_model _ _ _ _ _ _ _ _ _ _ _ _ _ hGqp rfl

end Hdc.GenNum
