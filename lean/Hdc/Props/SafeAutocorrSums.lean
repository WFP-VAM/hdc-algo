import Hdc.Lemmas.SafeSim
import Hdc.Lemmas.SafeBase
import Hdc.Gen.SafeAutocorrSums
import Hdc.Gen.KAutocorrSums
import Std.Tactic.Do
/-
SafeAutocorrSums  Memory safety of the summation loop of `ops/autocorr.py::autocorr_1d_int` from the source (instrumented
translation Hdc/Gen/SafeAutocorrSums.lean): `xx = data[:-1]`, `yy = data[1:]`, `for i in range(len(xx))` reads `xx[i]`, `yy[i]`.
The slices are clamped by Python and Numba (never flagged); the loop is safe because both views have `max 0 (len data - 1)` cells.
-/
namespace Hdc.SafeProps
open Hdc Hdc.Gen Hdc.Gen.Kernels Hdc.SafeSim Hdc.SafeLemmas Hdc.GenKernels Std.Do

set_option mvcgen.warning false

/-- (i) the instrumented program IS the translated `autocorr_sums` plus a flag -/
theorem safe_autocorr_sums_fst (data : Array Int) (nodata : Int) :
    (Safe.autocorr_sums data nodata).1 = Kernels.autocorr_sums data nodata := by
  unfold Safe.autocorr_sums Kernels.autocorr_sums
  safe_sim

/-- (ii) no subscript leaves its array - for EVERY input (any length, also 0 and 1; any values): the kernel has no safety
    contract.  (It is a theorem about the source and not a triviality:
    `range(N)` -> `range(N + 1)` or `yy = data[2:]` break it.) -/
theorem safe_autocorr_sums_ok (data : Array Int) (nodata : Int) :
    (Safe.autocorr_sums data nodata).2 = false := by
  generalize hres : Safe.autocorr_sums data nodata = res
  apply Id.of_wp_run_eq hres
  mvcgen -trivial invariants
  · ⇓⟨xs, s⟩ => ⌜s.1 = false⌝
  all_goals first
    -- one iteration: `xx[i]`, `yy[i]` with `i < len(xx) = len(yy)`
    | (rename_i h
       have hi := pyRange_mem ‹pyRange 0 _ = _›
       exact or_oob (or_oob h hi)
         ⟨hi.1, lt_of_lt_of_eq hi.2 (congrArg Nat.cast (size_pySlice_tail_eq_init data).symm)⟩)
    -- entry and exit of the loop
    | rfl
    | exact ‹_ = false›

/-- non-vacuity: `Sxy`, `nxy` and the flag on a concrete series (the ten sums are (2, 1, 2, 1, 3, 5, 2, 6, 20, 2)) -/
example : ((Safe.autocorr_sums #[1, 2, -1, 4] (-1)).1.1, (Safe.autocorr_sums #[1, 2, -1, 4] (-1)).1.2.2.2.1,
    (Safe.autocorr_sums #[1, 2, -1, 4] (-1)).2) = (2, 1, false) := by decide +kernel
example : (Safe.autocorr_sums #[] (-1)).2 = false := by decide +kernel

end Hdc.SafeProps
