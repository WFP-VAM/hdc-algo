import Hdc.Gen.SafeBrentq
import Hdc.Gen.NumBrentq
import Hdc.Lemmas.GenNum
import Hdc.Lemmas.SafeBrent
import Hdc.Lemmas.SafeSimN
import Std.Tactic.Do
/-
SafeBrentq  Safety of `hdc/algo/ops/stats.py::brentq`, proved FROM THE SOURCE: `Hdc.Gen.Safe.brentq` (Hdc/Gen/SafeBrentq.lean) is
the statement-by-statement translation plus the flag `bad`.  `brentq` has no arrays; its scalar divisions are
    `/ 2` (twice; a non-zero literal: not instrumented),
    `/ (fcur - fpre)`, `/ (xpre - xcur)`, `/ (xblk - xcur)`, `/ (dblk * dpre * (fblk - fpre))`     -> `bad := bad || eqv … (nat 0)`.

  safe_brentq_fst   (Safe.brentq f xtol rtol xa xb s).1 = Gen.NumKernels.brentq f xtol rtol xa xb s      every carrier, every input
  safe_brentq_ok    (Safe.brentq f xtol rtol xa xb s).2 = false      for EVERY `f`, every bracket, every `xtol`, `rtol` (no hypothesis
                    at all), over every linearly ordered field: no divisor of `brentq` can be zero.  (The argument is exact-arithmetic:
                    it uses `f x = f x`, i.e. that `func` is a function, and the sign rules of an ordered field.)

Method: `mvcgen` with an early-return invariant (`PInv`, Hdc/Lemmas/SafeBrent.lean, on the model's state); one verification
condition per path through the `if`s of the loop body, each closed by two lemmas of that file: one for the start of the pass
(`PInv.mid`, with the model's re-bracketing `brentBracket_of` of Hdc/Lemmas/GenNumGamma.lean), one for its end (`returns`;
`Mid.flag` and `Mid.next`).  The paths on which the bracket was reset or swapped reach the inverse quadratic branch only
with `xpre = xblk`, i.e. not at all.
-/
namespace Hdc.SafeBrentq
open Hdc Hdc.Gen.NumKernels Hdc.GenNum Hdc.SafeL Hdc.SafeBrent Hdc.SafeSimN Std.Do

set_option mvcgen.warning false

/-- (i) the instrumented program is the translated source plus a flag -/
theorem safe_brentq_fst {α : Type} [Add α] [Sub α] [Mul α] [Div α] [Neg α] [NatCast α] [LT α] [DecidableLT α]
    (f : α → α) (xtol rtol xa xb s : α) :
    (Gen.Safe.brentq f xtol rtol xa xb s).1 = Gen.NumKernels.brentq f xtol rtol xa xb s := by
  unfold Gen.Safe.brentq Gen.NumKernels.brentq
  safe_sim

variable {α : Type} [Field α] [LinearOrder α] [IsStrictOrderedRing α]

/-- (ii) no divisor of `brentq` is ever zero: for every `f`, bracket and tolerances -/
theorem safe_brentq_ok (f : α → α) (xtol rtol xa xb s : α) :
    (Gen.Safe.brentq f xtol rtol xa xb s).2 = false := by
  generalize hres : Gen.Safe.brentq f xtol rtol xa xb s = res
  apply Id.of_wp_run_eq hres
  mvcgen -trivial invariants
  · Invariant.withEarlyReturnNewDo
      (fun xs s => ⌜s.1 = false ∧ PInv f (bstate s.2)⌝)
      (fun r _ => ⌜r.2 = false⌝)
  all_goals first
    -- one pass of the loop body, one verification condition per path through its `if`s
    | (rename_i hinv
       rcases hinv with ⟨_, hb, hI⟩ | ⟨_, _, hnil, _⟩
       · -- the tests of the path as equations `… = true`, `… = false`; then the re-bracketing
         simp only [Bool.not_eq_true] at *
         have hm := hI.mid (brentBracket_of ‹_› rfl ‹_›)
         -- the rest of the pass: `return`, or the flag after the trial step (the test `xpre == xblk` is made only when
         -- interpolation is tried) and the new state
         first
           | exact returns hb
           | (have hf := hm.flag hb ‹_› ‹_› (by first | assumption | rfl)
              exact hm.next ‹_› hf)
       · exact absurd hnil (List.cons_ne_nil _ _))
    -- entry of the loop
    | exact PInv.init ‹_› ‹_› ‹_›
    -- after the loop: an early `return` happened, or the budget is used up
    | (rename_i hx hinv
       rcases hinv with ⟨hn, hI⟩ | ⟨_, h2, _, h3⟩
       · first
           | exact hI.1
           | (rw [hn] at hx; cases hx)
       · rw [h2] at hx
         cases hx <;> exact h3)

/-! ### Non-vacuity (ℚ): runs that take the secant and the inverse quadratic branch -/

example : Gen.Safe.brentq (fun x : ℚ => x * x - 2) (1/1000) (1/1000) 0 3 7
    = (110306054471 / 77987487864, false) := by
  decide +kernel
example : (Gen.Safe.brentq (fun x : ℚ => x * x * x - x - 1) (1/1000) (1/1000) 0 3 7).2 = false :=
  safe_brentq_ok _ _ _ _ _ _
/-- no tolerance at all (`delta = 0`), a function that is constant around the root: still no zero divisor -/
example : (Gen.Safe.brentq (fun x : ℚ => if x < 1 then -1 else if 2 < x then 1 else 0) 0 0 0 3 7).2 = false := by
  decide +kernel

end Hdc.SafeBrentq
