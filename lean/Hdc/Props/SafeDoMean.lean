import Hdc.Lemmas.SafeSim
import Hdc.Lemmas.SafeNp
import Hdc.Gen.SafeDoMean
import Hdc.Gen.KDoMean
import Std.Tactic.Do
/-
SafeDoMean  Memory safety of `ops/zonal.py::do_mean` from the source (instrumented translation Hdc/Gen/SafeDoMean.lean,
written by harness/py2lean_stats.py).  Subscripts: `pixels[tix, rw, cl]`, `z_pixels[rw, cl]`, `sums[z_idx]`, `counts[z_idx]`
(the zone label read from the raster is used as an index), `counts[idx]`, `sums[idx]`, `result[tix, idx, 0|1]`.  The n-d
arrays are passed flattened with their dimensions; an n-d subscript is flagged unless each index is inside ITS axis
(`-d ≤ i < d`) and the row-major position is inside the flat buffer.  The division `sums[idx] / counts[idx]` is flagged when
`counts[idx] = 0`.

What the flag says about zone labels: `sums[z_idx]` with `-num_zones ≤ z_idx < 0` is INSIDE Python's accepted range (the index
wraps to zone `num_zones + z_idx`): memory-safe, semantically wrong, flag down (`safe_do_mean_ok`, and the example below).  A
label `≥ num_zones` or `< -num_zones` (other than `z_nodata`, on a valid pixel) raises the flag: under Numba that store is
outside `sums` / `counts`.  The contract that excludes both is `safe_do_mean_ok_contract`: label = `z_nodata` or
`0 ≤ label < num_zones`.  (The docstring's "starting with 0 for the first zone and num_zones for the last zone" is off by one:
the label `num_zones` itself is out of range, see the example.)
-/
namespace Hdc.SafeProps
open Hdc Hdc.Gen Hdc.Gen.Kernels Hdc.PyNpT Hdc.SafeSim Hdc.SafeLemmas Hdc.GenKernels Std.Do

set_option mvcgen.warning false

variable {β : Type}

/-- (i) the instrumented program IS the translated `do_mean` plus a flag (any dimensions, also inconsistent ones) -/
theorem safe_do_mean_fst (F : FloatOps β) (pixels : Array Int) (d0 d1 d2 : Int) (z_pixels : Array Int)
    (e0 e1 num_zones nodata z_nodata : Int) :
    (Safe.do_mean F pixels d0 d1 d2 z_pixels e0 e1 num_zones nodata z_nodata).1
      = Kernels.do_mean F pixels d0 d1 d2 z_pixels e0 e1 num_zones nodata z_nodata := by
  unfold Safe.do_mean Kernels.do_mean
  safe_sim

/-- (ii) the flag stays down under
    * `hp`, `hzs`: the flat buffers hold (at least) the cells their shapes `(T, Y, X)` and `(ZY, ZX)` say;
    * `hY`, `hX`: the zone raster covers the pixel raster (`Y ≤ ZY`, `X ≤ ZX`; the documented contract is equality);
    * `hlab`: on every cell the kernel counts (pixel ≠ nodata, label ≠ z_nodata) the label is an index Python accepts on
      an array of `num_zones` cells: `-num_zones ≤ label < num_zones`.
    Nothing about `num_zones` itself (≤ 0: `hlab` then says that no cell is counted), nodata values, `T`, `Y`, `X` (also 0).
    Invariants: flag down and the sizes of `result` (T·num_zones·2), `sums`, `counts` (num_zones) are kept. -/
theorem safe_do_mean_ok (F : FloatOps β) (pixels z_pixels : Array Int) (T Y X ZY ZX : ℕ)
    (num_zones nodata z_nodata : Int)
    (hp : T * Y * X ≤ pixels.size) (hzs : ZY * ZX ≤ z_pixels.size) (hY : Y ≤ ZY) (hX : X ≤ ZX)
    (hlab : ∀ tix rw cl : ℕ, tix < T → rw < Y → cl < X →
      rd pixels (flat3 T Y X tix rw cl) ≠ nodata → rd z_pixels (flat2 ZY ZX rw cl) ≠ z_nodata →
        -num_zones ≤ rd z_pixels (flat2 ZY ZX rw cl) ∧ rd z_pixels (flat2 ZY ZX rw cl) < num_zones) :
    (Safe.do_mean F pixels T Y X z_pixels ZY ZX num_zones nodata z_nodata).2 = false := by
  have hp' : (T : Int) * Y * X ≤ pixels.size := by exact_mod_cast hp
  have hzs' : (ZY : Int) * ZX ≤ z_pixels.size := by exact_mod_cast hzs
  have hY' : (Y : Int) ≤ ZY := by exact_mod_cast hY
  have hX' : (X : Int) ≤ ZX := by exact_mod_cast hX
  generalize hres : Safe.do_mean F pixels T Y X z_pixels ZY ZX num_zones nodata z_nodata = res
  apply Id.of_wp_run_eq hres
  mvcgen -trivial invariants
  -- time steps, state `(bad, pix, z_idx, result, sums, counts)`
  · ⇓⟨xs, s⟩ => ⌜s.1 = false ∧ s.2.2.2.1.size = ((T : Int) * num_zones * 2).toNat
      ∧ s.2.2.2.2.1.size = num_zones.toNat ∧ s.2.2.2.2.2.size = num_zones.toNat⌝
  -- rows, columns: state `(bad, pix, z_idx, sums, counts)`
  · ⇓⟨xs, s⟩ => ⌜s.1 = false ∧ s.2.2.2.1.size = num_zones.toNat ∧ s.2.2.2.2.size = num_zones.toNat⌝
  · ⇓⟨xs, s⟩ => ⌜s.1 = false ∧ s.2.2.2.1.size = num_zones.toNat ∧ s.2.2.2.2.size = num_zones.toNat⌝
  -- zones of the output: state `(bad, result)`
  · ⇓⟨xs, s⟩ => ⌜s.1 = false ∧ s.2.size = ((T : Int) * num_zones * 2).toNat⌝
  -- one cell of the raster
  case vc1.step.isTrue | vc2.step.isFalse =>
    py_name cur as cl; py_name cur as rw; py_name cur as tix
    have ht := pyRange_mem ‹pyRange 0 _ = _ ++ tix :: _›
    have hr := pyRange_mem ‹pyRange 0 _ = _ ++ rw :: _›
    have hc := pyRange_mem ‹pyRange 0 _ = _ ++ cl :: _›
    rename_i hcond h
    -- `pixels[tix, rw, cl]`, `z_pixels[rw, cl]`
    have b1 := or_oob3 h.1 ht hr hc hp'
    have b2 := or_oob2 b1 ⟨hr.1, lt_of_lt_of_le hr.2 hY'⟩ ⟨hc.1, lt_of_lt_of_le hc.2 hX'⟩ hzs'
    first
      | exact ⟨b2, h.2⟩
      -- counted: `sums[z_idx]`, `counts[z_idx]`
      | (simp only [Bool.and_eq_true, decide_eq_true_eq] at hcond
         have hz := hlab tix.toNat rw.toNat cl.toNat ((Int.toNat_lt ht.1).mpr ht.2) ((Int.toNat_lt hr.1).mpr hr.2)
           ((Int.toNat_lt hc.1).mpr hc.2)
         rw [Int.toNat_of_nonneg ht.1, Int.toNat_of_nonneg hr.1, Int.toNat_of_nonneg hc.1] at hz
         replace hz := hz hcond.1 hcond.2
         exact ⟨or_oob_size (or_oob_size b2 h.2.1 hz) h.2.2 hz, (size_wrG _ _ _).trans h.2.1,
           (size_wr _ _ _).trans h.2.2⟩)
  -- one zone of the output
  case vc6.step.isTrue | vc7.step.isFalse =>
    py_name cur as idx; py_name cur as tix
    have ht := pyRange_mem ‹pyRange 0 _ = _ ++ tix :: _›
    have hi := pyRange_mem ‹pyRange 0 _ = _ ++ idx :: _›
    rename_i hcond h
    have hrows := ‹_ = false ∧ _ ∧ _›
    have his := And.intro hi.1 (lt_of_lt_of_le hi.2 (le_size hrows.2.1))
    have hic := And.intro hi.1 (lt_of_lt_of_le hi.2 (le_size hrows.2.2))
    have h0 : (0 : Int) ≤ 0 ∧ (0 : Int) < 2 := by decide
    have h1 : (0 : Int) ≤ 1 ∧ (1 : Int) < 2 := by decide
    have b0 := or_oob h.1 hic
    refine ⟨?_, (size_wrG _ _ _).trans ((size_wrG _ _ _).trans h.2)⟩
    first
      -- `counts[idx] > 0`: `sums[idx] / counts[idx]` into `result[tix, idx, 0]`, then `result[tix, idx, 1] = counts[idx]`
      | exact or_oob3 (or_oob (or_oob3 (or_eq_false (or_oob (or_oob b0 his) hic)
          (decide_eq_false (ne_of_gt (of_decide_eq_true hcond)))) ht hi h0 (le_size h.2)) hic) ht hi h1
          (le_size ((size_wrG _ _ _).trans h.2))
      -- otherwise NaN into `result[tix, idx, 0]`
      | exact or_oob3 (or_oob (or_oob3 b0 ht hi h0 (le_size h.2)) hic) ht hi h1
          (le_size ((size_wrG _ _ _).trans h.2))
  -- entries and exits of the loops: the sizes are kept (`sums[:] = 0`, `counts[:] = 0` at the head of a time step)
  case vc3.step.pre | vc4.step.post.success =>
    rename_i h
    exact h
  case vc5.step.pre =>
    rename_i h
    exact ⟨h.1, Array.size_map.trans h.2.2.1, Array.size_map.trans h.2.2.2⟩
  case vc8.step.post.success.pre =>
    rename_i hrows
    exact ⟨hrows.1, (‹_ ∧ _ ∧ _ ∧ _›).2.1⟩
  case vc9.step.post.success.post.success =>
    rename_i hz
    exact ⟨hz.1, hz.2, (‹_ = false ∧ _ ∧ _›).2⟩
  case vc10.pre =>
    exact ⟨trivial, size_npFull _ _, size_npFull _ _, size_npFull _ _⟩
  case vc11.post.success =>
    rename_i h
    exact h.1

/-- what the flag accepts, stated on the raster: consistent shapes and every label `z_nodata` or within Python's index
    range of `num_zones` cells - which includes the NEGATIVE labels `-num_zones .. -1` (they wrap around) -/
theorem safe_do_mean_ok_labels (F : FloatOps β) (pixels z_pixels : Array Int) (T Y X : ℕ)
    (num_zones nodata z_nodata : Int)
    (hp : pixels.size = T * Y * X) (hzs : z_pixels.size = Y * X)
    (hlab : ∀ z ∈ z_pixels.toList, z = z_nodata ∨ (-num_zones ≤ z ∧ z < num_zones)) :
    (Safe.do_mean F pixels T Y X z_pixels Y X num_zones nodata z_nodata).2 = false := by
  refine safe_do_mean_ok F pixels z_pixels T Y X Y X num_zones nodata z_nodata (by omega) (by omega)
    (Nat.le_refl _) (Nat.le_refl _) ?_
  intro tix rw cl _ hrw hcl _ hz
  have hzs' : (z_pixels.size : Int) = (Y : Int) * X := by exact_mod_cast hzs
  obtain ⟨b0, b1⟩ := flat2_bound Y X rw cl (by omega) (by omega) (by omega) (by omega)
  rcases hlab _ (rd_mem z_pixels (flat2 Y X rw cl) b0 (by omega)) with h | h
  · exact absurd h hz
  · exact h

/-- the kernel's contract (what the docstring means): consistent shapes, every label `z_nodata` or in `0 .. num_zones-1` -/
theorem safe_do_mean_ok_contract (F : FloatOps β) (pixels z_pixels : Array Int) (T Y X : ℕ)
    (num_zones nodata z_nodata : Int)
    (hp : pixels.size = T * Y * X) (hzs : z_pixels.size = Y * X)
    (hlab : ∀ z ∈ z_pixels.toList, z = z_nodata ∨ (0 ≤ z ∧ z < num_zones)) :
    (Safe.do_mean F pixels T Y X z_pixels Y X num_zones nodata z_nodata).2 = false :=
  safe_do_mean_ok_labels F pixels z_pixels T Y X num_zones nodata z_nodata hp hzs fun z hz =>
    (hlab z hz).imp id fun h => ⟨by omega, h.2⟩

/-! ### outside the contract the flag goes up; inside Python's range but outside the contract it does not
(division kept as a pair, `FloatOps.pair`: a mean is (sum, count); pixels of shape (2, 1, 3), zones (1, 3), 3 zones, nodata -1 / -9) -/

/-- in contract: result and flag -/
example : Safe.do_mean FloatOps.pair #[4, -1, 6, 1, 2, 3] 2 1 3 #[0, 0, 1] 1 3 3 (-1) (-9)
    = (#[(4, 1), (1, 1), (6, 1), (1, 1), (0, 0), (0, 1), (3, 2), (2, 1), (3, 1), (1, 1), (0, 0), (0, 1)], false) := by
  decide +kernel
/-- `hlab`, label = `num_zones` (the docstring's "num_zones for the last zone"): `sums[3]` on 3 cells, flag up -/
example : (Safe.do_mean FloatOps.pair #[4, -1, 6, 1, 2, 3] 2 1 3 #[0, 3, 1] 1 3 3 (-1) (-9)).2 = true := by decide +kernel
/-- `hlab`, label `< -num_zones`: flag up -/
example : (Safe.do_mean FloatOps.pair #[4, -1, 6, 1, 2, 3] 2 1 3 #[0, -4, 1] 1 3 3 (-1) (-9)).2 = true := by decide +kernel
/-- a NEGATIVE label within `-num_zones .. -1` (here -2, not `z_nodata`): flag DOWN - the store wraps around to zone
    `3 - 2 = 1`, whose second time step now reports (sum, count) = (5, 2) instead of (3, 1).  Memory-safe, semantically wrong:
    excluded by `safe_do_mean_ok_contract` (0 ≤ label), not by the flag. -/
example : Safe.do_mean FloatOps.pair #[4, -1, 6, 1, 2, 3] 2 1 3 #[0, -2, 1] 1 3 3 (-1) (-9)
    = (#[(4, 1), (1, 1), (6, 1), (1, 1), (0, 0), (0, 1), (1, 1), (1, 1), (5, 2), (2, 1), (0, 0), (0, 1)], false) := by
  decide +kernel
/-- an out-of-range label under pixels that are all nodata is never used as an index: flag down (why `hlab` is conditional) -/
example : (Safe.do_mean FloatOps.pair #[4, -1, 6, 1, -1, 3] 2 1 3 #[0, 3, 1] 1 3 3 (-1) (-9)).2 = false := by decide +kernel
/-- `hp`: the pixel buffer one cell short of T·Y·X -/
example : (Safe.do_mean FloatOps.pair #[4, -1, 6, 1, 2] 2 1 3 #[0, 0, 1] 1 3 3 (-1) (-9)).2 = true := by decide +kernel
/-- `hX`: zone raster narrower than the pixel raster (shape (1, 2) against (1, 3)) -/
example : (Safe.do_mean FloatOps.pair #[4, -1, 6, 1, 2, 3] 2 1 3 #[0, 0] 1 2 3 (-1) (-9)).2 = true := by decide +kernel
/-- `hY`: zone raster with fewer rows (pixels (1, 2, 1), zones (1, 1)) -/
example : (Safe.do_mean FloatOps.pair #[4, 5] 1 2 1 #[0] 1 1 3 (-1) (-9)).2 = true := by decide +kernel
/-- `hzs`: the zone buffer shorter than its stated shape (1, 3) -/
example : (Safe.do_mean FloatOps.pair #[4, -1, 6, 1, 2, 3] 2 1 3 #[0, 0] 1 3 3 (-1) (-9)).2 = true := by decide +kernel
/-- a zone raster LARGER than the pixel raster ((2, 4) against (1, 3)) is safe, as `hY`, `hX` say -/
example : (Safe.do_mean FloatOps.pair #[4, -1, 6, 1, 2, 3] 2 1 3 #[0, 0, 1, 7, 7, 7, 7, 7] 2 4 3 (-1) (-9)).2 = false := by
  decide +kernel

end Hdc.SafeProps
