import Hdc.Gen.SafeGammafit
import Hdc.Gen.NumGammafit
import Hdc.Lemmas.GenNum
import Hdc.Props.SafeBrentq
import Std.Tactic.Do
/-
SafeGammafit  Safety of `hdc/algo/ops/stats.py::gammafit`, proved FROM THE SOURCE: `Hdc.Gen.Safe.gammafit`
(Hdc/Gen/SafeGammafit.lean) is the statement-by-statement translation plus the flag `bad`.  `gammafit` has no subscript
(`for xx in x` iterates inside the array); its scalar divisions are
    `xts / n`, `logs / n`     (`n` a Python int)   -> `decide (n = 0)`       guarded by `if n == 0: return (0, 0)`
    `(…) / (12 * s)`                                -> `eqv (12 * s) 0`       guarded by `if s == 0: return (0, 0)`
    `xtsbar / a`                                    -> `eqv a 0`              guarded by `if a == 0: return (0, 0)`
and it calls `brentq(xa, xb, s)`                    -> `(Safe.brentq …).2`    (`SafeBrentq.safe_brentq_ok`).

  safe_gammafit_fst   (Safe.gammafit F digamma xtol rtol x).1 = Gen.NumKernels.gammafit F digamma xtol rtol x     every carrier
  safe_gammafit_ok    (Safe.gammafit F digamma xtol rtol x).2 = false     for EVERY input array (empty, no positive cell, …), every
                      `F`, `digamma`, tolerances: the three early returns guard exactly the three divisors.  No hypothesis, so
                      there is no input with the flag set (dropping a guard in the source breaks this theorem).
-/
namespace Hdc.SafeGammafit
open Hdc Hdc.Gen.NumKernels Hdc.GenNum Hdc.SafeL Hdc.SafeSimN Std.Do

set_option mvcgen.warning false
set_option linter.unusedSimpArgs false

/-- (i) the instrumented program is the translated source plus a flag -/
theorem safe_gammafit_fst {α : Type} [Add α] [Sub α] [Mul α] [Div α] [Neg α] [NatCast α] [LT α] [DecidableLT α]
    [IntCast α] (F : GamFns α) (digamma : α → α) (xtol rtol : α) (x : Array α) :
    (Gen.Safe.gammafit F digamma xtol rtol x).1 = Gen.NumKernels.gammafit F digamma xtol rtol x := by
  unfold Gen.Safe.gammafit Gen.NumKernels.gammafit
  simp only [SafeBrentq.safe_brentq_fst]
  safe_sim

variable {α : Type} [Field α] [LinearOrder α] [IsStrictOrderedRing α]

/-- (ii) no division of `gammafit` is a division by zero, for every input -/
theorem safe_gammafit_ok (F : GamFns α) (digamma : α → α) (xtol rtol : α) (x : Array α) :
    (Gen.Safe.gammafit F digamma xtol rtol x).2 = false := by
  generalize hres : Gen.Safe.gammafit F digamma xtol rtol x = res
  apply Id.of_wp_run_eq hres
  mvcgen -trivial invariants
  · ⇓⟨xs, s⟩ => ⌜True⌝
  all_goals first
    | trivial
    | (have h12 : (nat 12 : α) ≠ 0 := by simp [nat]
       simp (config := {zetaDelta := true}) only [decide_eq_true_eq, eqv_iff, nat_zero,
         SafeBrentq.safe_brentq_ok, Bool.or_false, Bool.false_or, Bool.or_eq_false_iff,
         decide_eq_false_iff_not, eqv_false_iff, mul_eq_zero, not_or, ne_eq, not_false_eq_true, and_self,
         true_and, and_true] at *
       first | assumption | ((repeat' apply And.intro) <;> assumption))

/-! ### Non-vacuity (ℚ, a toy instance): all four exits -/

/-- a toy instance over ℚ: `log v = v²`, `sqrt = id`, 0.4 = 2/5, 0.9 = 9/10 (`root` is not used by the program) -/
def Gq : GamFns ℚ := ⟨fun v => v * v, fun v => v, fun _ _ _ => 0, fun _ v => v, fun v => v, 2 / 5, 9 / 10⟩

/-- a `digamma` for which `log a − digamma a − s` is `a + 1/8` at the `s = −2/3` of the series below -/
def dgq : ℚ → ℚ := fun a => a * a - (a + 1 / 8) + 2 / 3

example : Gen.Safe.gammafit Gq dgq (1 / 1000) (1 / 1000) #[1, 2, -1, 3] = ((-1 / 8, -16), false) := by
  decide +kernel
example : Gen.Safe.gammafit Gq dgq (1 / 1000) (1 / 1000) #[0, -2, 0] = ((0, 0), false) := by decide +kernel
example : Gen.Safe.gammafit Gq dgq (1 / 1000) (1 / 1000) #[5, -1] = ((0, 0), false) := by decide +kernel
example : Gen.Safe.gammafit Gq (fun _ => 0) (1 / 1000) (1 / 1000) #[1, 2, -1, 3] = ((0, 0), false) := by
  decide +kernel

end Hdc.SafeGammafit
