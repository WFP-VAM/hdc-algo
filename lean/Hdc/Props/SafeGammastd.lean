import Hdc.Gen.SafeGammastd
import Hdc.Gen.NumGammastd
import Hdc.Lemmas.GenNum
import Hdc.PyNpS
import Hdc.Props.SafeGammafit
import Std.Tactic.Do
/-
SafeGammastd  Safety of `hdc/algo/ops/stats.py::gammastd`, proved FROM THE SOURCE: `Hdc.Gen.Safe.gammastd`
(Hdc/Gen/SafeGammastd.lean) is the statement-by-statement translation plus the flag `bad`, set by
    `decide (n_valid = 0)`                 the scalar division `n_zero / n_valid` (Python ints), guarded by `if n_valid == 0: return`
    `badSlice x.size cal_start cal_stop`   the slice `x[cal_start:cal_stop]` handed to `gammafit` (flagged unless
                                           `0 ≤ cal_start ≤ cal_stop ≤ len x`; NumPy would wrap / clamp silently)
    `(Safe.gammafit …).2`                  the call of `gammafit`
    `oob x.size ix`, `oob y.size ix`       the subscripts `x[ix]`, `y[ix]` of the second loop (`ix in range(len x)`, `y = np.full(len x, …)`)
    `eqv beta 0`                           the scalar division `x[ix] / beta`, guarded by `if alpha == 0 or beta == 0: return`.
(`for val in x` iterates inside the array; `np.full_like` / `np.full` allocate: no check.)

  safe_gammastd_fst   (Safe.gammastd …).1 = Gen.NumKernels.gammastd …       every carrier, every input
  safe_gammastd_ok    the flag is false provided the calibration window is a genuine window of the series WHEN THE FIT IS REQUESTED:
                          a = 0 → b = 0 → 0 ≤ cal_start ≤ cal_stop ≤ len x
                      (nothing is required when `a`, `b` are supplied; every other check is guarded by the source itself)
  `example`s          windows outside the hypothesis with the flag set
-/
namespace Hdc.SafeGammastd
open Hdc Hdc.Gen.NumKernels Hdc.GenNum Hdc.SafeL Hdc.SafeSimN Hdc.SafeGammafit Std.Do

set_option mvcgen.warning false
set_option linter.unusedSimpArgs false

/-- (i) the instrumented program is the translated source plus a flag -/
theorem safe_gammastd_fst {α : Type} [Add α] [Sub α] [Mul α] [Div α] [Neg α] [NatCast α] [LT α] [DecidableLT α]
    [IntCast α] (F : GamFns α) (digamma : α → α) (xtol rtol : α) (x : Array α) (nodata : α)
    (cal_start cal_stop : Int) (a b : α) :
    (Gen.Safe.gammastd F digamma xtol rtol x nodata cal_start cal_stop a b).1
      = Gen.NumKernels.gammastd F digamma xtol rtol x nodata cal_start cal_stop a b := by
  unfold Gen.Safe.gammastd Gen.NumKernels.gammastd
  simp only [safe_gammafit_fst]
  safe_sim

variable {α : Type} [Field α] [LinearOrder α] [IsStrictOrderedRing α]

/-- (ii) under the contract (a genuine calibration window whenever the parameters are to be fitted) the flag is false -/
theorem safe_gammastd_ok (F : GamFns α) (digamma : α → α) (xtol rtol : α) (x : Array α) (nodata : α)
    (cs ce : Int) (a b : α) (hcal : a = 0 → b = 0 → 0 ≤ cs ∧ cs ≤ ce ∧ ce ≤ x.size) :
    (Gen.Safe.gammastd F digamma xtol rtol x nodata cs ce a b).2 = false := by
  generalize hres : Gen.Safe.gammastd F digamma xtol rtol x nodata cs ce a b = res
  apply Id.of_wp_run_eq hres
  mvcgen -trivial invariants
  · ⇓⟨xs, s⟩ => ⌜True⌝
  · ⇓⟨xs, s⟩ => ⌜s.1 = false ∧ s.2.size = x.size⌝
  · ⇓⟨xs, s⟩ => ⌜s.1 = false ∧ s.2.size = x.size⌝
  all_goals
    pyn_ranges
    simp (config := {zetaDelta := true}) only [decide_eq_true_eq, eqv_iff, nat_zero, Bool.or_eq_true,
      Bool.and_eq_true, not_or, size_wr, size_npFull, Int.toNat_natCast, List.length_append, List.length_singleton,
      List.length_nil, safe_gammafit_ok, Bool.or_false, Bool.false_or, Bool.or_eq_false_iff, decide_eq_false_iff_not,
      eqv_false_iff, badSlice_eq_false_iff, true_and, and_true, ne_eq, not_false_eq_true] at *
  all_goals first
    -- the passes of the two loops come first: on their goals `trivial` and `assumption` fail slowly (`assumption` unfolds
    -- `gammafit` to compare the divisor with the hypotheses)
    | (obtain ⟨hb0, hsz⟩ := ‹_ = false ∧ _ = x.size›
       simp (disch := omega) only [hb0, hsz, oob_false, true_and, and_true, and_self]
       first | done | exact (‹¬ _ = (0 : α) ∧ ¬ _ = (0 : α)›).2)
    | trivial
    | assumption
    | exact ⟨by assumption, hcal (‹a = 0 ∧ b = 0›).1 (‹a = 0 ∧ b = 0›).2⟩


/-! ### Non-vacuity and sharpness (ℚ, the toy instance of Hdc/Props/SafeGammafit.lean) -/

/-- in contract: the window is the whole series -/
example : Gen.Safe.gammastd Gq dgq (1 / 1000) (1 / 1000) #[1, 2, -1, 3] (-9999) 0 4 0 0
    = (#[-1 / 16, -1 / 8, -9999, -3 / 16], false) := by decide +kernel
/-- `cal_stop > len x` (NumPy clamps the slice; same values, flag set), `cal_start < 0` (wraps), `cal_start > cal_stop` (empty) -/
example : Gen.Safe.gammastd Gq dgq (1 / 1000) (1 / 1000) #[1, 2, -1, 3] (-9999) 0 5 0 0
    = (#[-1 / 16, -1 / 8, -9999, -3 / 16], true) := by decide +kernel
example : (Gen.Safe.gammastd Gq dgq (1 / 1000) (1 / 1000) #[1, 2, -1, 3] (-9999) (-1) 4 0 0).2 = true := by
  decide +kernel
example : (Gen.Safe.gammastd Gq dgq (1 / 1000) (1 / 1000) #[1, 2, -1, 3] (-9999) 3 2 0 0).2 = true := by
  decide +kernel
/-- with supplied parameters the window is not looked at -/
example : (Gen.Safe.gammastd Gq dgq (1 / 1000) (1 / 1000) #[1, 2, -1, 3] (-9999) 0 5 2 3).2 = false :=
  safe_gammastd_ok _ _ _ _ _ _ _ _ _ _ (by norm_num)

end Hdc.SafeGammastd
