import Hdc.Gen.SafeGammastdGrp
import Hdc.Gen.NumGammastdGrp
import Hdc.Lemmas.SafeGammastdGrp
import Hdc.Props.SafeGammastd
import Std.Tactic.Do
/-
SafeGammastdGrp  Safety of `hdc/algo/ops/stats.py::gammastd_grp`, proved FROM THE SOURCE: `Hdc.Gen.Safe.gammastd_grp`
(Hdc/Gen/SafeGammastdGrp.lean, written by the class `SafeS` of harness/py2lean_spi.py) is the statement-by-statement translation
plus the flag `bad`, set by (predicates: Hdc/PySafeS.lean)
    `oob2 cal_indices grp 0`, `oob2 cal_indices grp 1`   the 2-d subscripts `cal_indices[grp, 0]`, `cal_indices[grp, 1]`: `grp` is not a
                                                 row of `cal_indices`, or the row has no column 0 / 1
    `badMask xx.size grp_ix.size`                `xx[grp_ix]`: the mask `groups == grp` has not the length of `xx`
    `badMask yy.size grp_ix.size`                `yy[grp_ix] = nodata`, `yy[grp_ix] = res[:]`: the same for the output buffer
    `(Safe.gammastd … pix nodata cal_start cal_stop 0 0).2`   the call of `gammastd` on the group's series (its window slice, …)
    `badMask res.size valid_ix.size`, `badMaskSet valid_ix (np.clip(res[valid_ix] * 1000, …)).size`
                                                 `res[valid_ix] = np.clip(res[valid_ix] * 1000, …)` (mask and value are built from `res`)
    `badMaskSet grp_ix res.size`                 `yy[grp_ix] = res[:]`: the group has as many cells as `res` has values
(`groups == grp`, `pix != nodata`, `res != nodata`, `.sum()`, `* 1000`, `np.clip`, `np.round(res, 0, res)`: cannot raise, no check.)

  safe_gammastd_grp_fst   (Safe.gammastd_grp …).1 = Gen.NumKernels.gammastd_grp …       every carrier, every input
  safe_gammastd_grp_ok    the flag is false under `Contract`:
      hg     num_groups > 0 → len groups = len xx          the mask `groups == grp` indexes `xx` (the gufunc signature
                                                           `(n),(m),(),(),(o,p)->(n)` does NOT enforce `m = n`)
      hy     num_groups > 0 → len yy = len xx              the output core dimension `(n)` (the gufunc allocates it so)
      hrows  every `g` in `range(num_groups)` is a row of `cal_indices` with at least two columns
      hwin   for every `g` in `range(num_groups)` whose series `xx[groups == g]` has a cell other than `nodata` (otherwise `gammastd`
             is not called): `0 ≤ cal_indices[g, 0] ≤ cal_indices[g, 1] ≤ len xx[groups == g]`, the contract of `gammastd`
             (`SafeGammastd.safe_gammastd_ok`) for the GROUP's series
  `example`s             an instance of the contract, and for every hypothesis an input outside it with the flag set
-/
namespace Hdc.SafeGammastdGrp
open Hdc Hdc.Gen.NumKernels Hdc.GenNum Hdc.SafeL Hdc.SafeSimN Hdc.SafeGammastd Hdc.SafeSpi Std.Do

set_option mvcgen.warning false

/-- (i) the instrumented program is the translated source plus a flag -/
theorem safe_gammastd_grp_fst {α : Type} [Add α] [Sub α] [Mul α] [Div α] [Neg α] [NatCast α] [LT α] [DecidableLT α]
    [IntCast α] (F : GamFns α) (digamma : α → α) (xtol rtol : α) (rnd : α → α) (xx : Array α) (groups : Array Int)
    (num_groups : Int) (nodata : α) (cal_indices : Array (Array Int)) (yy : Array α) :
    (Gen.Safe.gammastd_grp F digamma xtol rtol rnd xx groups num_groups nodata cal_indices yy).1
      = Gen.NumKernels.gammastd_grp F digamma xtol rtol rnd xx groups num_groups nodata cal_indices yy := by
  unfold Gen.Safe.gammastd_grp Gen.NumKernels.gammastd_grp
  simp only [safe_gammastd_fst]
  safe_sim

variable {α : Type} [Field α] [LinearOrder α] [IsStrictOrderedRing α]

/-- the series of group `g`: `xx[groups == g]` -/
abbrev series (xx : Array α) (groups : Array Int) (g : Int) : Array α :=
  npGather xx (groups.map fun e => decide (e = g))

/-- the contract of `gammastd_grp` (see the header) -/
structure Contract (xx : Array α) (groups : Array Int) (num_groups : Int) (nodata : α)
    (cal : Array (Array Int)) (yy : Array α) : Prop where
  hg : 0 < num_groups → groups.size = xx.size
  hy : 0 < num_groups → yy.size = xx.size
  hrows : ∀ g : Int, 0 ≤ g → g < num_groups → g < cal.size ∧ 2 ≤ (cal.getD g.toNat #[]).size
  hwin : ∀ g : Int, 0 ≤ g → g < num_groups →
    npCount ((series xx groups g).map fun e => !(eqv e nodata)) ≠ 0 →
    0 ≤ rdI2 cal g 0 ∧ rdI2 cal g 0 ≤ rdI2 cal g 1 ∧ rdI2 cal g 1 ≤ ((series xx groups g).size : Int)

/-- (ii) under the contract the flag is false -/
theorem safe_gammastd_grp_ok (F : GamFns α) (digamma : α → α) (xtol rtol : α) (rnd : α → α) (xx : Array α)
    (groups : Array Int) (num_groups : Int) (nodata : α) (cal_indices : Array (Array Int)) (yy : Array α)
    (hc : Contract xx groups num_groups nodata cal_indices yy) :
    (Gen.Safe.gammastd_grp F digamma xtol rtol rnd xx groups num_groups nodata cal_indices yy).2 = false := by
  generalize hres : Gen.Safe.gammastd_grp F digamma xtol rtol rnd xx groups num_groups nodata cal_indices yy = res
  apply Id.of_wp_run_eq hres
  mvcgen -trivial invariants
  · ⇓⟨xs, s⟩ => ⌜s.1 = false ∧ s.2.1.size = yy.size⌝
  all_goals
    pyn_ranges
  all_goals first
    | exact ⟨rfl, rfl⟩
    | exact (‹_ = false ∧ _ = yy.size›).1
    | skip
  all_goals
    obtain ⟨hb, hsz⟩ := ‹_ = false ∧ _ = yy.size›
    obtain ⟨rfl, hlt⟩ := hrange
    have hpos : 0 < num_groups := by omega
    have hg := hc.hg hpos
    have hy := hc.hy hpos
    obtain ⟨hr1, hr2⟩ := hc.hrows _ (by omega) hlt
    have hw := hc.hwin _ (by omega) hlt
    have ho0 := oob2_false cal_indices _ 0 (by omega) hr1 (by omega) (by omega)
    have ho1 := oob2_false cal_indices _ 1 (by omega) hr1 (by omega) (by omega)
    have hc2 : ∀ (r : Array α) (p : α → Bool), ((npGather r (r.map p)).size : ℤ) = npCount (r.map p) :=
      fun r p => (size_npGather r _ (Array.size_map ..).symm).symm
    simp (config := {zetaDelta := true}) only [decide_eq_true_eq, ne_eq] at *
    simp (config := {zetaDelta := true}) only [hb, ho0, ho1, hsz, hy, hg, hc2, Array.size_map, size_npMaskFill,
      size_npMaskSet, size_safe_gammastd, badMask_eq_false_iff, badMaskSet_eq_false_iff, Bool.or_false, Bool.false_or,
      Bool.or_eq_false_iff, true_and, and_true, and_self]
    first
      | done
      | exact ⟨safe_gammastd_ok _ _ _ _ _ _ _ _ _ _ (fun _ _ => hw ‹_›),
          size_npGather xx _ (hg.symm.trans (Array.size_map ..).symm)⟩


/-! ### Non-vacuity and sharpness (ℚ, the toy instance `Gq`, `dgq` of Hdc/Props/SafeGammafit.lean; `round = id`) -/

private def gv (xx : Array ℚ) (groups : Array ℤ) (n : ℤ) (cal : Array (Array ℤ)) (yy : Array ℚ) : Bool :=
  (Gen.Safe.gammastd_grp SafeGammafit.Gq SafeGammafit.dgq (1 / 1000) (1 / 1000) (fun v => v) xx groups n (-9999) cal yy).2

/-- in contract: group 0 = the series 1, 2, −1, 3 (window [0, 4)), group 1 = one cell, label 2 outside `range(num_groups)` -/
example : gv #[1, 2, 5, -1, 3, 7] #[0, 0, 1, 0, 0, 2] 2 #[#[0, 4], #[0, 1]] #[77, 77, 77, 77, 77, 77] = false :=
  safe_gammastd_grp_ok _ _ _ _ _ _ _ _ _ _ _
    ⟨fun _ => by decide, fun _ => by decide,
     fun g h0 h2 => by obtain rfl | rfl : g = 0 ∨ g = 1 := by omega
                       all_goals decide,
     fun g h0 h2 _ => by obtain rfl | rfl : g = 0 ∨ g = 1 := by omega
                         all_goals decide +kernel⟩
example : Gen.Safe.gammastd_grp SafeGammafit.Gq SafeGammafit.dgq (1 / 1000) (1 / 1000) (fun v => v)
    #[1, 2, 5, -1, 3, 7] #[0, 0, 1, 0, 0, 2] 2 (-9999) #[#[0, 4], #[0, 1]] #[77, 77, 77, 77, 77, 77]
    = (#[-125 / 2, -125, -9999, -9999, -375 / 2, 77], false) := by decide +kernel
/-- `num_groups = 0`: nothing is looked at -/
example : gv #[1, 2] #[] 0 #[] #[] = false :=
  safe_gammastd_grp_ok _ _ _ _ _ _ _ _ _ _ _
    ⟨fun h => absurd h (by decide), fun h => absurd h (by decide), fun g _ _ => by omega, fun g _ _ => by omega⟩
/-- a group without a valid cell is filled with `nodata`; its window is not looked at (here [5, 3)) -/
example : gv #[-9999, -9999] #[0, 0] 1 #[#[5, 3]] #[0, 0] = false :=
  safe_gammastd_grp_ok _ _ _ _ _ _ _ _ _ _ _
    ⟨fun _ => by decide, fun _ => by decide,
     fun g h0 h2 => by obtain rfl : g = 0 := by omega
                       decide,
     fun g h0 h2 h => by obtain rfl : g = 0 := by omega
                         exact absurd (by decide +kernel) h⟩
/-- `hg`: `groups` shorter / longer than `xx` (NumPy: boolean index did not match) -/
example : gv #[1, 2, -1, 3] #[0, 0, 0] 1 #[#[0, 3]] #[0, 0, 0, 0] = true := by decide +kernel
example : gv #[1, 2, -1, 3] #[0, 0, 0, 0, 0] 1 #[#[0, 4]] #[0, 0, 0, 0] = true := by decide +kernel
/-- `hy`: an output buffer of another length -/
example : gv #[1, 2, -1, 3] #[0, 0, 0, 0] 1 #[#[0, 4]] #[0, 0, 0] = true := by decide +kernel
/-- `hrows`: fewer rows than groups; a row with one column -/
example : gv #[1, 2, -1, 3] #[0, 0, 0, 0] 2 #[#[0, 4]] #[0, 0, 0, 0] = true := by decide +kernel
example : gv #[1, 2, -1, 3] #[0, 0, 0, 0] 1 #[#[0]] #[0, 0, 0, 0] = true := by decide +kernel
/-- `hwin`: a window that ends after the GROUP's series (it would fit into `xx`), starts before 0, or is reversed -/
example : gv #[1, 2, 9, -1, 3] #[0, 0, 1, 0, 0] 1 #[#[0, 5]] #[0, 0, 0, 0, 0] = true := by decide +kernel
example : gv #[1, 2, -1, 3] #[0, 0, 0, 0] 1 #[#[-1, 4]] #[0, 0, 0, 0] = true := by decide +kernel
example : gv #[1, 2, -1, 3] #[0, 0, 0, 0] 1 #[#[3, 2]] #[0, 0, 0, 0] = true := by decide +kernel

end Hdc.SafeGammastdGrp
