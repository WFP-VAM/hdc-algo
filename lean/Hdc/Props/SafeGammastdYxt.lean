import Hdc.Gen.SafeGammastdYxt
import Hdc.Gen.NumGammastdYxt
import Hdc.Lemmas.SafeGammastdYxt
import Hdc.Props.SafeGammastd
import Std.Tactic.Do
/-
SafeGammastdYxt  Safety of `hdc/algo/ops/stats.py::gammastd_yxt`, proved FROM THE SOURCE: `Hdc.Gen.Safe.gammastd_yxt`
(Hdc/Gen/SafeGammastdYxt.lean, written by the class `SafeS` of harness/py2lean_spi.py) is the statement-by-statement translation
plus the flag `bad`, set by (predicates: Hdc/PySafeS.lean, Hdc/PySafe.lean)
    `oob2 x ri ci`                          `x[ri, ci, :]`: `ri` is not a plane of `x` or `ci` not a column of THAT plane
    `oob2 y ri ci`                          `y[ri, ci, :] = nodata`, `y[ri, ci, :] = s[:]` (`y = np.full_like(x, …)`)
    `(Safe.gammastd … xt nodata cal_start cal_stop 0 0).2`   the call of `gammastd` on the pixel's series
    `oob s.size ti`                         `s[ti]` (read twice, stored once) for `ti in range(t)`
    `badLen (rd3 y ri ci).size s.size`      `y[ri, ci, :] = s[:]`: `s` has not the length of the series it replaces
(`r, c, t = x.shape`, the two `if p is None: p = e` with `e` = `0` / `t`, `np.full_like`, `xt != nodata`, `.sum()`, `* 1000`, `min`,
`max`, `np.round(s, 0, s)`, the scalar store `y[ri, ci, :] = nodata`: cannot raise, no check.)

The carrier of a cube is the ragged `Array (Array (Array α))`; `x.shape` is read off the first plane / the first series
(`shape3`).  A NumPy array is rectangular; the contract asks only for what the checks need:

  safe_gammastd_yxt_fst   (Safe.gammastd_yxt …).1 = Gen.NumKernels.gammastd_yxt …       every carrier, every input
  safe_gammastd_yxt_ok    the flag is false under `Contract` (`r, c, t = x.shape`):
      hcols   every plane has at least `c` columns
      hsteps  every pixel `(i, j)` of `range(r) × range(c)` whose series has a cell other than `nodata` has at least `t` steps
      hwin    for every such pixel `0 ≤ cal_start ≤ cal_stop ≤ len x[i, j, :]` (defaults `0`, `t`): the contract of `gammastd`
              (`SafeGammastd.safe_gammastd_ok`); for a rectangular cube: `0 ≤ cal_start ≤ cal_stop ≤ t`.
      (a pixel without any valid cell is filled with `nodata` without calling `gammastd`: nothing is asked of it)
  `example`s             instances of the contract, and for every hypothesis an input outside it with the flag set
-/
namespace Hdc.SafeGammastdYxt
open Hdc Hdc.Gen.NumKernels Hdc.GenNum Hdc.SafeL Hdc.SafeSimN Hdc.SafeGammastd Hdc.SafeSpi Std.Do

set_option mvcgen.warning false
set_option linter.unusedSimpArgs false

/-- (i) the instrumented program is the translated source plus a flag -/
theorem safe_gammastd_yxt_fst {α : Type} [Add α] [Sub α] [Mul α] [Div α] [Neg α] [NatCast α] [LT α] [DecidableLT α]
    [IntCast α] (F : GamFns α) (digamma : α → α) (xtol rtol : α) (rnd : α → α) (x : Array (Array (Array α)))
    (nodata : α) (cal_start cal_stop : Option Int) :
    (Gen.Safe.gammastd_yxt F digamma xtol rtol rnd x nodata cal_start cal_stop).1
      = Gen.NumKernels.gammastd_yxt F digamma xtol rtol rnd x nodata cal_start cal_stop := by
  unfold Gen.Safe.gammastd_yxt Gen.NumKernels.gammastd_yxt
  simp only [safe_gammastd_fst]
  safe_sim

variable {α : Type} [Field α] [LinearOrder α] [IsStrictOrderedRing α]

/-- the contract of `gammastd_yxt` (see the header); `r, c, t = x.shape` are the sizes of the cube, of its first plane and of
    its first series -/
structure Contract (x : Array (Array (Array α))) (nodata : α) (cal_start cal_stop : Option Int) : Prop where
  hcols : ∀ i : ℕ, i < x.size → shape3 x 1 ≤ (x.getD i #[]).size
  hsteps : ∀ i j : ℕ, i < x.size → j < shape3 x 1 →
    npCount ((rd3 x i j).map fun e => !(eqv e nodata)) ≠ 0 → shape3 x 2 ≤ (rd3 x i j).size
  hwin : ∀ i j : ℕ, i < x.size → j < shape3 x 1 →
    npCount ((rd3 x i j).map fun e => !(eqv e nodata)) ≠ 0 →
    0 ≤ cal_start.getD 0 ∧ cal_start.getD 0 ≤ cal_stop.getD (shape3 x 2) ∧
      cal_stop.getD (shape3 x 2) ≤ ((rd3 x i j).size : Int)

/-- (ii) under the contract the flag is false -/
theorem safe_gammastd_yxt_ok (F : GamFns α) (digamma : α → α) (xtol rtol : α) (rnd : α → α)
    (x : Array (Array (Array α))) (nodata : α) (cal_start cal_stop : Option Int)
    (hc : Contract x nodata cal_start cal_stop) :
    (Gen.Safe.gammastd_yxt F digamma xtol rtol rnd x nodata cal_start cal_stop).2 = false := by
  generalize hres : Gen.Safe.gammastd_yxt F digamma xtol rtol rnd x nodata cal_start cal_stop = res
  -- the facts the checks need, for a pixel `(i, j)` inside `range(r) × range(c)` (`r, c, t = x.shape`)
  have hx0 : shape3 x 0 = x.size := rfl
  have HC : ∀ i j : ℕ, (i : ℤ) < (shape3 x 0 : ℕ) → (j : ℤ) < (shape3 x 1 : ℕ) →
      i < x.size ∧ j < (x.getD i #[]).size := by
    intro i j hi hj
    have hi' : i < x.size := by rw [hx0] at hi; exact_mod_cast hi
    exact ⟨hi', lt_of_lt_of_le (by exact_mod_cast hj) (hc.hcols i hi')⟩
  have HX : ∀ i j : ℕ, (i : ℤ) < (shape3 x 0 : ℕ) → (j : ℤ) < (shape3 x 1 : ℕ) → oob2 x (i : ℤ) (j : ℤ) = false :=
    fun i j hi hj => oob2_nat x i j (HC i j hi hj).1 (HC i j hi hj).2
  have HY : ∀ (y : Array (Array (Array α))) (i j : ℕ), SameShape y x → (i : ℤ) < (shape3 x 0 : ℕ) →
      (j : ℤ) < (shape3 x 1 : ℕ) → oob2 y (i : ℤ) (j : ℤ) = false :=
    fun y i j hS hi hj => hS.oob2 i j (HC i j hi hj).1 (HC i j hi hj).2
  have HS : ∀ (y : Array (Array (Array α))) (i j : ℕ), SameShape y x →
      (rd3 y (i : ℤ) (j : ℤ)).size = (rd3 x (i : ℤ) (j : ℤ)).size := fun y i j hS => hS.2.2 i j
  have HW : ∀ (y : Array (Array (Array α))) (row : Array α) (i j : ℕ), SameShape y x → (i : ℤ) < (shape3 x 0 : ℕ) →
      (j : ℤ) < (shape3 x 1 : ℕ) → row.size = (rd3 x (i : ℤ) (j : ℤ)).size → SameShape (wr3 y (i : ℤ) (j : ℤ) row) x :=
    fun y row i j hS hi hj hrow => hS.wr3 i j row (HC i j hi hj).1 (HC i j hi hj).2 hrow
  have HG : ∀ i j : ℕ, (i : ℤ) < (shape3 x 0 : ℕ) → (j : ℤ) < (shape3 x 1 : ℕ) →
      ¬ npCount ((rd3 x (i : ℤ) (j : ℤ)).map fun e => !(eqv e nodata)) = 0 →
      (Gen.Safe.gammastd F digamma xtol rtol (rd3 x (i : ℤ) (j : ℤ)) nodata (cal_start.getD 0)
        (cal_stop.getD (shape3 x 2 : ℕ)) (nat 0) (nat 0)).2 = false :=
    fun i j hi hj hn => safe_gammastd_ok _ _ _ _ _ _ _ _ _ _
      (fun _ _ => hc.hwin i j (HC i j hi hj).1 (by exact_mod_cast hj) hn)
  have HT : ∀ i j k : ℕ, (i : ℤ) < (shape3 x 0 : ℕ) → (j : ℤ) < (shape3 x 1 : ℕ) →
      ¬ npCount ((rd3 x (i : ℤ) (j : ℤ)).map fun e => !(eqv e nodata)) = 0 → (k : ℤ) < (shape3 x 2 : ℕ) →
      oob (rd3 x (i : ℤ) (j : ℤ)).size (k : ℤ) = false := by
    intro i j k hi hj hn hk
    have := hc.hsteps i j (HC i j hi hj).1 (by exact_mod_cast hj) hn
    exact oob_eq_false (by omega) (by omega)
  apply Id.of_wp_run_eq hres
  mvcgen -trivial invariants
  -- planes, state `(bad, xt, s, y)`
  · ⇓⟨xs, s⟩ => ⌜s.1 = false ∧ SameShape s.2.2.2 x⌝
  -- columns
  · ⇓⟨xs, s⟩ => ⌜s.1 = false ∧ SameShape s.2.2.2 x⌝
  -- time steps, state `(bad, s)`
  · ⇓⟨xs, s⟩ => by
      py_name cur as co; py_name cur as ro
      exact ⌜s.1 = false ∧ s.2.size = (rd3 x ro co).size⌝
  all_goals
    pyn_ranges
    try casesm* (_ : ℤ) = _ ∧ _
    subst_vars
    try simp (config := {zetaDelta := true}) only [decide_eq_true_eq, gt_iff_lt, Int.zero_add, ne_eq, true_and] at *
  all_goals first
    | exact SameShape.init x nodata
    | exact (‹_ = false ∧ SameShape _ x›).1
    | (casesm* _ ∧ _
       refine ⟨?_, ?_⟩
       · simp (disch := assumption) only [*, HX, HY, HG, HT, HS, Array.size_map, badLen_eq_false_iff, Bool.or_false, Bool.false_or,
           Bool.or_self]
       · first
           -- before `assumption`, which would unfold the program to compare this goal with the hypotheses on sizes
           | exact size_safe_gammastd ..
           | assumption
           | exact HW _ _ _ _ ‹SameShape _ x› ‹_› ‹_› (by simp (disch := assumption) only [Array.size_map, HS, *])
           | simp only [size_wr, *])


/-! ### Non-vacuity and sharpness (ℚ, the toy instance `Gq`, `dgq` of Hdc/Props/SafeGammafit.lean; `round = id`) -/

private def yv (x : Array (Array (Array ℚ))) (cs ce : Option ℤ) : Bool :=
  (Gen.Safe.gammastd_yxt SafeGammafit.Gq SafeGammafit.dgq (1 / 1000) (1 / 1000) (fun v => v) x (-9999) cs ce).2

/-- in contract: one plane, two pixels (the series 1, 2, −1, 3 and a pixel without data), default window -/
example : yv #[#[#[1, 2, -1, 3], #[-9999, -9999, -9999, -9999]]] none none = false := by
  refine safe_gammastd_yxt_ok _ _ _ _ _ _ _ _ _ ⟨fun i hi => ?_, fun i j hi hj _ => ?_, fun i j hi hj _ => ?_⟩ <;>
    obtain rfl : i = 0 := Nat.lt_one_iff.1 hi
  · decide
  all_goals
    obtain rfl | rfl : j = 0 ∨ j = 1 := by
      have : j < 2 := hj
      omega
    all_goals decide
example : Gen.Safe.gammastd_yxt SafeGammafit.Gq SafeGammafit.dgq (1 / 1000) (1 / 1000) (fun v => v)
    #[#[#[1, 2, -1, 3], #[-9999, -9999, -9999, -9999]]] (-9999) none none
    = (#[#[#[-125 / 2, -125, -9999, -375 / 2], #[-9999, -9999, -9999, -9999]]], false) := by decide +kernel
/-- a pixel without a valid cell: its (reversed, too long) window is not looked at -/
example : yv #[#[#[-9999, -9999]]] (some 5) (some 3) = false := by
  refine safe_gammastd_yxt_ok _ _ _ _ _ _ _ _ _ ⟨fun i hi => ?_, fun i j hi hj h => ?_, fun i j hi hj h => ?_⟩ <;>
    obtain rfl : i = 0 := Nat.lt_one_iff.1 hi
  · decide
  all_goals
    obtain rfl : j = 0 := Nat.lt_one_iff.1 hj
    exact absurd (by decide +kernel) h
/-- `hcols`: a second plane with fewer columns than the first (`x[1, 1, :]`) -/
example : yv #[#[#[1, 2, -1, 3], #[1, 2, -1, 3]], #[#[1, 2, -1, 3]]] none none = true := by decide +kernel
/-- `hsteps`: a pixel with fewer steps than the first one (`s[4]`); the window [0, 4) fits both series -/
example : yv #[#[#[1, 2, -1, 3, -9999], #[1, 2, -1, 3]]] none (some 4) = true := by decide +kernel
/-- `hwin`: a window that ends after the series, starts before 0, or is reversed -/
example : yv #[#[#[1, 2, -1, 3]]] none (some 5) = true := by decide +kernel
example : yv #[#[#[1, 2, -1, 3]]] (some (-1)) none = true := by decide +kernel
example : yv #[#[#[1, 2, -1, 3]]] (some 3) (some 2) = true := by decide +kernel
/-- the same windows inside the series: in contract -/
example : yv #[#[#[1, 2, -1, 3]]] (some 0) (some 4) = false := by decide +kernel

end Hdc.SafeGammastdYxt
