import Hdc.Lemmas.SafeSim
import Hdc.Lemmas.SafeBase
import Hdc.Gen.SafeLroo
import Hdc.Gen.KLroo
import Std.Tactic.Do
/-
SafeLroo  Memory safety of `ops/lroo.py::lroo` from the source (instrumented translation Hdc/Gen/SafeLroo.lean).
The kernel reads `dots[ix]`, `dots[ix - 1]` for `ix` in `range(1, dots.size)` and stores its result in `out[0]`.
-/
namespace Hdc.SafeProps
open Hdc Hdc.Gen Hdc.Gen.Kernels Hdc.SafeSim Hdc.SafeLemmas Hdc.GenKernels Std.Do

set_option mvcgen.warning false
set_option linter.unusedTactic false
set_option linter.unreachableTactic false

/-- (i) the instrumented program IS the translated `lroo` plus a flag -/
theorem safe_lroo_fst (data out : Array Int) : (Safe.lroo data out).1 = Kernels.lroo data out := by
  unfold Safe.lroo Kernels.lroo
  safe_sim

/-- the contract is exact: the flag is up IF AND ONLY IF the output buffer is empty -/
theorem safe_lroo_flag (data out : Array Int) : (Safe.lroo data out).2 = true ↔ out.size = 0 := by
  generalize hres : Safe.lroo data out = res
  apply Id.of_wp_run_eq hres
  mvcgen -trivial invariants
  -- state `(bad, d, cr, mr)`
  · ⇓⟨xs, s⟩ => ⌜s.1 = false⌝
  all_goals first
    -- one iteration: `dots[ix]`, `dots[ix - 1]` with `1 ≤ ix < len(dots)`
    | (rename_i h
       have hi := pyRange_mem ‹pyRange 1 _ = _›
       exact or_oob (or_oob h ⟨by omega, hi.2⟩) ⟨by omega, by omega⟩)
    -- `out[0]`
    | (rename_i h
       exact (or_oob_eq_true_iff h _ _).trans (by omega))
    -- entry of the loop
    | rfl

/-- (ii) no subscript leaves its array if the output buffer has a cell 0 (the gufunc layout `(n) -> ()` passes a buffer of
    one cell).  Nothing is assumed about `data` (any length, also empty; any values). -/
theorem safe_lroo_ok (data out : Array Int) (hout : 0 < out.size) : (Safe.lroo data out).2 = false :=
  Bool.eq_false_iff.mpr fun h => by
    have := (safe_lroo_flag data out).mp h
    omega

/-! ### outside the contract the flag goes up -/

/-- an empty output buffer: `out[0]` is out of range -/
example : (Safe.lroo #[0, 1, 1, 0] #[]).2 = true := by decide +kernel
/-- in contract -/
example : Safe.lroo #[0, 1, 1, 0, 1, 1, 1] #[7] = (#[3], false) := by decide +kernel
example : Safe.lroo #[] #[7] = (#[0], false) := by decide +kernel

end Hdc.SafeProps
