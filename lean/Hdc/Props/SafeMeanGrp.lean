import Hdc.Lemmas.SafeSim
import Hdc.Lemmas.SafeNp
import Hdc.Gen.SafeMeanGrp
import Hdc.Gen.KMeanGrp
import Std.Tactic.Do
/-
SafeMeanGrp  Memory safety of `ops/stats.py::mean_grp` from the source (instrumented translation Hdc/Gen/SafeMeanGrp.lean,
written by harness/py2lean_stats.py).  The kernel has no scalar subscripts: per group it builds the mask
`grp_ix = groups == grp` (as long as `groups`), gathers `pix = xx[grp_ix]`, iterates over `pix`, and scatters
`yy[grp_ix] = avg`.  Flagged: a mask whose length differs from the array it selects from (NumPy raises IndexError; Numba does
not check), and the true division `avg / n` with `n = 0`.
-/
namespace Hdc.SafeProps
open Hdc Hdc.Gen Hdc.Gen.Kernels Hdc.PyNpT Hdc.SafeSim Hdc.SafeLemmas Hdc.GenKernels Std.Do

set_option mvcgen.warning false

variable {β : Type}

/-- (i) the instrumented program IS the translated `mean_grp` plus a flag -/
theorem safe_mean_grp_fst (F : FloatOps β) (xx groups : Array Int) (num_groups nodata : Int) (yy : Array β) :
    (Safe.mean_grp F xx groups num_groups nodata yy).1 = Kernels.mean_grp F xx groups num_groups nodata yy := by
  unfold Safe.mean_grp Kernels.mean_grp
  safe_sim

/-- the contract is exact: the flag is up IF AND ONLY IF there is a group to process and the three lengths are not equal -/
theorem safe_mean_grp_flag (F : FloatOps β) (xx groups : Array Int) (num_groups nodata : Int) (yy : Array β) :
    (Safe.mean_grp F xx groups num_groups nodata yy).2 = true
      ↔ (0 < num_groups ∧ ¬ (groups.size = xx.size ∧ groups.size = yy.size)) := by
  generalize hres : Safe.mean_grp F xx groups num_groups nodata yy = res
  apply Id.of_wp_run_eq hres
  mvcgen -trivial invariants
  -- loop over the groups, state `(bad, yy, grp_ix, pix, n, avg)`; the loop over `pix` does not subscript
  · ⇓⟨xs, s⟩ => ⌜s.2.1.size = yy.size
      ∧ (s.1 = true ↔ (0 < xs.prefix.length ∧ ¬ (groups.size = xx.size ∧ groups.size = yy.size)))⌝
  · ⇓⟨xs, s⟩ => ⌜True⌝
  all_goals first
    -- the loop over `pix` does not subscript
    | trivial
    -- one group: the masks `xx[grp_ix]`, `yy[grp_ix] = avg` (and the division, in the branch `n ≠ 0`)
    | (rename_i hn _
       obtain ⟨hsz, hb⟩ := ‹_ = _ ∧ (_ ↔ _)›
       refine ⟨(size_npMaskSet _ _ _).trans hsz, ?_⟩
       simp only [decide_eq_true_eq] at hn
       simp (config := {zetaDelta := true}) only [Bool.or_eq_true, maskBad_eq_true_iff, size_npEqMask,
         decide_eq_true_eq, hb, hsz, hn, or_false, List.length_append, List.length_singleton]
       omega)
    -- entry and exit of the loop over the groups
    | exact ⟨trivial, by simp only [Bool.false_eq_true, List.length_nil, Nat.lt_irrefl, false_and]⟩
    | (rename_i h
       rw [h.2, pyRange_length]
       omega)

/-- (ii) the flag stays down if - as soon as there is a group to process - `groups`, `xx` and `yy` have the same length.
    NOT needed for memory safety: anything about the group ids (an id outside `0 .. num_groups-1` matches no mask and its
    cell of `yy` is left alone), about `num_groups` (≤ 0: no iteration), about nodata.  The division `avg / n` is never by 0
    (it sits in the `else` of `if n == 0`). -/
theorem safe_mean_grp_ok (F : FloatOps β) (xx groups : Array Int) (num_groups nodata : Int) (yy : Array β)
    (hlen : 0 < num_groups → groups.size = xx.size ∧ groups.size = yy.size) :
    (Safe.mean_grp F xx groups num_groups nodata yy).2 = false :=
  Bool.eq_false_iff.mpr fun h =>
    have h' := (safe_mean_grp_flag F xx groups num_groups nodata yy).mp h
    h'.2 (hlen h'.1)

/-- the documented contract: one label and one output cell per data cell -/
theorem safe_mean_grp_ok' (F : FloatOps β) (xx groups : Array Int) (num_groups nodata : Int) (yy : Array β)
    (hx : groups.size = xx.size) (hy : yy.size = xx.size) :
    (Safe.mean_grp F xx groups num_groups nodata yy).2 = false :=
  safe_mean_grp_ok F xx groups num_groups nodata yy fun _ => ⟨hx, by omega⟩

/-! ### outside the contract the flag goes up (division kept as a pair, `FloatOps.pair`) -/

/-- `groups` shorter than `xx`: the mask of `xx[grp_ix]` has the wrong length -/
example : (Safe.mean_grp FloatOps.pair #[4, 5, 6] #[0, 1] 2 (-1) #[(0, 0), (0, 0)]).2 = true := by decide +kernel
/-- `yy` shorter than `groups`: the mask of `yy[grp_ix] = avg` has the wrong length -/
example : (Safe.mean_grp FloatOps.pair #[4, 5, 6] #[0, 1, 1] 2 (-1) #[(0, 0), (0, 0)]).2 = true := by decide +kernel
/-- the same inconsistent lengths without a group to process: nothing is accessed -/
example : (Safe.mean_grp FloatOps.pair #[4, 5, 6] #[0, 1] 0 (-1) #[(0, 0)]).2 = false := by decide +kernel
/-- in contract, with ids outside `0 .. num_groups-1` (7 and -3): flag down, their cells keep the buffer content -/
example : Safe.mean_grp FloatOps.pair #[4, -1, 6, 3, 8] #[0, 0, 0, 7, -3] 2 (-1) #[(9, 9), (9, 9), (9, 9), (9, 9), (9, 9)]
    = (#[(10, 2), (10, 2), (10, 2), (9, 9), (9, 9)], false) := by decide +kernel

end Hdc.SafeProps
