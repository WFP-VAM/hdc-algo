import Hdc.Lemmas.SafeSim
import Hdc.Lemmas.SafeBase
import Hdc.Gen.SafeMkScoreCounts
import Hdc.Gen.KMkScoreCounts
import Std.Tactic.Do
/-
SafeMkScoreCounts  Memory safety of the pair loop of `ops/stats.py::mk_score` from the source (instrumented translation
Hdc/Gen/SafeMkScoreCounts.lean): `for k in range(n - 1): for kk in range(k + 1, n):` reads `x[kk]`, `x[k]`.
-/
namespace Hdc.SafeProps
open Hdc Hdc.Gen Hdc.Gen.Kernels Hdc.SafeSim Hdc.SafeLemmas Hdc.GenKernels Std.Do

set_option mvcgen.warning false

/-- (i) the instrumented program IS the translated `mk_score_counts` plus a flag -/
theorem safe_mk_score_counts_fst (x : Array Int) :
    (Safe.mk_score_counts x).1 = Kernels.mk_score_counts x := by
  unfold Safe.mk_score_counts Kernels.mk_score_counts
  safe_sim

/-- (ii) no subscript leaves the array - for EVERY input (any length, also 0 and 1): no safety contract.
    (`range(k + 1, n)` -> `range(k + 1, n + 1)` or `x[k]` -> `x[k - n - 1]` in the source break it; `range(n - 1)` -> `range(n)` does not -
    the extra `k` has an empty inner range.) -/
theorem safe_mk_score_counts_ok (x : Array Int) : (Safe.mk_score_counts x).2 = false := by
  generalize hres : Safe.mk_score_counts x = res
  apply Id.of_wp_run_eq hres
  mvcgen -trivial invariants
  · ⇓⟨xs, s⟩ => ⌜s.1 = false⌝
  · ⇓⟨xs, s⟩ => ⌜s.1 = false⌝
  all_goals first
    -- one pair: `x[kk]`, `x[k]` (twice) with `0 ≤ k < kk < n`
    | (py_name cur as kk; py_name cur as k
       rename_i h
       have hk := pyRange_mem ‹pyRange 0 _ = _ ++ k :: _›
       have hkk := pyRange_mem ‹pyRange _ _ = _ ++ kk :: _›
       have hk' : 0 ≤ k ∧ k < (x.size : Int) := ⟨hk.1, by omega⟩
       have hkk' : 0 ≤ kk ∧ kk < (x.size : Int) := ⟨by omega, hkk.2⟩
       exact or_oob (or_oob (or_oob (or_oob h hkk') hk') hkk') hk')
    -- entries and exits of the loops
    | rfl
    | exact ‹_ = false›

/-- non-vacuity: concordant / discordant pairs and the flag -/
example : Safe.mk_score_counts #[1, 3, 2, 2] = ((3, 2), false) := by decide +kernel
example : (Safe.mk_score_counts #[]).2 = false := by decide +kernel

end Hdc.SafeProps
