import Hdc.Gen.SafeMkSens
import Hdc.Gen.NumMkSens
import Hdc.Lemmas.SafeMk
import Mathlib.Algebra.Order.Ring.Rat
import Std.Tactic.Do
/-
SafeMkSens  Safety of `hdc/algo/ops/stats.py::mk_sens_slope`, proved FROM THE SOURCE: `Hdc.Gen.Safe.mk_sens_slope`
(Hdc/Gen/SafeMkSens.lean, written by harness/py2lean_stats.py, class `SafeKN`) is the statement-by-statement translation plus
the flag `bad`, set by
    `negLen nd`                       the allocation `d = np.ones(nd)`, `nd = int(n * (n - 1) / 2)` (ValueError when negative)
    `oob x.size j`, `oob x.size i`    the subscripts `x[j]`, `x[i]` of `d[ix] = (x[j] - x[i]) / (j - i)`
    `decide (j - i = 0)`              the scalar division by the Python int `j - i`
    `oob d.size ix`                   the store `d[ix] = ..` with the running index `ix`
(no check: `/ 2` by a literal; `np.nanmedian(d)`, `np.nanmedian(x)`: total, NaN + a warning on an empty array.)

  safe_mk_sens_slope_fst   (Safe.mk_sens_slope x).1 = Gen.NumKernels.mk_sens_slope x      every carrier, every input
  safe_mk_sens_slope_ok    the flag is false for EVERY input, over the bare operator classes: NO contract.  The loops
                           `for i in range(n - 1): for j in range(i + 1, n)` give `0 <= i < j < n`, and they make exactly
                           `n (n - 1) / 2` steps: the invariant `SafeMk.CInv` counts the pairs still to come
                           (`ix + (pairs left in row i) + tri (n - (i + 1)) = tri n = len d`), so `ix < len d` at every store.
  `example`s               concrete rational series (also the empty one and a single cell, where no loop body runs)
-/
namespace Hdc.SafeMkSens
open Hdc Hdc.Gen.NumKernels Hdc.GenNum Hdc.SafeL Hdc.SafeSimN Hdc.PyNpT Hdc.SafeMk Std.Do

set_option mvcgen.warning false

/-- (i) the instrumented program is the translated source plus a flag -/
theorem safe_mk_sens_slope_fst {α : Type} [Add α] [Sub α] [Mul α] [Div α] [Neg α] [NatCast α] [LT α] [DecidableLT α]
    [IntCast α] (x : Array α) :
    (Gen.Safe.mk_sens_slope x).1 = Gen.NumKernels.mk_sens_slope x := by
  unfold Gen.Safe.mk_sens_slope Gen.NumKernels.mk_sens_slope
  safe_sim

/-- (ii) the flag is false: for every series (no hypothesis) no subscript leaves its array, the buffer length is not
    negative and no divisor `j - i` is zero -/
theorem safe_mk_sens_slope_ok {α : Type} [Add α] [Sub α] [Mul α] [Div α] [Neg α] [NatCast α] [LT α] [DecidableLT α]
    [IntCast α] (x : Array α) :
    (Gen.Safe.mk_sens_slope x).2 = false := by
  generalize hres : Gen.Safe.mk_sens_slope x = res
  apply Id.of_wp_run_eq hres
  mvcgen -trivial invariants
  · ⇓⟨xs, s⟩ => ⌜s.1 = false ∧ CInv x.size (x.size - xs.prefix.length) 0 s.2.2.size s.2.1⌝
  · ⇓⟨xs, s⟩ => by
      py_name cur as i
      exact ⌜s.1 = false ∧ CInv x.size (x.size - (i.toNat + 1)) ((x.size : ℤ) - (i + 1) - (xs.prefix.length : ℤ)) s.2.2.size s.2.1⌝
  all_goals
    pyn_ranges
    simp (config := {zetaDelta := true}) only [List.length_append, List.length_singleton, List.length_nil,
      pyRange_length, size_wr, Bool.false_or, Bool.or_eq_false_iff, oob_eq_false_iff, decide_eq_false_iff_not] at *
  all_goals first
    -- `d = np.ones(nd)`
    | exact ⟨negLen_nd _, CInv.init _ _⟩
    -- after the loops
    | exact (‹_ = false ∧ CInv _ _ _ _ _›).1
    -- `d[ix] = (x[j] - x[i]) / (j - i); ix += 1`: `0 <= i < j < n`, `ix` inside `d` while a pair of the row is to come
    | (obtain ⟨hb, hc⟩ := ‹_ = false ∧ CInv _ _ _ _ _›
       have hlt := hc.lt (by omega)
       exact ⟨by refine ⟨⟨⟨⟨hb, ?_⟩, ?_⟩, ?_⟩, ?_⟩ <;> omega, hc.step (by omega) (by omega) rfl⟩)
    -- entry / exit of the inner loop
    | exact ⟨(‹_ = false ∧ CInv _ _ _ _ _›).1, ((‹_ = false ∧ CInv _ _ _ _ _›).2.enter (by omega)).cast (by omega) (by omega) rfl⟩
    | exact ⟨(‹_ = false ∧ CInv _ _ _ _ _›).1, (‹_ = false ∧ CInv _ _ _ _ _›).2.cast (by omega) (by omega) rfl⟩

/-! ### Non-vacuity (ℚ).  There is no contract hypothesis, hence no input with the flag set; that the checks are live is
shown by the source mutations of the report (each one makes `safe_mk_sens_slope_ok` fail). -/

example : (Gen.Safe.mk_sens_slope (#[1, 3, 2, 6] : Array ℚ)).2 = false := safe_mk_sens_slope_ok _
/-- the same by evaluation; the empty series and a single cell: `nd = 0`, no loop body runs -/
example : (Gen.Safe.mk_sens_slope (#[1, 3, 2, 6] : Array ℚ)).2 = false := by decide +kernel
example : (Gen.Safe.mk_sens_slope (#[] : Array ℚ)).2 = false := by decide +kernel
example : (Gen.Safe.mk_sens_slope (#[7] : Array ℚ)).2 = false := by decide +kernel
/-- the predicates themselves: one cell too few / a negative length would be flagged -/
example : oob 6 6 = true ∧ oob 6 (-7) = true ∧ oob 6 5 = false ∧ oob 6 (-6) = false := by decide
example : negLen (-1) = true ∧ negLen 0 = false := by decide

end Hdc.SafeMkSens
