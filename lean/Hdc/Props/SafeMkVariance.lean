import Hdc.Gen.SafeMkVariance
import Hdc.Gen.NumMkVariance
import Hdc.Lemmas.SafeMk
import Mathlib.Algebra.Order.Ring.Rat
import Std.Tactic.Do
/-
SafeMkVariance  Safety of `hdc/algo/ops/stats.py::mk_variance_s`, proved FROM THE SOURCE: `Hdc.Gen.Safe.mk_variance_s`
(Hdc/Gen/SafeMkVariance.lean, written by harness/py2lean_stats.py, class `SafeKN`) is the statement-by-statement translation
plus the flag `bad`, set by
    `oob xu.size i`, `oob x.size ii`   the subscripts of `if xu[i] == x[ii]` (`i in range(len(xu))`, `ii in range(n)`, `n = len(x)`)
(no check: both `/ 18` by a literal; `xu = np.unique(x)`: total; the integer arithmetic of the tie terms.)

  safe_mk_variance_s_fst   (Safe.mk_variance_s F x).1 = Gen.NumKernels.mk_variance_s F x      every carrier, every input
  safe_mk_variance_s_ok    the flag is false for EVERY input and every `F`, over the bare operator classes: NO contract
                           (each subscript is the variable of a `range(len ..)` loop over the same array)
  `example`s               concrete rational series (`SafeMk.Fq`: the toy `MKFns ℚ` of Hdc/Lemmas/SafeMk.lean): without ties (early `return`), with ties (both loops), empty
-/
namespace Hdc.SafeMkVariance
open Hdc Hdc.Gen.NumKernels Hdc.GenNum Hdc.SafeL Hdc.SafeSimN Hdc.PyNpT Hdc.SafeMk Std.Do

set_option mvcgen.warning false

/-- (i) the instrumented program is the translated source plus a flag -/
theorem safe_mk_variance_s_fst {α : Type} [Add α] [Sub α] [Mul α] [Div α] [Neg α] [NatCast α] [LT α] [DecidableLT α]
    (F : MKFns α) (x : Array α) :
    (Gen.Safe.mk_variance_s F x).1 = Gen.NumKernels.mk_variance_s F x := by
  unfold Gen.Safe.mk_variance_s Gen.NumKernels.mk_variance_s
  safe_sim

/-- (ii) the flag is false: for every series (no hypothesis) no subscript leaves its array -/
theorem safe_mk_variance_s_ok {α : Type} [Add α] [Sub α] [Mul α] [Div α] [Neg α] [NatCast α] [LT α] [DecidableLT α]
    (F : MKFns α) (x : Array α) :
    (Gen.Safe.mk_variance_s F x).2 = false := by
  generalize hres : Gen.Safe.mk_variance_s F x = res
  apply Id.of_wp_run_eq hres
  mvcgen -trivial invariants
  · ⇓⟨xs, s⟩ => ⌜s.1 = false⌝
  · ⇓⟨xs, s⟩ => ⌜s.1 = false⌝
  -- a cell of the inner loop: both subscripts are loop variables of a `range(len(..))`
  case vc1.step.isTrue | vc2.step.isFalse =>
    pyn_ranges
    simp (config := {zetaDelta := true}) only [Bool.or_eq_false_iff, oob_eq_false_iff] at *
    refine ⟨⟨by assumption, ?_⟩, ?_⟩ <;> omega
  all_goals assumption

/-! ### Non-vacuity (ℚ).  There is no contract hypothesis, hence no input with the flag set; that the checks are live is
shown by the source mutations of the report (each one makes `safe_mk_variance_s_ok` fail). -/

example : (Gen.Safe.mk_variance_s Fq #[2, 1, 2, 1, 2]).2 = false := safe_mk_variance_s_ok _ _
/-- by evaluation: ties of sizes 2 and 3 (both loops run); no ties (the early `return`); the empty series -/
example : Gen.Safe.mk_variance_s Fq #[2, 1, 2, 1, 2] = (12, false) := by decide +kernel
example : Gen.Safe.mk_variance_s Fq #[4, 1, 3, 2] = (26 / 3, false) := by decide +kernel
example : Gen.Safe.mk_variance_s Fq #[] = (0, false) := by decide +kernel

end Hdc.SafeMkVariance
