import Hdc.Lemmas.SafeSim
import Hdc.Lemmas.SafeBase
import Hdc.Gen.SafeRollingSum
import Hdc.Gen.KRollingSum
import Std.Tactic.Do
/-
SafeRollingSum  Memory safety of `ops/stats.py::rolling_sum`, proved FROM THE SOURCE: the translator's instrumentation mode
(harness/py2lean.py) writes Hdc/Gen/SafeRollingSum.lean = the translated program + the flag `bad`, raised in front of every
subscript `a[i]` with `i` outside `-len(a) ≤ i < len(a)`.

* `safe_rolling_sum_fst`  the instrumented program computes what the translated program computes;
* `safe_rolling_sum_ok`   the flag stays down whenever the output buffer is at least as long as the input - for EVERY
                          window size (0, negative, larger than the series): the window size is not a safety condition;
* `safe_rolling_sum_flag` and that hypothesis is exact: flag up  ↔  len(yy) < len(xx).
-/
namespace Hdc.SafeProps
open Hdc Hdc.Gen Hdc.Gen.Kernels Hdc.SafeSim Hdc.SafeLemmas Hdc.GenKernels Std.Do

set_option mvcgen.warning false
set_option linter.unusedSimpArgs false

/-- (i) the instrumented program IS the translated `rolling_sum` plus a flag: same result on the same inputs (no hypotheses) -/
theorem safe_rolling_sum_fst (xx : Array Int) (window_size nodata : Int) (yy : Array Int) :
    (Safe.rolling_sum xx window_size nodata yy).1 = Kernels.rolling_sum xx window_size nodata yy := by
  unfold Safe.rolling_sum Kernels.rolling_sum
  safe_sim

/-- the contract is exact: the flag is up IF AND ONLY IF the output buffer is shorter than the input (every `yy[ii]`, `ii < n`,
    is touched, whatever the window size).  Invariants: outer loop after `p` cells `bad ↔ len(yy) < p`; inner loop in cell `k`
    `0 ≤ n_valid` and `bad ↔ len(yy) < k ∨ (len(yy) ≤ k ∧ 0 < n_valid)` (the first valid cell of the window raises it). -/
theorem safe_rolling_sum_flag (xx : Array Int) (window_size nodata : Int) (yy : Array Int) :
    (Safe.rolling_sum xx window_size nodata yy).2 = true ↔ yy.size < xx.size := by
  generalize hres : Safe.rolling_sum xx window_size nodata yy = res
  apply Id.of_wp_run_eq hres
  mvcgen -trivial invariants
  · ⇓⟨xs, s⟩ => ⌜s.2.1.size = yy.size ∧ (s.1 = true ↔ yy.size < xs.prefix.length)⌝
  · ⇓⟨xs, s⟩ => by
      py_name cur as k
      exact ⌜s.2.1.size = yy.size ∧ 0 ≤ s.2.2
        ∧ (s.1 = true ↔ ((yy.size : Int) < k ∨ ((yy.size : Int) ≤ k ∧ 0 < s.2.2)))⌝
  all_goals first
    -- exit of the outer loop
    | (rename_i h
       rw [h.2, pyRange_length, Int.sub_zero, Int.toNat_natCast])
    -- every other condition: the checks as ranges, the flag so far by the invariant `h`, the loop positions by `py_ranges`
    | (rename_i h
       py_ranges
       simp only [decide_eq_true_eq] at *
       simp (config := {zetaDelta := true}) only [Bool.or_eq_true, oob_eq_true_iff, size_wr, h.1, h.2,
         List.length_append, List.length_singleton, pyRange_length]
       grind)
    -- `yy[:] = 0` before the loop
    | exact ⟨Array.size_map, by simp only [Bool.false_eq_true, List.length_nil, Nat.not_lt_zero]⟩

/-- (ii) no subscript of `rolling_sum` leaves its array if `len(xx) ≤ len(yy)` (the gufunc layout `(n),(),() -> (n)` gives
    equality).  Nothing is assumed about `window_size`: with `window_size ≤ 0` the window `range(ii - w + 1, ii + 1)` is empty,
    with `window_size > ii + 1` the guard `ii - w + 1 < 0` skips it, otherwise `0 ≤ ii - w + 1 ≤ jj ≤ ii < n`. -/
theorem safe_rolling_sum_ok (xx : Array Int) (window_size nodata : Int) (yy : Array Int)
    (hyy : xx.size ≤ yy.size) :
    (Safe.rolling_sum xx window_size nodata yy).2 = false :=
  Bool.eq_false_iff.mpr fun h => by
    have := (safe_rolling_sum_flag xx window_size nodata yy).mp h
    omega

/-! ### the contract is needed: outside it the flag goes up (evaluated in the kernel) -/

/-- output buffer one cell short: `yy[2]` is out of range -/
example : (Safe.rolling_sum #[1, 2, 3] 2 (-1) #[0, 0]).2 = true := by decide +kernel

/-- in contract, windows 2, 0, -5 and 7 (> n): results and flag -/
example : Safe.rolling_sum #[1, 2, 3] 2 (-1) #[0, 0, 0] = (#[-1, 3, 5], false) := by decide +kernel
example : Safe.rolling_sum #[1, 2, 3] 0 (-1) #[0, 0, 0] = (#[-1, -1, -1], false) := by decide +kernel
example : Safe.rolling_sum #[1, 2, 3] (-5) (-1) #[0, 0, 0] = (#[-1, -1, -1], false) := by decide +kernel
example : Safe.rolling_sum #[1, 2, 3] 7 (-1) #[0, 0, 0] = (#[-1, -1, -1], false) := by decide +kernel

end Hdc.SafeProps
