import Hdc.Gen.SafeTinterpolate
import Hdc.Gen.NumTinterpolate
import Hdc.Lemmas.SafeTI
import Hdc.Lemmas.SafeSimN
import Hdc.Props.SafeWs2d
import Std.Tactic.Do
/-
SafeTinterpolate  Safety of `hdc/algo/ops/tinterpolate.py::tinterpolate`, proved FROM THE SOURCE: `Hdc.Gen.Safe.tinterpolate`
(Hdc/Gen/SafeTinterpolate.lean) is the statement-by-statement translation plus the flag `bad`, set before a statement by
  * `oob a.size i`        subscripts  `x[jj]`, `temp[ii]`, `x[-1]`, `temp[-1]`, `z[0]`, `labels[ii - 1]`, `z[ii]`, `out[kk]`
  * `badSliceFrom …`      the slice `labels[1:]`  (flagged unless `0 ≤ 1 ≤ len labels`)
  * `decide (jj = 0)`     the two scalar divisions `v / jj` (`jj` is a Python int)
  * `(Safe.ws2d …).2`     the call `ws2d(temp, 0.00001, w)` of the instrumented smoother.
(`for tt in temp` / `for ll in labels[1:]` iterate inside their arrays by construction: no check.)

  safe_tinterpolate_fst   (Safe.tinterpolate …).1 = Gen.NumKernels.tinterpolate …      every carrier, every input
  safe_tinterpolate_ok    under `Contract` the flag is false
  `example`s              for every hypothesis of `Contract` an input over ℚ outside it where the flag is true (for `len`:
                          at 2 days the flag is false on all inputs tried — `ws2d` at n = 2 wraps its indices but no
                          divisor vanished; the theorem about `ws2d` starts at n = 3)
-/
namespace Hdc.SafeTinterpolate
open Hdc Hdc.Gen.NumKernels Hdc.GenNum Hdc.SafeL Hdc.SafeTI Hdc.SafeSimN Std.Do
open Hdc.Ws2dGen (av Holds)
open Hdc.Ws2d (fnl)
open Hdc.GenKernels (gv lv gv_toArray)

set_option mvcgen.warning false

/-- (i) the instrumented program is the translated source plus a flag -/
theorem safe_tinterpolate_fst {α : Type} [Add α] [Sub α] [Mul α] [Div α] [Neg α] [NatCast α] [LT α] [DecidableLT α]
    [IntCast α] (rnd : α → α) (lam : α) (x template : Array α) (labels : Array Int) (out : Array α) :
    (Gen.Safe.tinterpolate rnd lam x template labels out).1
      = Gen.NumKernels.tinterpolate rnd lam x template labels out := by
  unfold Gen.Safe.tinterpolate Gen.NumKernels.tinterpolate
  simp only [SafeWs2d.safe_ws2d_fst]
  safe_sim

variable {α : Type} [Field α] [LinearOrder α] [IsStrictOrderedRing α]

/-- the documented contract of `tinterpolate` -/
structure Contract (lam : α) (x template : List α) (labels : List Int) (out0 : Array α) : Prop where
  /-- at least 3 days (what `ws2d` needs) -/
  len : 3 ≤ template.length
  /-- one label per day (the gufunc signature `(m),(m)`); fewer labels than days would also do -/
  llen : labels.length ≤ template.length
  lpos : 1 ≤ labels.length
  /-- the template is non-negative (it is used as the weight vector) with at least two marks … -/
  nonneg : ∀ v ∈ template, 0 ≤ v
  two : 2 ≤ nmarks template
  /-- … and at most `len x` marks -/
  marks : nmarks template ≤ x.length
  lam_pos : 0 < lam
  /-- one output cell per maximal run of equal labels -/
  outlen : (labels.splitBy (· == ·)).length ≤ out0.size

theorem safe_tinterpolate_ok (rnd : α → α) (lam : α) (x template : List α) (labels : List Int)
    (out0 : Array α) (hc : Contract lam x template labels out0) :
    (Gen.Safe.tinterpolate rnd lam x.toArray template.toArray labels.toArray out0).2 = false := by
  have hm := hc.marks
  have h3 := hc.len
  have hll := hc.llen
  have hl1 := hc.lpos
  generalize hres :
    Gen.Safe.tinterpolate rnd lam x.toArray template.toArray labels.toArray out0 = res
  apply Id.of_wp_run_eq hres
  mvcgen -trivial invariants
  -- scatter loop, state `(bad, temp, ii, jj)`
  · ⇓⟨xs, s⟩ => ⌜s.1 = false ∧ Scat template x xs.prefix.length s.2.1 s.2.2.1 s.2.2.2⌝
  -- run-length loop, state `(bad, out, ii, jj, kk, v)`
  · ⇓⟨xs, s⟩ => ⌜s.1 = false ∧ 1 ≤ s.2.2.2.1 ∧ Runs labels (Gen.Ws2d.ws2d (tiTemp x template).toArray lam template.toArray).toList (band rnd) out0
        xs.prefix.length s.2.1 s.2.2.1 s.2.2.2.1 s.2.2.2.2.1 s.2.2.2.2.2⌝
  all_goals
    pyn_ranges
    simp (config := {zetaDelta := true}) only [List.size_toArray, List.length_append,
      List.length_singleton, List.length_nil, pyRange_length, decide_eq_true_eq] at *
  -- scatter loop: a mark (`temp[ii] = x[jj]`)
  case vc1.step.isTrue =>
    obtain ⟨hb0, hS⟩ := ‹_ ∧ Scat _ _ _ _ _ _›
    have hjj := Scat.mark_bounds hS (by omega) hm ‹(!eqv _ _) = true› (by omega)
    refine ⟨?_, hS.step_mark (by omega) hm ‹(!eqv _ _) = true› (by omega)⟩
    have hii := hS.hii
    simp (disch := omega) only [hb0, hS.size, oob_false, Bool.or_false]
  -- scatter loop: no mark
  case vc2.step.isFalse =>
    obtain ⟨hb0, hS⟩ := ‹_ ∧ Scat _ _ _ _ _ _›
    exact ⟨hb0, hS.step_zero (by omega) ‹¬ (!eqv _ _) = true› (by omega)⟩
  -- entry of the scatter loop
  case vc3.pre => exact ⟨trivial, Scat.init template x⟩
  -- run-length loop: same label
  case vc4.step.isTrue =>
    py_name pref as pref
    obtain ⟨hb0, hS⟩ := ‹_ ∧ Scat _ _ _ _ _ _›
    obtain ⟨hb1, hj1, hR⟩ := ‹_ ∧ _ ∧ Runs _ _ _ _ _ _ _ _ _ _›
    have hzt := hS.final (by omega) (by omega)
    have hZs := ws2d_tiTemp_size x template lam
    have hzl := le_ws2d_tiTemp_length hll x lam
    have hii := hR.hii
    have hc' := ‹rdI labels.toArray _ = rdI labels.toArray _›
    rw [rdI_of_eq _ _ (pref.length + 1) (by omega), rdI_of_eq _ _ pref.length (by omega),
      gv_toArray, gv_toArray] at hc'
    change wr _ _ _ = (tiTemp x template).toArray at hzt
    simp only [hzt, SafeWs2d.safe_ws2d_fst]
    refine ⟨?_, by omega, ?_⟩
    · simp (disch := omega) only [hb1, hZs, hii, oob_false, Bool.or_false]
    · rw [rd_of_eq _ _ (pref.length + 1) (by omega), av_eq_fnl_toList]
      exact hR.step_same (by omega) hzl hc'
  -- run-length loop: new label (`out[kk]` is stored)
  case vc5.step.isFalse =>
    py_name pref as pref
    obtain ⟨hb0, hS⟩ := ‹_ ∧ Scat _ _ _ _ _ _›
    obtain ⟨hb1, hj1, hR⟩ := ‹_ ∧ _ ∧ Runs _ _ _ _ _ _ _ _ _ _›
    have hzt := hS.final (by omega) (by omega)
    have hZs := ws2d_tiTemp_size x template lam
    have hzl := le_ws2d_tiTemp_length hll x lam
    have hii := hR.hii
    have hkk := Runs.kk_bounds hR hzl hc.outlen
    have hc' := ‹¬ rdI labels.toArray _ = rdI labels.toArray _›
    rw [rdI_of_eq _ _ (pref.length + 1) (by omega), rdI_of_eq _ _ pref.length (by omega),
      gv_toArray, gv_toArray] at hc'
    change wr _ _ _ = (tiTemp x template).toArray at hzt
    simp only [hzt, SafeWs2d.safe_ws2d_fst]
    refine ⟨?_, le_refl _, ?_⟩
    · have hj0 := (fun (j : ℤ) (h : 1 ≤ j) => (by omega : ¬ j = 0)) _ hj1
      simp (disch := omega) only [hb1, hZs, hii, hj0, decide_false, oob_false, Bool.or_false]
    · rw [rd_of_eq _ _ (pref.length + 1) (by omega), av_eq_fnl_toList]
      exact hR.step_new (by omega) hzl hc'
  -- exit of the scatter loop, the call of `ws2d`, entry of the run-length loop (`v = z[0]`)
  case vc6.post.success.pre =>
    obtain ⟨hb0, hS⟩ := ‹_ ∧ Scat _ _ _ _ _ _›
    have hzt := hS.final (by omega) (by omega)
    have hZs := ws2d_tiTemp_size x template lam
    have hzl := le_ws2d_tiTemp_length hll x lam
    have hok := SafeWs2d.safe_ws2d_ok (tiTemp x template) template lam
      ⟨by rw [tiTemp_length]; exact h3, (tiTemp_length x template).symm, hc.lam_pos, hc.nonneg,
        two_pos_of_nmarks template hc.nonneg hc.two⟩
    have h2 := hc.two
    change wr _ _ _ = (tiTemp x template).toArray at hzt
    simp only [hzt, SafeWs2d.safe_ws2d_fst]
    refine ⟨?_, le_refl _, ?_⟩
    · simp (disch := omega) only [hb0, hok, hZs, hS.size, oob_false, Bool.or_false,
        badSliceFrom_eq_false_iff.2]
    · rw [rd_of_eq _ 0 0 rfl, av_eq_fnl_toList]
      exact Runs.init labels _ _ out0 (by omega) (by omega)
  -- exit of the run-length loop: the last `out[kk]`
  case vc7.post.success.post.success =>
    obtain ⟨hb0, hS⟩ := ‹_ ∧ Scat _ _ _ _ _ _›
    obtain ⟨hb1, hj1, hR⟩ := ‹_ ∧ _ ∧ Runs _ _ _ _ _ _ _ _ _ _›
    have hkk := Runs.kk_bounds hR (le_ws2d_tiTemp_length hll x lam) hc.outlen
    have hj0 := (fun (j : ℤ) (h : 1 ≤ j) => (by omega : ¬ j = 0)) _ hj1
    simp (disch := omega) only [hb1, hj0, decide_false, oob_false, Bool.or_false]


/-! ### Non-vacuity and sharpness (ℚ; `round` the identity, λ = 1) -/

/-- an instance of the contract: 6 days, marks on days 0, 3, 5, two label runs -/
example : (Gen.Safe.tinterpolate (fun v => v) (1 : ℚ) ([10, 20, 30] : List ℚ).toArray
    ([1, 0, 0, 1, 0, 1] : List ℚ).toArray ([1, 1, 1, 2, 2, 2] : List Int).toArray #[7, 7]).2 = false :=
  safe_tinterpolate_ok _ _ _ _ _ _
    ⟨by decide, by decide, by decide, by
      intro v hv
      simp only [List.mem_cons, List.not_mem_nil, or_false] at hv
      rcases hv with rfl | rfl | rfl | rfl | rfl | rfl <;> norm_num,
     by decide +kernel, by decide +kernel, by norm_num, by decide⟩

private def ti (lam : ℚ) (x t : Array ℚ) (l : Array Int) (o : Array ℚ) : Bool :=
  (Gen.Safe.tinterpolate (fun v => v) lam x t l o).2

/-- `outlen`: a buffer with fewer cells than label runs (`out[kk]` out of range) -/
example : ti 1 #[10, 20, 30] #[1, 0, 0, 1, 0, 1] #[1, 1, 1, 2, 2, 2] #[7] = true := by decide +kernel
/-- `marks`: more marks than observations (`x[jj]` out of range) -/
example : ti 1 #[10, 20] #[1, 0, 0, 1, 0, 1] #[1, 1, 1, 2, 2, 2] #[7, 7] = true := by decide +kernel
/-- `llen`: more labels than days (`z[ii]` out of range) -/
example : ti 1 #[10, 20, 30] #[1, 0, 0, 1, 0, 1] #[1, 1, 1, 2, 2, 2, 2] #[7, 7] = true := by decide +kernel
/-- fewer labels than days are harmless (hence `llen` is an inequality) -/
example : ti 1 #[10, 20, 30] #[1, 0, 0, 1, 0, 1] #[1, 1, 1, 2, 2] #[7, 7] = false := by decide +kernel
/-- `lpos`: no label at all (`labels[1:]` is clamped) -/
example : ti 1 #[10, 20, 30] #[1, 0, 0, 1, 0, 1] #[] #[7, 7] = true := by decide +kernel
/-- `lam_pos`: λ = 0 (a pivot of the smoother vanishes on an unmarked day) -/
example : ti 0 #[10, 20, 30] #[1, 0, 0, 1, 0, 1] #[1, 1, 1, 2, 2, 2] #[7, 7] = true := by decide +kernel
/-- `nonneg`: a negative template entry is a mark with a negative weight -/
example : ti 1 #[10, 20, 30] #[-1, 0, 0, 1, 0, 1] #[1, 1, 1, 2, 2, 2] #[7, 7] = true := by decide +kernel
/-- `two`: a single mark -/
example : ti 1 #[10] #[1, 0, 0, 0, 0, 0] #[1, 1, 1, 2, 2, 2] #[7, 7] = true := by decide +kernel
/-- `len`: a template of one day (the smoother stores `d[1]`); at two days this input is not flagged -/
example : ti 1 #[10] #[1] #[1] #[7, 7] = true := by decide +kernel
example : ti 1 #[10, 20] #[1, 1] #[1, 2] #[7, 7] = false := by decide +kernel

end Hdc.SafeTinterpolate
