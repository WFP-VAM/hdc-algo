import Hdc.Gen.SafeWs2d
import Hdc.Lemmas.SafeSimN
import Hdc.Lemmas.SafeWs2d
import Hdc.Props.C01
import Std.Tactic.Do
import Mathlib.Tactic.NormNum
/-
SafeWs2d  Safety of `hdc/algo/ops/ws2d.py::ws2d`, proved FROM THE SOURCE: `Hdc.Gen.Safe.ws2d` (Hdc/Gen/SafeWs2d.lean) is the
statement-by-statement translation of the source plus one flag `bad`, or-ed before every statement with
  * `oob a.size i`     for every subscript `a[i]` of the statement (Python raises IndexError / a Numba build without bounds
                       checks reads or corrupts foreign memory) and
  * `eqv e2 (nat 0)`   for every division `e1 / e2` (all 9 divisions of ws2d are scalar: by `d[0]` twice, `d[1]` twice, `d[i]`
                       twice in the forward loop, `d[m-1]`, `d[m]`, `d[m-1]` again and `d[i]` in the back substitution;
                       Numba raises ZeroDivisionError).

  safe_ws2d_fst        (Safe.ws2d y λ w).1 = Gen.Ws2d.ws2d y λ w        every carrier, every input (generic simulation)
  safe_ws2d_flag_iff   n ≥ 3, len w = len y:   flag = true  ↔  some pivot `d_j` (j < n) of the forward sweep is zero
                       (so no subscript ever leaves `[-n, n)`, and the divisions are the only way to fail)
  safe_ws2d_ok         under `Contract` (n ≥ 3, len w = len y, λ > 0, w ≥ 0, two positive weights) the flag is false
  safe_ws2d_ok_c01     the same from `C01.InContract` (n ≥ 4)
  `example`s           for every hypothesis of `Contract` an input over ℚ outside it where the flag is true

Method for the flag: `safe_ws2d_run` (Hdc/Lemmas/SafeWs2d.lean), the one `mvcgen` run over the instrumented program with
the invariants of the hand model plus "the flag is set iff a divisor check fired on a finished row"; here the check
`eqv d (nat 0)` is read as `d = 0` (ordered field).  Positivity of the pivots is `C01.pivots_pos_fn` (n ≥ 4) resp. a direct
computation (n = 3, where the source reads `e[-1]`, `d[-1]`, `z[-1]`: wrapped, in range).
-/
namespace Hdc.SafeWs2d
open Hdc Hdc.Gen.Ws2d Hdc.Ws2dGen Hdc.Ws2d Hdc.SafeL Hdc.SafeSimN Std.Do

set_option linter.unusedSectionVars false

/-- (i) the instrumented program is the translated source plus a flag: its first component is the ordinary translation,
    over the bare operator classes, for all inputs -/
theorem safe_ws2d_fst {α : Type} [Add α] [Sub α] [Mul α] [Div α] [Neg α] [NatCast α] [LT α] [DecidableLT α]
    (y w : Array α) (lam : α) : (Gen.Safe.ws2d y lam w).1 = Gen.Ws2d.ws2d y lam w := by
  unfold Gen.Safe.ws2d Gen.Ws2d.ws2d
  safe_sim

section flag
variable {α : Type} [Field α] [LinearOrder α] [IsStrictOrderedRing α]

/-- for `n ≥ 3` the flag records exactly the vanishing pivots of the forward sweep -/
theorem safe_ws2d_flagIs (y w : List α) (lam : α) (h : w.length = y.length) (hn : 3 ≤ y.length) :
    FlagIs (ZeroPiv y w lam y.length) (Hdc.Gen.Safe.ws2d y.toArray lam w.toArray).2 :=
  (safe_ws2d_run y w lam h hn).2.congr (exists_congr fun _ => and_congr_right fun _ => eqv_zero_iff _)

/-- (ii-a) the exact condition: for `n ≥ 3` and `len w = len y` the flag is set iff a pivot of the forward sweep of the
    model (`Hdc.Ws2d.RS`, the rows `Hdc.ws2dRows`) is zero; in particular no subscript is ever out of range -/
theorem safe_ws2d_flag_iff (y w : List α) (lam : α) (h : w.length = y.length) (hn : 3 ≤ y.length) :
    (Hdc.Gen.Safe.ws2d y.toArray lam w.toArray).2 = true
      ↔ ∃ j < y.length, (RS lam y.length (fnl w) (fnl y) (j + 2)).d = 0 :=
  safe_ws2d_flagIs y w lam h hn

/-- (ii) under the contract the flag is false: no subscript of the source leaves its array and no divisor is zero -/
theorem safe_ws2d_ok (y w : List α) (lam : α) (h : Contract y w lam) :
    (Hdc.Gen.Safe.ws2d y.toArray lam w.toArray).2 = false := by
  refine (safe_ws2d_flagIs y w lam h.wlen h.len).eq_false ?_
  rintro ⟨j, hj, h0⟩
  exact (h.pivots_pos j hj).ne' h0

/-- the same from the hypotheses of C01 (`n ≥ 4`) -/
theorem safe_ws2d_ok_c01 (y w : List α) (lam : α) (h : C01.InContract y w lam) :
    (Hdc.Gen.Safe.ws2d y.toArray lam w.toArray).2 = false :=
  safe_ws2d_ok y w lam (Contract.of_c01 h)

end flag

/-! ### Non-vacuity and sharpness (ℚ) -/

/-- the contract is satisfiable and the flag is false there (`n = 5`, one zero weight) -/
example : (Hdc.Gen.Safe.ws2d ([1, 2, 4, 3, 5] : List ℚ).toArray 10 ([1, 1, 0, 1, 1] : List ℚ).toArray).2 = false :=
  safe_ws2d_ok _ _ _
    ⟨by decide, by decide, by norm_num, by
      intro x hx
      simp only [List.mem_cons, List.not_mem_nil, or_false] at hx
      rcases hx with rfl | rfl | rfl | rfl | rfl <;> norm_num,
     ⟨0, 1, by decide, by decide, by norm_num [C01.fn], by norm_num [C01.fn]⟩⟩

/-- the minimum length `n = 3` (the source reads the wrapped cells `e[-1]`, `d[-1]`, `z[-1]`) -/
example : (Hdc.Gen.Safe.ws2d ([1, 2, 4] : List ℚ).toArray 10 ([1, 1, 0] : List ℚ).toArray).2 = false :=
  safe_ws2d_ok _ _ _
    ⟨by decide, by decide, by norm_num, by
      intro x hx
      simp only [List.mem_cons, List.not_mem_nil, or_false] at hx
      rcases hx with rfl | rfl | rfl <;> norm_num,
     ⟨0, 1, by decide, by decide, by norm_num [C01.fn], by norm_num [C01.fn]⟩⟩

/-- `len`: at `n = 1` the store `d[1]` is out of range (and at `n = 0` already `w[0]`) -/
example : (Hdc.Gen.Safe.ws2d (#[1] : Array ℚ) 10 #[1]).2 = true := by decide +kernel
example : (Hdc.Gen.Safe.ws2d (#[] : Array ℚ) 10 #[]).2 = true := by decide +kernel
/-- at `n = 2` every subscript is in `[-2, 2)` (the rows `m-1`, `m` read `c[-1]`, `d[-1]`, `e[-2]`, `d[-2]`, `e[-1]`:
    wrapped) and this input has no zero divisor, but the result is not the least-squares solution (which is `y`) -/
example : Hdc.Gen.Safe.ws2d (#[1, 2] : Array ℚ) 10 #[1, 1] = (#[161 / 101, 182 / 101], false) := by decide +kernel
/-- `wlen`: a weight vector that is too short -/
example : (Hdc.Gen.Safe.ws2d (#[1, 2, 4, 3] : Array ℚ) 10 #[1, 1, 0]).2 = true := by decide +kernel
/-- `lam_pos`: λ = 0 with a zero weight -/
example : (Hdc.Gen.Safe.ws2d (#[1, 2, 4, 3] : Array ℚ) 0 #[1, 1, 0, 1]).2 = true := by decide +kernel
/-- `w_nonneg`: a negative weight (`w₀ = -λ` makes the first pivot zero) -/
example : (Hdc.Gen.Safe.ws2d (#[1, 2, 4, 3] : Array ℚ) 10 #[-10, 1, 1, 1]).2 = true := by decide +kernel
/-- `two_pos`: a single positive weight (the last pivot is zero), and no positive weight at all -/
example : (Hdc.Gen.Safe.ws2d (#[1, 2, 4, 3] : Array ℚ) 10 #[1, 0, 0, 0]).2 = true := by decide +kernel
example : (Hdc.Gen.Safe.ws2d (#[1, 2, 4, 3] : Array ℚ) 10 #[0, 0, 0, 0]).2 = true := by decide +kernel

end Hdc.SafeWs2d

