import Hdc.Gen.SafeWs2dgu
import Hdc.Gen.NumWs2dgu
import Hdc.Lemmas.SafeFixed
import Hdc.Lemmas.SafeSimN
import Std.Tactic.Do
/-
SafeWs2dgu  Safety of `hdc/algo/ops/ws2dgu.py::ws2dgu`, proved FROM THE SOURCE: `Hdc.Gen.Safe.ws2dgu` (Hdc/Gen/SafeWs2dgu.lean,
written by the instrumentation mode of harness/py2lean_fixed.py) is the statement-by-statement translation plus the flag `bad`.
The kernel is written with NumPy vector idioms: it has no subscript and no scalar division of its own; the flag is set by
  * `lenDiffer (w == 0).size y.size`     `np.where(w == 0, 0.0, y)`: condition and alternative of different lengths
  * `(Safe.ws2d y lmda w).2`             the call of the instrumented smoother (its subscripts and its 9 divisions by pivots)
  * `lenDiffer z.size out.size`          `np.round(z, 0, out)`: NumPy raises when `z` does not fit the buffer
  * `lenDiffer y.size out.size`          `out[:] = y[:]` on the two pass-through paths.

  safe_ws2dgu_fst   (Safe.ws2dgu …).1 = Gen.NumKernels.ws2dgu …       every carrier, every input
  safe_ws2dgu_ok    the flag is false under the contract
                        out.size = len y        the gufunc layout `(n),(),() -> (n)`
                        len y ≠ 2               `ws2d` needs 3 cells; with ≤ 1 cell the smoother is never called
                        0 ≤ λ                   the source tests `lmda != 0.0`, which does NOT give `λ > 0`: for `λ < 0` a pivot of the
                                                elimination can vanish (`w₀ + λ = 0` at λ = -1): the flag is true, see the examples
  `example`s        for `out.size` and `0 ≤ λ` an input over ℚ outside the hypothesis with the flag true.  For `len y ≠ 2` NO such
                    input exists as far as we can tell: with two cells every subscript of `ws2d` wraps inside `[-2, 2)` and the four
                    pivots stayed positive on every (λ, weights) tried (the result is not the least-squares curve, which is the
                    finding of GenNumGu; it is not a fault that raises): the hypothesis is there because `safe_ws2d_ok` is proved for
                    n ≥ 3 (same situation as `3 ≤ len y` in SafeWs2doptv.lean).
-/
namespace Hdc.SafeWs2dgu
open Hdc Hdc.Gen.NumKernels Hdc.GenNum Hdc.Smooth Hdc.SafeL Hdc.SafeOptv Hdc.SafeFixed Hdc.SafeSimN Std.Do Hdc.PyNpF

set_option mvcgen.warning false
set_option linter.unusedSimpArgs false

/-- (i) the instrumented program is the translated source plus a flag -/
theorem safe_ws2dgu_fst {α : Type} [Add α] [Sub α] [Mul α] [Div α] [Neg α] [NatCast α] [LT α] [DecidableLT α]
    (rnd : α → α) (isnan isinf : α → Bool) (y : Array α) (lam nodata : α) (out : Array α) :
    (Gen.Safe.ws2dgu rnd isnan isinf y lam nodata out).1 = Gen.NumKernels.ws2dgu rnd isnan isinf y lam nodata out := by
  unfold Gen.Safe.ws2dgu Gen.NumKernels.ws2dgu
  simp only [SafeWs2d.safe_ws2d_fst]
  safe_sim

variable {α : Type} [Field α] [LinearOrder α] [IsStrictOrderedRing α]

/-- (ii) under the contract the flag is false -/
theorem safe_ws2dgu_ok (rnd : α → α) (isnan isinf : α → Bool) (y : List α) (lam nodata : α)
    (out0 : Array α) (hout : out0.size = y.length) (h2 : y.length ≠ 2) (hlam : 0 ≤ lam) :
    (Gen.Safe.ws2dgu rnd isnan isinf y.toArray lam nodata out0).2 = false := by
  generalize hres : Gen.Safe.ws2dgu rnd isnan isinf y.toArray lam nodata out0 = res
  apply Id.of_wp_run_eq hres
  mvcgen -trivial
  -- every combinator is the list operation it stands for; `w`, `n > 1`, the cleaned `y` are the model's
  all_goals
    simp (config := {zetaDelta := true}) only [npComp_eq, npBoolToNum_eq, npZipAA_eq, npZipSA_eq,
      npZipAS_eq, npMap_eq, npSum_eq, npWhereSA_eq, npWhereAS_eq, npWhereSS_eq, List.toList_toArray,
      weights_eq, sum_weights, clean_eq, decide_eq_true_eq, one_lt_count, Bool.not_eq_true',
      Bool.not_eq_false] at *
  -- the fit: the call of the smoother is inside its contract, `z` has the length of the buffer
  case vc1.isTrue.isTrue =>
    have hc := ‹1 < countValid _ y›
    have h3 := three_le_of_count _ y hc h2
    simp only [ws2d_clean_ok _ y lam h3 (lam_pos_of lam ‹eqv lam _ = false› hlam) hc, ws2d_call_size,
      List.size_toArray, List.length_map, weightsOf_length, cleanOf_length, hout, lenDiffer_self, Bool.or_false]
  -- the two pass-through paths: `out[:] = y[:]`
  case vc2.isTrue.isFalse | vc3.isFalse => simp only [List.size_toArray, hout, lenDiffer_self, Bool.or_false]

/-! ### Non-vacuity and sharpness (ℚ; `round` = identity, no NaN / ∞) -/

private def gu (y : Array ℚ) (lam : ℚ) (out : Array ℚ) : Array ℚ × Bool :=
  Gen.Safe.ws2dgu (fun v => v) (fun _ => false) (fun _ => false) y lam (-1) out

/-- in contract: five cells, one of them `nodata`; the flag is false by the theorem and the curve is the one of GenNumGu -/
example : (gu #[1, -1, 4, 3, 5] 2 #[7, 7, 7, 7, 7]).2 = false :=
  safe_ws2dgu_ok _ _ _ [1, -1, 4, 3, 5] _ _ _ (by rfl) (by decide) (by norm_num)
example : gu #[1, -1, 4, 3, 5] 2 #[7, 7, 7, 7, 7]
    = (#[279 / 233, 519 / 233, 736 / 233, 907 / 233, 1107 / 233], false) := by decide +kernel
/-- the minimum length 3, and the pass-through paths (λ = 0; a single valid cell) -/
example : (gu #[1, 2, 4] 2 #[0, 0, 0]).2 = false :=
  safe_ws2dgu_ok _ _ _ [1, 2, 4] _ _ _ (by rfl) (by decide) (by norm_num)
example : (gu #[1, 2, 3] 0 #[0, 0, 0]).2 = false := safe_ws2dgu_ok _ _ _ [1, 2, 3] _ _ _ (by rfl) (by decide) (by norm_num)
example : (gu #[1, -1, -1, -1] 2 #[0, 0, 0, 0]).2 = false :=
  safe_ws2dgu_ok _ _ _ [1, -1, -1, -1] _ _ _ (by rfl) (by decide) (by norm_num)
/-- `out.size = len y`: a buffer of another length, on each of the three paths (`np.round(z, 0, out)`, `out[:] = y[:]` twice) -/
example : (gu #[1, -1, 4, 3, 5] 2 #[7, 7, 7]).2 = true := by decide +kernel
example : (gu #[1, -1, -1, -1, -1] 2 #[7, 7, 7]).2 = true := by decide +kernel
example : (gu #[1, -1, 4, 3, 5] 0 #[7, 7, 7]).2 = true := by decide +kernel
/-- `0 ≤ λ`: the guard `lmda != 0.0` lets a negative λ through; at λ = -1 the first pivot `w₀ + λ` is zero -/
example : (gu #[1, 2, 4, 3, 5] (-1) #[0, 0, 0, 0, 0]).2 = true := by decide +kernel
/-- `len y ≠ 2`: two valid cells; the flag stays false (all subscripts of `ws2d` wrap inside the arrays, no pivot vanishes) -/
example : (gu #[1, 2] 2 #[0, 0]).2 = false := by decide +kernel
example : (gu #[1, 2] (1 / 100) #[0, 0]).2 = false := by decide +kernel
example : (gu #[1, 2] 1000 #[0, 0]).2 = false := by decide +kernel

end Hdc.SafeWs2dgu
