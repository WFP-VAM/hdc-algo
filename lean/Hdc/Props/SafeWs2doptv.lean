import Hdc.Gen.SafeWs2doptv
import Hdc.Gen.NumWs2doptv
import Hdc.Lemmas.SafeOptv
import Hdc.Lemmas.SafeSimN
import Std.Tactic.Do
/-
SafeWs2doptv  Safety of `hdc/algo/ops/ws2doptv.py::ws2doptv`, proved FROM THE SOURCE: `Hdc.Gen.Safe.ws2doptv`
(Hdc/Gen/SafeWs2doptv.lean) is the statement-by-statement translation plus the flag `bad`, set by
  * `oob a.size i`        every subscript: `y[ii]`, `w[ii]`; `llas[lix]`, `w[i]`, `y[i]`, `z[i]`, `fits[lix]`, `z[i+1]`, `diff1[i]`,
                          `diff1[i+1]`, `pens[lix]`; `llas[1]`, `llas[0]`, `llas[i]`, `llas[i+1]`, `fits[i]`, `fits[i+1]`, `pens[i]`,
                          `pens[i+1]`, `v[i]`, `lamids[i]`; `v[k]`, `v[i]`, `lamids[k]`, `lopt[0]`
  * `eqv (log(10) * llastep) 0`   the only scalar division with a non-literal divisor (`/ 2` is not instrumented)
  * `(Safe.ws2d …).2`     the `len(llas) + 1` calls of the instrumented smoother
(the slices `z[:]`, `out[:]`, `y[:]` are whole arrays: no check; `np.round(z, 0, out)` is a NumPy vector operation).

  safe_ws2doptv_fst   (Safe.ws2doptv …).1 = Gen.NumKernels.ws2doptv …       every carrier, every input
  safe_ws2doptv_ok    under `Contract` the flag is false
  `example`s          for every hypothesis an input over ℚ outside it where the flag is true (for `3 ≤ len y`: at 2 cells the
                      flag is false on the inputs tried, as for `ws2d` itself)
-/
namespace Hdc.SafeWs2doptv
open Hdc Hdc.Gen.NumKernels Hdc.GenNum Hdc.SafeL Hdc.SafeOptv Hdc.SafeSimN Std.Do
open Hdc.Ws2d (fnl)

set_option mvcgen.warning false

/-- (i) the instrumented program is the translated source plus a flag -/
theorem safe_ws2doptv_fst {α : Type} [Add α] [Sub α] [Mul α] [Div α] [Neg α] [NatCast α] [LT α] [DecidableLT α]
    (F : VFns α) (rnd : α → α) (y : Array α) (nodata : α) (llas out lopt : Array α) :
    (Gen.Safe.ws2doptv F rnd y nodata llas out lopt).1 = Gen.NumKernels.ws2doptv F rnd y nodata llas out lopt := by
  unfold Gen.Safe.ws2doptv Gen.NumKernels.ws2doptv
  simp only [SafeWs2d.safe_ws2d_fst]
  safe_sim

variable {α : Type} [Field α] [LinearOrder α] [IsStrictOrderedRing α]

/-- the documented contract of `ws2doptv`.  `lopt` is the one-cell output buffer of the gufunc; everything else is only
    needed when at least two cells are valid (otherwise the kernel copies `y` and stores `lopt[0] = 0`):
    at least 3 cells (what `ws2d` needs), at least 2 grid entries with `llas[1] ≠ llas[0]`, and the float functions the
    translation takes as parameters behave like `10^·` (positive) and `log(10)` (non-zero). -/
structure Contract (F : VFns α) (y llas : List α) (nodata : α) (lopt0 : Array α) : Prop where
  lopt : 1 ≤ lopt0.size
  fit : 2 ≤ countValid (fun x => eqv x nodata) y →
    3 ≤ y.length ∧ 2 ≤ llas.length ∧ (∀ l, 0 < F.pow10 l) ∧ F.ln10 ≠ 0 ∧ fnl llas 1 ≠ fnl llas 0

/-- (ii) under the contract the flag is false -/
theorem safe_ws2doptv_ok (F : VFns α) (rnd : α → α) (y llas : List α) (nodata : α)
    (out0 lopt0 : Array α) (hc : Contract F y llas nodata lopt0) :
    (Gen.Safe.ws2doptv F rnd y.toArray nodata llas.toArray out0 lopt0).2 = false := by
  obtain ⟨hl, hfit⟩ := hc
  generalize hres : Gen.Safe.ws2doptv F rnd y.toArray nodata llas.toArray out0 lopt0 = res
  apply Id.of_wp_run_eq hres
  mvcgen -trivial invariants
  -- weights loop, state `(bad, w, n)`
  · ⇓⟨xs, s⟩ => ⌜s.1 = false ∧ WInv nodata y xs.prefix.length s.2.1 s.2.2⌝
  -- λ grid, state `(bad, i, fits, pens, z, diff1, lmda, w_tmp, y_tmp, z_tmp, z2)`
  · ⇓⟨xs, s⟩ => ⌜s.1 = false ∧ s.2.2.1.size = llas.length ∧ s.2.2.2.1.size = llas.length ∧
        s.2.2.2.2.2.1.size = y.length - 1⌝
  -- `fits[lix] += …`, state `(bad, i, fits, w_tmp, y_tmp, z_tmp)`
  · ⇓⟨xs, s⟩ => ⌜s.1 = false ∧ s.2.2.1.size = llas.length⌝
  -- `diff1[i] = z[i+1] - z[i]`, state `(bad, i, diff1, z_tmp, z2)`
  · ⇓⟨xs, s⟩ => ⌜s.1 = false ∧ s.2.2.1.size = y.length - 1⌝
  -- `pens[lix] += …`, state `(bad, i, pens, z_tmp, z2)`
  · ⇓⟨xs, s⟩ => ⌜s.1 = false ∧ s.2.2.1.size = llas.length⌝
  -- V-curve, state `(bad, i, lamids, v, l1, l2, f1, f2, p1, p2)`
  · ⇓⟨xs, s⟩ => ⌜s.1 = false ∧ s.2.2.1.size = llas.length - 1 ∧ s.2.2.2.1.size = llas.length - 1⌝
  -- first strict minimum, state `(bad, i, k, vmin)`
  · ⇓⟨xs, s⟩ => ⌜s.1 = false ∧ 0 ≤ s.2.2.1 ∧ s.2.2.1 < (llas.length : ℤ) - 1⌝
  -- weights loop: `w[ii] = 0` / `n += 1; w[ii] = 1`, entry
  case vc1 | vc2 =>
    obtain ⟨hb, hI⟩ := ‹_ ∧ _›
    simp +zetaDelta only [*, hI.hw.size, oob_range y.length ‹_›, hI.step_miss_gen ‹_›, hI.step_valid_gen ‹_›,
      List.size_toArray, Bool.false_eq_true, not_false_eq_true, Bool.or_false, and_self]
  case vc3 =>
    exact ⟨trivial, WInv.init nodata y⟩
  -- fewer than two valid cells: pass-through, `lopt[0] = 0`
  case vc18 =>
    simp +zetaDelta only [*, oob_zero hl, Bool.or_false]
  -- after the weights loop, with two valid cells: `w` is the validity weight vector, every call of the smoother is safe
  all_goals
    obtain ⟨hw, hv⟩ := WInv.valid ‹_ ∧ WInv _ _ _ _ _›.2 ‹_›
    obtain ⟨h3, h2, hpow, hln, hstep⟩ := hfit hv
    have hcall := fun l => SafeWs2d.safe_ws2d_ok y _ _ (contract_raw (missNd nodata) y _ h3 (hpow l) hv)
  -- first every condition is rewritten with the invariants in scope (`*`) and the sizes of the arrays written; that leaves
  -- the subscripts of its statements
  all_goals simp +zetaDelta only [*, size_wr, List.size_toArray, Smooth.weightsOf_length, Array.size_replicate,
    Int.toNat_natCast, Int.pred_toNat, ws2d_call_size, rd_wr_zero _ _ hl, divisor_ok hln hstep, oob_zero hl, oob_grid h2,
    Bool.or_false, Bool.false_or, and_self, and_true]
  -- they are in range: `oob_range… n ‹_›` (Hdc/Lemmas/SafeOptv.lean) takes the position
  -- `pyRange _ (n - _) = pref ++ cur :: suff` of the loop with that bound from the context
  -- `fits[lix] += (w[i] * (y[i] - z[i])) ** 2`
  case vc4 =>
    simp only [oob_range y.length ‹_›, oob_range llas.length ‹_›, Bool.or_false]
  -- `lmda = 10 ** llas[lix]`, `fits[lix] = log(fits[lix])`, `pens[lix] = log(pens[lix])`
  case vc5 | vc7 | vc10 =>
    exact oob_range llas.length ‹_›
  -- `diff1[i] = z[i+1] - z[i]`
  case vc6 =>
    simp only [oob_range_pred y.length ‹_›, Bool.or_false]
  -- `pens[lix] += (diff1[i+1] - diff1[i]) ** 2`
  case vc8 =>
    simp only [oob_range_pred2 y.length ‹_›, oob_range llas.length ‹_›, Bool.or_false]
  -- `v[i] = …`, `lamids[i] = …`
  case vc12 =>
    simp only [oob_range_pred llas.length ‹_›, Bool.or_false]
  -- `if v[i] < vmin: vmin = v[i]; k = i`
  case vc14 | vc15 =>
    simp only [oob_range_one llas.length ‹_›, Bool.or_false, and_self]
  -- `lopt[0] = 10 ** lamids[k]`
  case vc17 =>
    exact oob_pred ‹_ ∧ _ ∧ _ < _›.2

/-! ### Non-vacuity and sharpness (ℚ; toy functions `log = sqrt = id`, `10^l = l² + 1`, `log 10 = 1`; `round = id`) -/

private def Fq : VFns ℚ := ⟨fun v => v, fun v => v, fun l => l * l + 1, 1⟩
private def ov (F : VFns ℚ) (y llas lopt : Array ℚ) : Bool :=
  (Gen.Safe.ws2doptv F (fun v => v) y (-3000) llas #[] lopt).2

/-- an instance of the contract: 5 cells, one of them `nodata`, a grid of 3 -/
example : ov Fq #[1, 2, -3000, 3, 5] #[0, 1, 2] #[0] = false :=
  safe_ws2doptv_ok Fq _ [1, 2, -3000, 3, 5] [0, 1, 2] _ _ _
    ⟨by decide, fun _ => ⟨by decide, by decide, fun l => add_pos_of_nonneg_of_pos (mul_self_nonneg l) one_pos, by decide, by decide +kernel⟩⟩
/-- fewer than two valid cells: only `lopt` matters -/
example : ov Fq #[-3000, 2, -3000] #[] #[0] = false :=
  safe_ws2doptv_ok Fq _ [-3000, 2, -3000] [] _ _ _ ⟨by decide, fun h => absurd h (by decide +kernel)⟩
/-- `lopt`: an empty output buffer (`lopt[0]` out of range), on both branches -/
example : ov Fq #[1, 2, -3000, 3, 5] #[0, 1, 2] #[] = true := by decide +kernel
example : ov Fq #[-3000, 2, -3000] #[0, 1, 2] #[] = true := by decide +kernel
/-- `2 ≤ len llas`: a grid of one entry (`llas[1]`, `v[0]` out of range) -/
example : ov Fq #[1, 2, -3000, 3, 5] #[0] #[0] = true := by decide +kernel
/-- `llas[1] ≠ llas[0]`: the V-curve divides by `log(10) * (llas[1] - llas[0])` -/
example : ov Fq #[1, 2, -3000, 3, 5] #[1, 1, 2] #[0] = true := by decide +kernel
/-- `log(10) ≠ 0` and `10^l > 0` are facts about the float functions; with other parameters the flag is set -/
example : ov ⟨fun v => v, fun v => v, fun l => l * l + 1, 0⟩ #[1, 2, -3000, 3, 5] #[0, 1, 2] #[0] = true := by
  decide +kernel
example : ov ⟨fun v => v, fun v => v, fun _ => 0, 1⟩ #[1, 2, -3000, 3, 5] #[0, 1, 2] #[0] = true := by
  decide +kernel
/-- `3 ≤ len y`: with two cells (both valid) the smoother wraps its indices but no divisor vanishes on this input -/
example : ov Fq #[1, 2] #[0, 1, 2] #[0] = false := by decide +kernel

end Hdc.SafeWs2doptv
