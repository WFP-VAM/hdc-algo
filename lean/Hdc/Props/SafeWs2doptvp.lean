import Hdc.Gen.SafeWs2doptvp
import Hdc.Gen.NumWs2doptvp
import Hdc.Lemmas.SafeOptvp
import Hdc.Lemmas.SafeSimN
import Std.Tactic.Do
/-
SafeWs2doptvp  Safety of `hdc/algo/ops/ws2doptvp.py::ws2doptvp`, proved FROM THE SOURCE: `Hdc.Gen.Safe.ws2doptvp`
(Hdc/Gen/SafeWs2doptvp.lean, written by harness/py2lean_optvp.py) is the statement-by-statement translation plus the flag
`bad`, set by
  * `oob a.size i`         every subscript: `y[ii]`, `w[ii]`; `llas[lix]`; `y[j]`, `z[j]`, `wa[j]`, `w[j]`, `ww[j]`, `znew[j]` (both
                           copies of the re-weighting loop); `w[i]`, `y[i]`, `z[i]`, `fits[lix]`, `z[i+1]`, `diff1[i]`, `diff1[i+1]`,
                           `pens[lix]`; `llas[1]`, `llas[0]`, `llas[i]`, `llas[i+1]`, `fits[i]`, `fits[i+1]`, `pens[i]`, `pens[i+1]`,
                           `v[i]`, `lamids[i]`; `v[k]`, `v[i]`, `lamids[k]`, `lopt[0]` (stores and reads)
  * `eqv (log(10) * llastep) 0`   the only scalar division with a non-literal divisor (`/ 2` is not instrumented)
  * `(Safe.ws2d …).2`      every call of the instrumented smoother, with the re-weighted weights
  * `badSlice a.size 0 m`  the slices with explicit bounds `znew[0:m]`, `z[0:m]` (read and store)
  * `lenDiff` / `badStoreLen`   the stores `znew[:] = ws2d(…)`, `znew[0:m] = ws2d(…)`, `z[0:m] = znew[0:m]`, `out[:] = y[:]` and
                           `np.round(z, 0, out)`: the source must have exactly the cells of the target (Hdc/PySafeV.lean)
(`z[:] = 0.0` is a fill of the whole array: no check.)

  safe_ws2doptvp_fst   (Safe.ws2doptvp …).1 = Gen.NumKernels.ws2doptvp …       every carrier, every input
  safe_ws2doptvp_ok    under `Contract` the flag is false
  `example`s           for every hypothesis an input over ℚ outside it where the flag is true (for `3 ≤ len y`: at 2 cells the
                       flag is false on the inputs tried, as for `ws2d` itself)
-/
namespace Hdc.SafeWs2doptvp
open Hdc Hdc.Gen.NumKernels Hdc.GenNum Hdc.SafeL Hdc.SafeOptv Hdc.SafeOptvp Hdc.SafeSimN Std.Do
open Hdc.Ws2d (fnl)

set_option mvcgen.warning false

/-- (i) the instrumented program is the translated source plus a flag -/
theorem safe_ws2doptvp_fst {α : Type} [Add α] [Sub α] [Mul α] [Div α] [Neg α] [NatCast α] [LT α] [DecidableLT α]
    (F : VFns α) (rnd : α → α) (y : Array α) (nodata p : α) (llas out lopt : Array α) :
    (Gen.Safe.ws2doptvp F rnd y nodata p llas out lopt).1 = Gen.NumKernels.ws2doptvp F rnd y nodata p llas out lopt := by
  unfold Gen.Safe.ws2doptvp Gen.NumKernels.ws2doptvp
  simp only [SafeWs2d.safe_ws2d_fst]
  safe_sim

variable {α : Type} [Field α] [LinearOrder α] [IsStrictOrderedRing α]

/-- the contract of `ws2doptvp`.  The shapes the gufunc signature `(n),(),(),(m) -> (n),()` guarantees: `out` has the length of
    `y` (both branches store a curve of `len y` cells into it), `lopt` has a cell.  Everything else is only needed when at
    least two cells are valid (otherwise the kernel copies `y` and stores `lopt[0] = 0`): at least 3 cells (what `ws2d`
    needs), at least 2 grid entries with `llas[1] ≠ llas[0]`, `0 < p < 1` (the re-weighting multiplies each weight by `p` or
    `1 - p`), and the float functions the translation takes as parameters behave like `10^·` (positive) and `log(10)`
    (non-zero). -/
structure Contract (F : VFns α) (y llas : List α) (nodata p : α) (out0 lopt0 : Array α) : Prop where
  out : out0.size = y.length
  lopt : 1 ≤ lopt0.size
  fit : 2 ≤ countValid (fun x => eqv x nodata) y →
    3 ≤ y.length ∧ 2 ≤ llas.length ∧ fnl llas 1 ≠ fnl llas 0 ∧ 0 < p ∧ p < 1 ∧ (∀ l, 0 < F.pow10 l) ∧ F.ln10 ≠ 0

/-- (ii) under the contract the flag is false.  One invariant per loop: the flag is still false, the sizes of the arrays the
    loop writes; `WInv` (Hdc/Lemmas/GenNumOptv.lean) for the weights loop and `Rew` (Hdc/Lemmas/SafeOptvp.lean) for the re-weighting loops: `ww` is the
    validity weights times positive factors, hence a weight vector `ws2d` accepts. -/
theorem safe_ws2doptvp_ok (F : VFns α) (rnd : α → α) (y llas : List α) (nodata p : α)
    (out0 lopt0 : Array α) (hc : Contract F y llas nodata p out0 lopt0) :
    (Gen.Safe.ws2doptvp F rnd y.toArray nodata p llas.toArray out0 lopt0).2 = false := by
  obtain ⟨ho, hl, hfit⟩ := hc
  generalize hres : Gen.Safe.ws2doptvp F rnd y.toArray nodata p llas.toArray out0 lopt0 = res
  apply Id.of_wp_run_eq hres
  mvcgen -trivial invariants
  -- weights loop, state `(bad, w, n)`
  · ⇓⟨xs, s⟩ => ⌜s.1 = false ∧ WInv nodata y xs.prefix.length s.2.1 s.2.2⌝
  -- λ grid, state `(bad, i, j, fits, pens, z, znew, diff1, wa, ww, lmda, z_tmp, w_tmp, y_tmp, z2)`
  · ⇓⟨xs, s⟩ => ⌜s.1 = false ∧ s.2.2.2.1.size = llas.length ∧
      s.2.2.2.2.1.size = llas.length ∧ s.2.2.2.2.2.1.size = y.length ∧ s.2.2.2.2.2.2.1.size = y.length ∧
      s.2.2.2.2.2.2.2.1.size = y.length - 1 ∧ s.2.2.2.2.2.2.2.2.1.size = y.length ∧ s.2.2.2.2.2.2.2.2.2.1.size = y.length⌝
  -- re-weighting loop with `break`, state `(bad, i, j, z, znew, wa, ww, z_tmp, y_tmp)`: `ww` is re-weighted once a pass has run
  · ⇓⟨xs, s⟩ => ⌜s.1 = false ∧ s.2.2.2.1.size = y.length ∧ s.2.2.2.2.1.size = y.length ∧
      s.2.2.2.2.2.1.size = y.length ∧ s.2.2.2.2.2.2.1.size = y.length ∧
      (0 < xs.prefix.length → Rew (weightsOf (missNd nodata) y) y.length s.2.2.2.2.2.2.1)⌝
  -- `wa[j] = …; ww[j] = w[j] * wa[j]`, state `(bad, j, wa, ww, z_tmp, y_tmp)`
  · ⇓⟨xs, s⟩ => ⌜s.1 = false ∧ s.2.2.1.size = y.length ∧ s.2.2.2.1.size = y.length ∧
      Rew (weightsOf (missNd nodata) y) xs.prefix.length s.2.2.2.1⌝
  -- `z_tmp += abs(znew[j] - z[j])`, state `(bad, j, z_tmp)`
  · ⇓⟨xs, s⟩ => ⌜s.1 = false⌝
  -- `fits[lix] += …`, state `(bad, i, fits, z_tmp, w_tmp, y_tmp)`
  · ⇓⟨xs, s⟩ => ⌜s.1 = false ∧ s.2.2.1.size = llas.length⌝
  -- `diff1[i] = z[i+1] - z[i]`, state `(bad, i, diff1, z_tmp, z2)`
  · ⇓⟨xs, s⟩ => ⌜s.1 = false ∧ s.2.2.1.size = y.length - 1⌝
  -- `pens[lix] += …`, state `(bad, i, pens, z_tmp, z2)`
  · ⇓⟨xs, s⟩ => ⌜s.1 = false ∧ s.2.2.1.size = llas.length⌝
  -- V-curve, state `(bad, i, lamids, v, l1, l2, fit1, fit2, pen1, pen2)`
  · ⇓⟨xs, s⟩ => ⌜s.1 = false ∧ s.2.2.1.size = llas.length - 1 ∧ s.2.2.2.1.size = llas.length - 1⌝
  -- first strict minimum, state `(bad, i, k, vmin)`
  · ⇓⟨xs, s⟩ => ⌜s.1 = false ∧ 0 ≤ s.2.2.1 ∧ s.2.2.1 < (llas.length : ℤ) - 1⌝
  -- final re-weighting loop (same three states)
  · ⇓⟨xs, s⟩ => ⌜s.1 = false ∧ s.2.2.2.1.size = y.length ∧ s.2.2.2.2.1.size = y.length ∧
      s.2.2.2.2.2.1.size = y.length ∧ s.2.2.2.2.2.2.1.size = y.length ∧
      (0 < xs.prefix.length → Rew (weightsOf (missNd nodata) y) y.length s.2.2.2.2.2.2.1)⌝
  · ⇓⟨xs, s⟩ => ⌜s.1 = false ∧ s.2.2.1.size = y.length ∧ s.2.2.2.1.size = y.length ∧
      Rew (weightsOf (missNd nodata) y) xs.prefix.length s.2.2.2.1⌝
  · ⇓⟨xs, s⟩ => ⌜s.1 = false⌝
  -- weights loop: `w[ii] = 0` / `n += 1; w[ii] = 1`, entry
  case vc1 | vc2 =>
    obtain ⟨hb, hI⟩ := ‹_ ∧ _›
    simp +zetaDelta only [*, hI.hw.size, oob_range y.length ‹_›, hI.step_miss_gen ‹_›, hI.step_valid_gen ‹_›,
      List.size_toArray, Bool.false_eq_true, not_false_eq_true, Bool.or_false, and_self]
  case vc3 =>
    exact ⟨trivial, WInv.init nodata y⟩
  -- fewer than two valid cells: `out[:] = y[:]`, `lopt[0] = 0`
  case vc34 =>
    simp +zetaDelta only [*, PyNpV.npSlice_full, List.size_toArray, PySafeV.lenDiff_self, oob_zero hl, Bool.or_false]
  -- after the weights loop, with two valid cells: `w` is the validity weight vector, and the contract gives the rest
  all_goals
    obtain ⟨hw, hv⟩ := WInv.valid ‹_ ∧ WInv _ _ _ _ _›.2 ‹_›
    obtain ⟨h3, h2, hstep, hp0, hp1, hpow, hln⟩ := hfit hv
    have hW := WOK.raw hv
    have hp1' := p1_pos hp1
  -- first every condition is rewritten with the invariants in scope (`*`) and the sizes of the arrays written; that leaves
  -- the subscripts of its statements, the calls of `ws2d` and the `Rew` parts of the invariants
  all_goals simp +zetaDelta only [*, size_wr, List.size_toArray, Smooth.weightsOf_length, Array.size_replicate,
    Int.toNat_natCast, Int.pred_toNat, PyNpV.size_npSetSlice_full, PyNpV.npSlice_full, PyNpV.npFillSlice_full, ws2d_call_size,
    PySafeV.lenDiff_self, badSlice_full, badStoreLen_full, rd_wr_zero _ _ hl, divisor_ok hln hstep, oob_zero hl,
    oob_grid h2, List.length_nil, Nat.lt_irrefl, false_imp_iff, Rew.init, Bool.or_false, Bool.false_or, and_self, true_and,
    and_true]
  -- the subscripts are in range: `oob_range… n ‹_›` (Hdc/Lemmas/SafeOptv.lean) takes the position
  -- `pyRange _ (n - _) = pref ++ cur :: suff` of the loop with that bound from the context
  -- `wa[j] = p` / `wa[j] = p1`; `ww[j] = w[j] * wa[j]`
  case vc4 | vc5 | vc25 | vc26 =>
    obtain ⟨-, ha, hww, hR⟩ := ‹_ ∧ _›
    simp only [oob_range y.length ‹_›, Bool.or_false, true_and]
    exact hR.step ‹_› hww ha ‹_›
  -- `z_tmp += abs(znew[j] - z[j])`
  case vc7 | vc28 =>
    simp only [oob_range y.length ‹_›, Bool.or_false]
  -- `znew[:] = ws2d(y, lmda, ww)` / `znew[0:m] = ws2d(y, lopt[0], ww)`: `ww` is re-weighted in all its cells
  case vc8 | vc29 =>
    obtain ⟨-, -, hww, hR⟩ := ‹_ ∧ _›
    exact Rew.call_ok h3 hW (hpow _) hww hR.exit
  -- `break` / `z[0:m] = znew[0:m]`
  case vc9 | vc10 | vc30 | vc31 =>
    exact fun _ => (‹_ ∧ _ ∧ _ ∧ Rew _ _ _›).2.2.2.exit
  -- `lmda = 10 ** llas[lix]`, `fits[lix] = log(fits[lix])`, `pens[lix] = log(pens[lix])`
  case vc11 | vc15 | vc18 =>
    exact oob_range llas.length ‹_›
  -- `fits[lix] += (w[i] * (y[i] - z[i])) ** 2`
  case vc12 =>
    simp only [oob_range y.length ‹_›, oob_range llas.length ‹_›, Bool.or_false]
  -- `diff1[i] = z[i+1] - z[i]`
  case vc14 =>
    simp only [oob_range_pred y.length ‹_›, Bool.or_false]
  -- `pens[lix] += (diff1[i+1] - diff1[i]) ** 2`
  case vc16 =>
    simp only [oob_range_pred2 y.length ‹_›, oob_range llas.length ‹_›, Bool.or_false]
  -- `v[i] = …`, `lamids[i] = …`
  case vc20 =>
    simp only [oob_range_pred llas.length ‹_›, Bool.or_false]
  -- `if v[i] < vmin: vmin = v[i]; k = i`
  case vc22 | vc23 =>
    simp only [oob_range_one llas.length ‹_›, Bool.or_false, and_self]
  -- `lopt[0] = 10 ** lamids[k]`
  case vc32 =>
    exact oob_pred ‹_ ∧ _ ∧ _ < _›.2
  -- `z = ws2d(y, lopt[0], ww)`
  case vc33 =>
    obtain ⟨-, -, -, -, hww, hR⟩ := ‹_ ∧ _›
    exact Rew.call_ok h3 hW (hpow _) hww (hR (by decide))

/-! ### Non-vacuity and sharpness (ℚ; toy functions `log = sqrt = id`, `10^l = l² + 1`, `log 10 = 1`; `round = id`) -/

private def Fq : VFns ℚ := ⟨fun v => v, fun v => v, fun l => l * l + 1, 1⟩
private def ov (F : VFns ℚ) (y : Array ℚ) (p : ℚ) (llas out lopt : Array ℚ) : Bool :=
  (Gen.Safe.ws2doptvp F (fun v => v) y (-3000) p llas out lopt).2

/-- an instance of the contract: 5 cells, one of them `nodata`, a grid of 3, `p = 9/10` -/
example : ov Fq #[1, 2, -3000, 3, 5] (9 / 10) #[0, 1, 2] #[0, 0, 0, 0, 0] #[0] = false :=
  safe_ws2doptvp_ok Fq _ [1, 2, -3000, 3, 5] [0, 1, 2] _ _ _ _
    ⟨by decide, by decide, fun _ => ⟨by decide, by decide, by decide +kernel, by norm_num, by norm_num,
      fun l => add_pos_of_nonneg_of_pos (mul_self_nonneg l) one_pos, by decide⟩⟩
/-- fewer than two valid cells: only the shapes of `out`, `lopt` matter -/
example : ov Fq #[-3000, 2, -3000] (9 / 10) #[] #[0, 0, 0] #[0] = false :=
  safe_ws2doptvp_ok Fq _ [-3000, 2, -3000] [] _ _ _ _ ⟨by decide, by decide, fun h => absurd h (by decide +kernel)⟩
/-- `len out = len y`: a shorter / longer `out` (`np.round(z, 0, out)`), a shorter `out` on the pass-through (`out[:] = y[:]`) -/
example : ov Fq #[1, 2, -3000, 3, 5] (9 / 10) #[0, 1, 2] #[0, 0, 0, 0] #[0] = true := by decide +kernel
example : ov Fq #[1, 2, -3000, 3, 5] (9 / 10) #[0, 1, 2] #[0, 0, 0, 0, 0, 0] #[0] = true := by decide +kernel
example : ov Fq #[-3000, 2, -3000] (9 / 10) #[] #[0, 0] #[0] = true := by decide +kernel
/-- `lopt`: an empty output buffer (`lopt[0]` out of range), on both branches -/
example : ov Fq #[1, 2, -3000, 3, 5] (9 / 10) #[0, 1, 2] #[0, 0, 0, 0, 0] #[] = true := by decide +kernel
example : ov Fq #[-3000, 2, -3000] (9 / 10) #[] #[0, 0, 0] #[] = true := by decide +kernel
/-- `2 ≤ len llas`: a grid of one entry (`llas[1]`, `v[0]` out of range) -/
example : ov Fq #[1, 2, -3000, 3, 5] (9 / 10) #[0] #[0, 0, 0, 0, 0] #[0] = true := by decide +kernel
/-- `llas[1] ≠ llas[0]`: the V-curve divides by `log(10) * (llas[1] - llas[0])` -/
example : ov Fq #[1, 2, -3000, 3, 5] (9 / 10) #[1, 1, 2] #[0, 0, 0, 0, 0] #[0] = true := by decide +kernel
/-- `0 < p`: with `p = 0` every cell above the curve gets weight 0 (all of them in the first pass) -/
example : ov Fq #[1, 2, -3000, 3, 5] 0 #[0, 1, 2] #[0, 0, 0, 0, 0] #[0] = true := by decide +kernel
/-- `p < 1`: with `p = 1` every cell not above the curve gets weight 0 -/
example : ov Fq #[1, 2, -3000, 3, 5] 1 #[0, 1, 2] #[0, 0, 0, 0, 0] #[0] = true := by decide +kernel
/-- `log(10) ≠ 0` and `10^l > 0` are facts about the float functions; with other parameters the flag is set -/
example : ov ⟨fun v => v, fun v => v, fun l => l * l + 1, 0⟩ #[1, 2, -3000, 3, 5] (9 / 10) #[0, 1, 2] #[0, 0, 0, 0, 0] #[0]
    = true := by decide +kernel
example : ov ⟨fun v => v, fun v => v, fun _ => 0, 1⟩ #[1, 2, -3000, 3, 5] (9 / 10) #[0, 1, 2] #[0, 0, 0, 0, 0] #[0]
    = true := by decide +kernel
/-- `3 ≤ len y`: with two cells (both valid) the smoother wraps its indices but no divisor vanishes on this input -/
example : ov Fq #[1, 2] (9 / 10) #[0, 1, 2] #[0, 0] #[0] = false := by decide +kernel

end Hdc.SafeWs2doptvp
