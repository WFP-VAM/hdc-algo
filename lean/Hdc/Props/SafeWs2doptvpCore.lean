import Hdc.Gen.SafeWs2doptvpCore
import Hdc.Gen.NumWs2doptvpCore
import Hdc.Lemmas.SafeOptvp
import Hdc.Lemmas.SafeSimN
import Std.Tactic.Do
/-
SafeWs2doptvpCore  Safety of `hdc/algo/ops/ws2doptvp.py::_ws2doptvp`, proved FROM THE SOURCE: `Hdc.Gen.Safe.ws2doptvpCore`
(Hdc/Gen/SafeWs2doptvpCore.lean, written by harness/py2lean_optvp.py) is the statement-by-statement translation plus the
flag `bad`, set by
  * `oob a.size i`         every subscript: `llas[lix]`; `y[j]`, `z[j]`, `wa[j]`, `w[j]`, `ww[j]`, `znew[j]` (both copies of the
                           re-weighting loop); `w[i]`, `y[i]`, `z[i]`, `fits[lix]`, `z[i+1]`, `diff1[i]`, `diff1[i+1]`, `pens[lix]`;
                           `llas[1]`, `llas[0]`, `llas[i]`, `llas[i+1]`, `fits[i]`, `fits[i+1]`, `pens[i]`, `pens[i+1]`, `v[i]`,
                           `lamids[i]`; `v[k]`, `v[i]`, `lamids[k]`
  * `eqv (log(10) * llastep) 0`   the only scalar division with a non-literal divisor (`/ 2` is not instrumented)
  * `(Safe.ws2d …).2`      every call of the instrumented smoother (up to `10 * len(llas) + 11`), with the re-weighted weights
  * `badSlice a.size 0 m`  the slices with explicit bounds `znew[0:m]`, `z[0:m]` (read and store)
  * `lenDiff` / `badStoreLen`   the stores `znew[:] = ws2d(…)`, `znew[0:m] = ws2d(…)`, `z[0:m] = znew[0:m]`: the source must have
                           exactly the cells of the target slice (Hdc/PySafeV.lean)
(`z[:] = 0.0` is a fill of the whole array: no check.)

  safe_ws2doptvpCore_fst   (Safe.ws2doptvpCore …).1 = Gen.NumKernels.ws2doptvpCore …     every carrier, every input
  safe_ws2doptvpCore_ok    under `Contract` the flag is false
  `example`s               for every hypothesis an input over ℚ outside it where the flag is true (for `3 ≤ len y`: one cell is
                           flagged; at 2 cells the flag is false on the inputs tried, as for `ws2d` and `ws2doptv`)
-/
namespace Hdc.SafeWs2doptvpCore
open Hdc Hdc.Gen.NumKernels Hdc.GenNum Hdc.SafeL Hdc.SafeOptv Hdc.SafeOptvp Hdc.SafeSimN Std.Do
open Hdc.Ws2d (fnl)

set_option mvcgen.warning false

/-- (i) the instrumented program is the translated source plus a flag -/
theorem safe_ws2doptvpCore_fst {α : Type} [Add α] [Sub α] [Mul α] [Div α] [Neg α] [NatCast α] [LT α] [DecidableLT α]
    (F : VFns α) (y w : Array α) (p : α) (llas : Array α) :
    (Gen.Safe.ws2doptvpCore F y w p llas).1 = Gen.NumKernels.ws2doptvpCore F y w p llas := by
  unfold Gen.Safe.ws2doptvpCore Gen.NumKernels.ws2doptvpCore
  simp only [SafeWs2d.safe_ws2d_fst]
  safe_sim

variable {α : Type} [Field α] [LinearOrder α] [IsStrictOrderedRing α]

/-- the contract of `_ws2doptvp`: at least 3 observations (what `ws2d` needs), a weight for each of them, none negative, two
    positive (a longer `w` is harmless: only its first `len y` cells are read); at least 2 grid entries with
    `llas[1] ≠ llas[0]`; `0 < p < 1` (the re-weighting multiplies each weight by `p` or `1 - p`: both factors must be
    positive, otherwise the re-weighted vector can lose its two positive entries / get a negative one); and the float functions
    the translation takes as parameters behave like `10^·` (positive) and `log(10)` (non-zero). -/
structure Contract (F : VFns α) (y w llas : List α) (p : α) : Prop where
  len : 3 ≤ y.length
  wlen : y.length ≤ w.length
  w_nonneg : ∀ i < y.length, 0 ≤ fnl w i
  two_pos : ∃ i j, i < j ∧ j < y.length ∧ 0 < fnl w i ∧ 0 < fnl w j
  grid : 2 ≤ llas.length
  step : fnl llas 1 ≠ fnl llas 0
  p_pos : 0 < p
  p_lt : p < 1
  pow10_pos : ∀ l, 0 < F.pow10 l
  ln10 : F.ln10 ≠ 0

/-- (ii) under the contract the flag is false.  One invariant per loop: the flag is still false, the sizes of the arrays the
    loop writes, and for the re-weighting loops `Rew` (Hdc/Lemmas/SafeOptvp.lean): `ww` is `w` times positive factors, hence a
    weight vector `ws2d` accepts. -/
theorem safe_ws2doptvpCore_ok (F : VFns α) (y w llas : List α) (p : α) (hc : Contract F y w llas p) :
    (Gen.Safe.ws2doptvpCore F y.toArray w.toArray p llas.toArray).2 = false := by
  obtain ⟨h3, hwl, hwn, hwp, h2, hstep, hp0, hp1, hpow, hln⟩ := hc
  have hW : WOK w y.length := ⟨hwl, hwn, hwp⟩
  have hp1' := p1_pos hp1
  generalize hres : Gen.Safe.ws2doptvpCore F y.toArray w.toArray p llas.toArray = res
  apply Id.of_wp_run_eq hres
  mvcgen -trivial invariants
  -- λ grid, state `(bad, lmda, z_tmp, w_tmp, y_tmp, z2, i, j, fits, pens, z, znew, diff1, wa, ww)`
  · ⇓⟨xs, s⟩ => ⌜s.1 = false ∧ s.2.2.2.2.2.2.2.2.1.size = llas.length ∧
      s.2.2.2.2.2.2.2.2.2.1.size = llas.length ∧ s.2.2.2.2.2.2.2.2.2.2.1.size = y.length ∧ s.2.2.2.2.2.2.2.2.2.2.2.1.size = y.length ∧
      s.2.2.2.2.2.2.2.2.2.2.2.2.1.size = y.length - 1 ∧ s.2.2.2.2.2.2.2.2.2.2.2.2.2.1.size = y.length ∧ s.2.2.2.2.2.2.2.2.2.2.2.2.2.2.size = y.length⌝
  -- re-weighting loop with `break`, state `(bad, z_tmp, y_tmp, i, j, z, znew, wa, ww)`: `ww` is re-weighted once a pass has run
  · ⇓⟨xs, s⟩ => ⌜s.1 = false ∧ s.2.2.2.2.2.1.size = y.length ∧ s.2.2.2.2.2.2.1.size = y.length ∧
      s.2.2.2.2.2.2.2.1.size = y.length ∧ s.2.2.2.2.2.2.2.2.size = y.length ∧ (0 < xs.prefix.length → Rew w y.length s.2.2.2.2.2.2.2.2)⌝
  -- `wa[j] = …; ww[j] = w[j] * wa[j]`, state `(bad, z_tmp, y_tmp, j, wa, ww)`
  · ⇓⟨xs, s⟩ => ⌜s.1 = false ∧ s.2.2.2.2.1.size = y.length ∧ s.2.2.2.2.2.size = y.length ∧ Rew w xs.prefix.length s.2.2.2.2.2⌝
  -- `z_tmp += abs(znew[j] - z[j])`, state `(bad, z_tmp, j)`
  · ⇓⟨xs, s⟩ => ⌜s.1 = false⌝
  -- `fits[lix] += …`, state `(bad, z_tmp, w_tmp, y_tmp, i, fits)`
  · ⇓⟨xs, s⟩ => ⌜s.1 = false ∧ s.2.2.2.2.2.size = llas.length⌝
  -- `diff1[i] = z[i+1] - z[i]`, state `(bad, z_tmp, z2, i, diff1)`
  · ⇓⟨xs, s⟩ => ⌜s.1 = false ∧ s.2.2.2.2.size = y.length - 1⌝
  -- `pens[lix] += …`, state `(bad, z_tmp, z2, i, pens)`
  · ⇓⟨xs, s⟩ => ⌜s.1 = false ∧ s.2.2.2.2.size = llas.length⌝
  -- V-curve, state `(bad, l1, l2, fit1, fit2, pen1, pen2, i, lamids, v)`
  · ⇓⟨xs, s⟩ => ⌜s.1 = false ∧ s.2.2.2.2.2.2.2.2.1.size = llas.length - 1 ∧ s.2.2.2.2.2.2.2.2.2.size = llas.length - 1⌝
  -- first strict minimum, state `(bad, i, k, vmin)`
  · ⇓⟨xs, s⟩ => ⌜s.1 = false ∧ 0 ≤ s.2.2.1 ∧ s.2.2.1 < (llas.length : ℤ) - 1⌝
  -- final re-weighting loop (same three states)
  · ⇓⟨xs, s⟩ => ⌜s.1 = false ∧ s.2.2.2.2.2.1.size = y.length ∧ s.2.2.2.2.2.2.1.size = y.length ∧
      s.2.2.2.2.2.2.2.1.size = y.length ∧ s.2.2.2.2.2.2.2.2.size = y.length ∧ (0 < xs.prefix.length → Rew w y.length s.2.2.2.2.2.2.2.2)⌝
  · ⇓⟨xs, s⟩ => ⌜s.1 = false ∧ s.2.2.2.2.1.size = y.length ∧ s.2.2.2.2.2.size = y.length ∧ Rew w xs.prefix.length s.2.2.2.2.2⌝
  · ⇓⟨xs, s⟩ => ⌜s.1 = false⌝
  -- first every condition is rewritten with the invariants in scope (`*`) and the sizes of the arrays written; that leaves
  -- the subscripts of its statements, the calls of `ws2d` and the `Rew` parts of the invariants
  all_goals simp +zetaDelta only [*, size_wr, List.size_toArray, Array.size_replicate, Int.toNat_natCast, Int.pred_toNat,
    PyNpV.size_npSetSlice_full, PyNpV.npSlice_full, PyNpV.npFillSlice_full, ws2d_call_size, PySafeV.lenDiff_self,
    badSlice_full, badStoreLen_full, divisor_ok hln hstep, oob_grid h2, List.length_nil, Nat.lt_irrefl, false_imp_iff,
    Rew.init, Bool.or_false, Bool.false_or, and_self, true_and, and_true]
  -- the subscripts are in range: `oob_range… n ‹_›` (Hdc/Lemmas/SafeOptv.lean) takes the position
  -- `pyRange _ (n - _) = pref ++ cur :: suff` of the loop with that bound from the context
  -- `wa[j] = p` / `wa[j] = p1`; `ww[j] = w[j] * wa[j]`
  case vc1 | vc2 | vc22 | vc23 =>
    obtain ⟨-, ha, hww, hR⟩ := ‹_ ∧ _›
    simp only [oob_range y.length ‹_›, oob_range y.length ‹_› hwl, Bool.or_false, true_and]
    exact hR.step ‹_› hww ha ‹_›
  -- `z_tmp += abs(znew[j] - z[j])`
  case vc4 | vc25 =>
    simp only [oob_range y.length ‹_›, Bool.or_false]
  -- `znew[:] = ws2d(y, lmda, ww)` / `znew[0:m] = ws2d(y, lopt, ww)`: `ww` is re-weighted in all its cells
  case vc5 | vc26 =>
    obtain ⟨-, -, hww, hR⟩ := ‹_ ∧ _›
    exact Rew.call_ok h3 hW (hpow _) hww hR.exit
  -- `break` / `z[0:m] = znew[0:m]`
  case vc6 | vc7 | vc27 | vc28 =>
    exact fun _ => (‹_ ∧ _ ∧ _ ∧ Rew _ _ _›).2.2.2.exit
  -- `lmda = 10 ** llas[lix]`, `fits[lix] = log(fits[lix])`, `pens[lix] = log(pens[lix])`
  case vc8 | vc12 | vc15 =>
    exact oob_range llas.length ‹_›
  -- `fits[lix] += (w[i] * (y[i] - z[i])) ** 2`
  case vc9 =>
    simp only [oob_range y.length ‹_›, oob_range y.length ‹_› hwl, oob_range llas.length ‹_›, Bool.or_false]
  -- `diff1[i] = z[i+1] - z[i]`
  case vc11 =>
    simp only [oob_range_pred y.length ‹_›, Bool.or_false]
  -- `pens[lix] += (diff1[i+1] - diff1[i]) ** 2`
  case vc13 =>
    simp only [oob_range_pred2 y.length ‹_›, oob_range llas.length ‹_›, Bool.or_false]
  -- `v[i] = …`, `lamids[i] = …`
  case vc17 =>
    simp only [oob_range_pred llas.length ‹_›, Bool.or_false]
  -- `if v[i] < vmin: vmin = v[i]; k = i`
  case vc19 | vc20 =>
    simp only [oob_range_one llas.length ‹_›, Bool.or_false, and_self]
  -- `lopt = 10 ** lamids[k]`
  case vc29 =>
    exact oob_pred ‹_ ∧ _›.2
  -- `z = ws2d(y, lopt, ww)`
  case vc30 =>
    obtain ⟨-, -, -, -, hww, hR⟩ := ‹_ ∧ _›
    exact Rew.call_ok h3 hW (hpow _) hww (hR (by decide))

/-! ### Non-vacuity and sharpness (ℚ; toy functions `log = sqrt = id`, `10^l = l² + 1`, `log 10 = 1`) -/

private def Fq : VFns ℚ := ⟨fun v => v, fun v => v, fun l => l * l + 1, 1⟩
private def cv (F : VFns ℚ) (y w : Array ℚ) (p : ℚ) (llas : Array ℚ) : Bool := (Gen.Safe.ws2doptvpCore F y w p llas).2

/-- an instance of the contract: 5 cells, one of weight 0, a grid of 3, `p = 9/10` -/
example : cv Fq #[1, 2, 4, 3, 5] #[1, 1, 0, 1, 1] (9 / 10) #[0, 1, 2] = false :=
  safe_ws2doptvpCore_ok Fq [1, 2, 4, 3, 5] [1, 1, 0, 1, 1] [0, 1, 2] (9 / 10)
    ⟨by decide, by decide, by decide +kernel, ⟨0, 1, by decide +kernel⟩, by decide, by decide +kernel, by norm_num, by norm_num,
      fun l => add_pos_of_nonneg_of_pos (mul_self_nonneg l) one_pos, by decide⟩
/-- `len y ≤ len w`: a weight vector that is too short (`w[4]` out of range) -/
example : cv Fq #[1, 2, 4, 3, 5] #[1, 1, 0, 1] (9 / 10) #[0, 1, 2] = true := by decide +kernel
/-- `w ≥ 0`: `w[0] = -2` with `p = 1/2`, `10^0 = 1`: the first pivot of the first call of `ws2d` is `-2 * 1/2 + 1 = 0` -/
example : cv Fq #[1, 2, 4, 3, 5] #[-2, 1, 1, 1, 1] (1 / 2) #[0, 1, 2] = true := by decide +kernel
/-- two positive weights: a single one -/
example : cv Fq #[1, 2, 4, 3, 5] #[0, 0, 0, 1, 0] (9 / 10) #[0, 1, 2] = true := by decide +kernel
/-- `2 ≤ len llas`: a grid of one entry (`llas[1]`, `v[0]` out of range) -/
example : cv Fq #[1, 2, 4, 3, 5] #[1, 1, 0, 1, 1] (9 / 10) #[0] = true := by decide +kernel
/-- `llas[1] ≠ llas[0]`: the V-curve divides by `log(10) * (llas[1] - llas[0])` -/
example : cv Fq #[1, 2, 4, 3, 5] #[1, 1, 0, 1, 1] (9 / 10) #[1, 1, 2] = true := by decide +kernel
/-- `0 < p`: with `p = 0` every cell above the curve gets weight 0 (all of them in the first pass) -/
example : cv Fq #[1, 2, 4, 3, 5] #[1, 1, 0, 1, 1] 0 #[0, 1, 2] = true := by decide +kernel
/-- `p < 1`: with `p = 1` every cell not above the curve gets weight 0 -/
example : cv Fq #[1, 2, 4, 3, 5] #[1, 1, 0, 1, 1] 1 #[0, 1, 2] = true := by decide +kernel
/-- `log(10) ≠ 0` and `10^l > 0` are facts about the float functions; with other parameters the flag is set -/
example : cv ⟨fun v => v, fun v => v, fun l => l * l + 1, 0⟩ #[1, 2, 4, 3, 5] #[1, 1, 0, 1, 1] (9 / 10) #[0, 1, 2] = true := by
  decide +kernel
example : cv ⟨fun v => v, fun v => v, fun _ => 0, 1⟩ #[1, 2, 4, 3, 5] #[1, 1, 0, 1, 1] (9 / 10) #[0, 1, 2] = true := by
  decide +kernel
/-- `3 ≤ len y`: one cell is flagged (`llas`-independent: `ws2d` itself is flagged); with two cells (both of positive weight,
    the only way to keep the other hypotheses) the smoother wraps its indices but no divisor vanishes on this input -/
example : cv Fq #[1] #[1] (9 / 10) #[0, 1, 2] = true := by decide +kernel
example : cv Fq #[1, 2] #[1, 1] (9 / 10) #[0, 1, 2] = false := by decide +kernel

end Hdc.SafeWs2doptvpCore
