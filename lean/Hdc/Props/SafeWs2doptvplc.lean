import Hdc.Gen.SafeWs2doptvplc
import Hdc.Gen.NumWs2doptvplc
import Hdc.Lemmas.SafeOptvp
import Hdc.Lemmas.SafeSimN
/-
SafeWs2doptvplc  Safety of `hdc/algo/ops/ws2doptvplc.py::ws2doptvplc`, proved FROM THE SOURCE: `Hdc.Gen.Safe.ws2doptvplc`
(Hdc/Gen/SafeWs2doptvplc.lean, written by harness/py2lean_optvp.py) is the statement-by-statement translation plus the
flag `bad`, set by the same checks as for `ws2doptvp` (Hdc/Props/SafeWs2doptvp.lean): `oob` for every subscript, the divisor
`log(10) * llastep`, the flag of every call of the instrumented `ws2d`, `badSlice` for `znew[0:m]`, `z[0:m]`, and the shape
checks `lenDiff` / `badStoreLen` of the slice stores and of `np.round(z, 0, out)`.  The grid `llas` is
`np.arange(a, b, c, dtype=float64)`, a PARAMETER `arange` of the translation (no check; `lc > 0.5`, `lc <= 0.5` are
comparisons of scalars: no check): the contract states what is needed of the value `arange a b c` actually used.

  safe_ws2doptvplc_fst   (Safe.ws2doptvplc …).1 = Gen.NumKernels.ws2doptvplc …       every carrier, every input
  `example`s             the flag evaluated over ℚ on inputs inside / outside the intended contract (shapes of `out`, `lopt`;
                         when two cells are valid: `3 ≤ len y`, `0 < p < 1`, `10^l > 0`, `log 10 ≠ 0`, the selected grid has
                         2 entries with `llas[1] ≠ llas[0]`).  The theorem "under the contract the flag is false" is NOT
                         proved in this file (the proof of `ws2doptvp` transfers but was not completed in the time box).
-/
namespace Hdc.SafeWs2doptvplc
open Hdc Hdc.Gen.NumKernels Hdc.SafeSimN


/-- (i) the instrumented program is the translated source plus a flag -/
theorem safe_ws2doptvplc_fst {α : Type} [Add α] [Sub α] [Mul α] [Div α] [Neg α] [NatCast α] [LT α] [DecidableLT α]
    (F : VFns α) (rnd : α → α) (le : α → α → Bool) (arange : α → α → α → Array α) (c0_5 c1_2 c0_2 c3_2 : α)
    (y : Array α) (nodata p lc : α) (out lopt : Array α) :
    (Gen.Safe.ws2doptvplc F rnd le arange c0_5 c1_2 c0_2 c3_2 y nodata p lc out lopt).1
      = Gen.NumKernels.ws2doptvplc F rnd le arange c0_5 c1_2 c0_2 c3_2 y nodata p lc out lopt := by
  unfold Gen.Safe.ws2doptvplc Gen.NumKernels.ws2doptvplc
  simp only [SafeWs2d.safe_ws2d_fst]
  safe_sim

/-! ### Non-vacuity and sharpness (ℚ; toy functions `log = sqrt = id`, `10^l = l² + 1`, `log 10 = 1`; `round = id`; the toy
`arange` returns `g1` for the argument triple of `lc > 0.5`, `g2` for `lc <= 0.5`, `g3` for the third branch) -/

private def Fq : VFns ℚ := ⟨fun v => v, fun v => v, fun l => l * l + 1, 1⟩
private def ar (g1 g2 g3 : Array ℚ) : ℚ → ℚ → ℚ → Array ℚ :=
  fun a _ _ => if a = -2 then g1 else if a = 0 then g2 else g3
private def leq : ℚ → ℚ → Bool := fun a b => decide (a ≤ b)
private def lv (F : VFns ℚ) (le : ℚ → ℚ → Bool) (g1 g2 g3 y : Array ℚ) (p lc : ℚ) (out lopt : Array ℚ) : Bool :=
  (Gen.Safe.ws2doptvplc F (fun v => v) le (ar g1 g2 g3) (1 / 2) (6 / 5) (1 / 5) (16 / 5) y (-3000) p lc out lopt).2

/-- inside the intended contract: 5 cells, one of them `nodata`, `lc = 3/5 > 0.5` selects the first grid (3 entries) -/
example : lv Fq leq #[0, 1, 2] #[] #[] #[1, 2, -3000, 3, 5] (9 / 10) (3 / 5) #[0, 0, 0, 0, 0] #[0] = false := by
  decide +kernel
/-- fewer than two valid cells: only the shapes of `out`, `lopt` matter -/
example : lv Fq leq #[] #[] #[] #[-3000, 2, -3000] (9 / 10) (3 / 5) #[0, 0, 0] #[0] = false := by decide +kernel
/-- the other two branches of the grid selection, inside the contract (flag evaluated) -/
example : lv Fq leq #[] #[0, 1, 2] #[] #[1, 2, -3000, 3, 5] (9 / 10) (2 / 5) #[0, 0, 0, 0, 0] #[0] = false := by decide +kernel
example : lv Fq (fun _ _ => false) #[] #[] #[0, 1, 2] #[1, 2, -3000, 3, 5] (9 / 10) (2 / 5) #[0, 0, 0, 0, 0] #[0] = false := by
  decide +kernel
/-- the selected grid needs 2 entries with `llas[1] ≠ llas[0]`: `lc > 0.5` with a one-entry first grid; `lc <= 0.5` with `llas[1] = llas[0]` in the second
    grid; neither test true with a one-entry third grid (the other two grids are fine each time) -/
example : lv Fq leq #[0] #[0, 1, 2] #[0, 1, 2] #[1, 2, -3000, 3, 5] (9 / 10) (3 / 5) #[0, 0, 0, 0, 0] #[0] = true := by
  decide +kernel
example : lv Fq leq #[0, 1, 2] #[1, 1, 2] #[0, 1, 2] #[1, 2, -3000, 3, 5] (9 / 10) (2 / 5) #[0, 0, 0, 0, 0] #[0] = true := by
  decide +kernel
example : lv Fq (fun _ _ => false) #[0, 1, 2] #[0, 1, 2] #[0] #[1, 2, -3000, 3, 5] (9 / 10) (2 / 5) #[0, 0, 0, 0, 0] #[0]
    = true := by decide +kernel
/-- `len out = len y` (both branches), `lopt` has a cell -/
example : lv Fq leq #[0, 1, 2] #[] #[] #[1, 2, -3000, 3, 5] (9 / 10) (3 / 5) #[0, 0, 0, 0] #[0] = true := by decide +kernel
example : lv Fq leq #[0, 1, 2] #[] #[] #[-3000, 2, -3000] (9 / 10) (3 / 5) #[0, 0] #[0] = true := by decide +kernel
example : lv Fq leq #[0, 1, 2] #[] #[] #[1, 2, -3000, 3, 5] (9 / 10) (3 / 5) #[0, 0, 0, 0, 0] #[] = true := by decide +kernel
/-- `0 < p`, `p < 1` -/
example : lv Fq leq #[0, 1, 2] #[] #[] #[1, 2, -3000, 3, 5] 0 (3 / 5) #[0, 0, 0, 0, 0] #[0] = true := by decide +kernel
example : lv Fq leq #[0, 1, 2] #[] #[] #[1, 2, -3000, 3, 5] 1 (3 / 5) #[0, 0, 0, 0, 0] #[0] = true := by decide +kernel
/-- `log(10) ≠ 0` and `10^l > 0` are facts about the float functions; with other parameters the flag is set -/
example : lv ⟨fun v => v, fun v => v, fun l => l * l + 1, 0⟩ leq #[0, 1, 2] #[] #[] #[1, 2, -3000, 3, 5] (9 / 10) (3 / 5)
    #[0, 0, 0, 0, 0] #[0] = true := by decide +kernel
example : lv ⟨fun v => v, fun v => v, fun _ => 0, 1⟩ leq #[0, 1, 2] #[] #[] #[1, 2, -3000, 3, 5] (9 / 10) (3 / 5)
    #[0, 0, 0, 0, 0] #[0] = true := by decide +kernel
/-- `3 ≤ len y`: with two cells (both valid) the smoother wraps its indices but no divisor vanishes on this input -/
example : lv Fq leq #[0, 1, 2] #[] #[] #[1, 2] (9 / 10) (3 / 5) #[0, 0] #[0] = false := by decide +kernel

end Hdc.SafeWs2doptvplc
