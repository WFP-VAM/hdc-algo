import Hdc.Gen.SafeWs2dpgu
import Hdc.Gen.NumWs2dpgu
import Hdc.Lemmas.SafeFixed
import Hdc.Lemmas.SafeSimN
import Std.Tactic.Do
/-
SafeWs2dpgu  Safety of `hdc/algo/ops/ws2dpgu.py::ws2dpgu`, proved FROM THE SOURCE: `Hdc.Gen.Safe.ws2dpgu` (Hdc/Gen/SafeWs2dpgu.lean,
written by the instrumentation mode of harness/py2lean_fixed.py) is the statement-by-statement translation plus the flag `bad`.
The kernel is written with NumPy vector idioms (no subscript, no scalar division of its own); the flag is set by
  * `lenDiffer …`                  every cell-by-cell operation on two arrays whose lengths differ (NumPy raises):
                                   `np.where(w == 0, 0.0, y)`, `y > z`, the masks of `wa[envelope] = p` / `wa[~envelope] = p1`,
                                   `w * wa`, `znew[:] = ws2d(…)`, `znew - z`, `z[:] = znew[:]`, `np.round(z, 0, out)`, `out[:] = y[:]`
  * `(Safe.ws2d y lmda ww).2`      the (up to 10 + 1) calls of the instrumented smoother with the asymmetric weights `ww = w * wa`.

  safe_ws2dpgu_fst   (Safe.ws2dpgu …).1 = Gen.NumKernels.ws2dpgu …       every carrier, every input
  safe_ws2dpgu_ok    the flag is false under the contract
                         out.size = len y     the gufunc layout `(n),(),(),() -> (n)`
                         len y ≠ 2            `ws2d` needs 3 cells; with ≤ 1 cell the smoother is never called
                         0 ≤ λ                the source tests `lmda != 0.0`, which does NOT give `λ > 0`: see the example with λ < 0
                         0 < p < 1            the asymmetric weights `p`, `1 - p` must both be positive: with p ∈ {0, 1} a pass can
                                              give every cell the weight 0, with p ∉ [0, 1] a negative weight (a pivot vanishes)
  `example`s         for `out.size`, `0 ≤ λ`, `0 < p`, `p < 1` inputs over ℚ outside the hypothesis with the flag true.  For
                     `len y ≠ 2` no such input was found (two cells: the subscripts of `ws2d` wrap inside the arrays and no pivot
                     vanished on the inputs tried); the hypothesis is there because `safe_ws2d_ok` is proved for n ≥ 3.

Invariant of the loop `for _ in range(10)`, state `(bad, z, znew, wa, envelope, ww, z_tmp)`: the flag is false, `z`, `znew`, `wa` have
the length of the series, and after the first pass `ww` is inside the contract of `ws2d` (`SafeFixed.contract_asym`).
-/
namespace Hdc.SafeWs2dpgu
open Hdc Hdc.Gen.NumKernels Hdc.GenNum Hdc.Smooth Hdc.SafeL Hdc.SafeOptv Hdc.SafeFixed Hdc.SafeSimN Std.Do Hdc.PyNpF

set_option mvcgen.warning false
set_option linter.unusedSimpArgs false

/-- (i) the instrumented program is the translated source plus a flag -/
theorem safe_ws2dpgu_fst {α : Type} [Add α] [Sub α] [Mul α] [Div α] [Neg α] [NatCast α] [LT α] [DecidableLT α]
    (rnd : α → α) (isnan isinf : α → Bool) (y : Array α) (lam nodata p : α) (out : Array α) :
    (Gen.Safe.ws2dpgu rnd isnan isinf y lam nodata p out).1 = Gen.NumKernels.ws2dpgu rnd isnan isinf y lam nodata p out := by
  unfold Gen.Safe.ws2dpgu Gen.NumKernels.ws2dpgu
  simp only [SafeWs2d.safe_ws2d_fst]
  safe_sim

variable {α : Type} [Field α] [LinearOrder α] [IsStrictOrderedRing α]

/-- (ii) under the contract the flag is false -/
theorem safe_ws2dpgu_ok (rnd : α → α) (isnan isinf : α → Bool) (y : List α) (lam nodata p : α)
    (out0 : Array α) (hout : out0.size = y.length) (h2 : y.length ≠ 2) (hlam : 0 ≤ lam) (hp0 : 0 < p) (hp1 : p < 1) :
    (Gen.Safe.ws2dpgu rnd isnan isinf y.toArray lam nodata p out0).2 = false := by
  generalize hres : Gen.Safe.ws2dpgu rnd isnan isinf y.toArray lam nodata p out0 = res
  apply Id.of_wp_run_eq hres
  mvcgen -trivial invariants
  · ⇓⟨xs, s⟩ => ⌜s.1 = false ∧ s.2.1.size = y.length ∧ s.2.2.1.size = y.length ∧ s.2.2.2.1.size = y.length ∧
      (xs.prefix.length = 0 ∨ SafeWs2d.Contract (cleanOf (fun x => eqv x nodata || isnan x || isinf x) y)
        s.2.2.2.2.2.1.toList lam)⌝
  all_goals
    pyn_ranges
    simp (config := {zetaDelta := true}) only [npComp_eq, npBoolToNum_eq, npZipSA_eq,
      npZipAS_eq, npSum_eq, npWhereSA_eq, npWhereAS_eq, npWhereSS_eq, List.toList_toArray, weights_eq,
      sum_weights, clean_eq, decide_eq_true_eq, one_lt_count, Bool.not_eq_true', Bool.not_eq_false,
      pyRange_length, List.size_toArray, List.length_append, List.length_singleton, List.length_nil,
      show ((10 : ℤ) - 0).toNat = 10 from rfl] at *
  -- the two pass-through paths: `out[:] = y[:]`
  case vc5.isTrue.isFalse | vc6.isFalse => simp only [hout, lenDiffer_self, Bool.or_false]
  -- the fit happens: two valid cells, hence three cells; the cleaned data with the validity weights are inside the contract
  -- of `ws2d`, and so is every re-weighting `w * wa` (0 < p < 1)
  all_goals
    have hc := ‹1 < countValid _ y›
    have h3 := three_le_of_count _ y hc h2
    have hC := contract_clean _ y lam h3 (lam_pos_of lam ‹eqv lam _ = false› hlam) hc
    have hA := fun z (hz : z.length = y.length) => contract_asym hC p hp0 hp1 z (by simpa using hz)
    have hcall := fun z (hz : z.length = y.length) => SafeWs2d.safe_ws2d_ok _ _ lam (hA z hz)
  -- entry of the loop: `z = znew = wa = np.zeros(m)`
  case vc3.isTrue.isTrue.pre =>
    refine ⟨?_, ?_, ?_, ?_, Or.inl trivial⟩ <;>
      simp only [List.length_map, weightsOf_length, lenDiffer_self, Bool.or_false, Array.size_replicate, Int.toNat_natCast]
  -- one pass: `envelope`, the two masked stores, `ww = w * wa`, the fit, the stopping test; then `break` / `z[:] = znew[:]`
  case vc1.step.isTrue | vc2.step.isFalse =>
    obtain ⟨hb, hz, hn, ha, hw⟩ := ‹_ = false ∧ _›
    refine ⟨?_, ?_, ?_, ?_, Or.inr ?_⟩ <;>
      simp only [hb, hz, hn, ha, npZipAA_eq, npMap_eq, npMaskSetS_eq,
        maskSet_both, zipWith_lt_swap, asymW_zip, size_npSetAll, size_npMaskSetS, size_npZipAA, size_npMap, ws2d_call_size,
        List.size_toArray, List.toList_toArray, List.length_zipWith, List.length_map, Array.length_toList,
        asymW_length, weightsOf_length, cleanOf_length, Nat.min_self, lenDiffer_self, Bool.or_false, hcall]
    exact hA _ (by simp only [Array.length_toList, hz])
  -- after the loop (10 passes or `break`: at least one pass, so `ww` is a re-weighting): `z = ws2d(y, lmda, ww)`,
  -- `np.round(z, 0, out)`
  case vc4.isTrue.isTrue.post.success =>
    obtain ⟨hb, hz, hn, ha, hw⟩ := ‹_ = false ∧ _›
    have hw' := hw.resolve_left (by omega)
    have hcw := ws2d_ok_arr (cleanOf _ y).toArray _ lam (by simpa only [List.toList_toArray] using hw')
    simp only [hb, hcw, ws2d_call_size, List.size_toArray, cleanOf_length, hout, lenDiffer_self, Bool.or_false]

/-! ### Non-vacuity and sharpness (ℚ; `round` = identity, no NaN / ∞) -/

private def pgu (y : Array ℚ) (lam p : ℚ) (out : Array ℚ) : Array ℚ × Bool :=
  Gen.Safe.ws2dpgu (fun v => v) (fun _ => false) (fun _ => false) y lam (-1) p out

/-- in contract: seven cells, one of them `nodata`, p = 9/10 (the upper envelope) -/
example : (pgu #[1, 2, -1, 3, 5, 9, 2] 2 (9 / 10) #[7, 7, 7, 7, 7, 7, 7]).2 = false :=
  safe_ws2dpgu_ok _ _ _ [1, 2, -1, 3, 5, 9, 2] _ _ _ _ (by rfl) (by decide) (by norm_num) (by norm_num) (by norm_num)
/-- the minimum length 3; the pass-through paths (λ = 0; a single valid cell) -/
example : (pgu #[1, 2, 4] 2 (1 / 2) #[0, 0, 0]).2 = false :=
  safe_ws2dpgu_ok _ _ _ [1, 2, 4] _ _ _ _ (by rfl) (by decide) (by norm_num) (by norm_num) (by norm_num)
example : (pgu #[1, 2, 4] 0 (1 / 2) #[0, 0, 0]).2 = false :=
  safe_ws2dpgu_ok _ _ _ [1, 2, 4] _ _ _ _ (by rfl) (by decide) (by norm_num) (by norm_num) (by norm_num)
example : (pgu #[1, -1, -1, -1] 2 (1 / 2) #[0, 0, 0, 0]).2 = false :=
  safe_ws2dpgu_ok _ _ _ [1, -1, -1, -1] _ _ _ _ (by rfl) (by decide) (by norm_num) (by norm_num) (by norm_num)
/-- `out.size = len y`: a buffer of another length on each of the three paths -/
example : (pgu #[1, 2, 4, 3, 5] 2 (1 / 2) #[7, 7, 7]).2 = true := by decide +kernel
example : (pgu #[1, -1, -1, -1, -1] 2 (1 / 2) #[7, 7, 7]).2 = true := by decide +kernel
example : (pgu #[1, 2, 4, 3, 5] 0 (1 / 2) #[7, 7, 7]).2 = true := by decide +kernel
/-- `0 ≤ λ`: the guard `lmda != 0.0` lets a negative λ through; first pass: every weight is `p = 1/2`, the first pivot
    `w₀ + λ` vanishes at λ = -1/2 -/
example : (pgu #[1, 2, 4, 3, 5] (-1 / 2) (1 / 2) #[0, 0, 0, 0, 0]).2 = true := by decide +kernel
/-- `0 < p`: p = 0 and data above the zero curve: every weight of the first pass is 0; p = -1: the weight `p` is negative
    (`w₀ + λ = -1 + 1`) -/
example : (pgu #[1, 2, 4, 3, 5] 2 0 #[0, 0, 0, 0, 0]).2 = true := by decide +kernel
example : (pgu #[1, 2, 4, 3, 5] 1 (-1) #[0, 0, 0, 0, 0]).2 = true := by decide +kernel
/-- `p < 1`: p = 1 and data below the zero curve: every weight `1 - p` of the first pass is 0; p = 2: `1 - p` is negative -/
example : (pgu #[-2, -3, -4, -3, -5] 2 1 #[0, 0, 0, 0, 0]).2 = true := by decide +kernel
example : (pgu #[-2, -3, -4, -3, -5] 1 2 #[0, 0, 0, 0, 0]).2 = true := by decide +kernel
/-- `len y ≠ 2`: two valid cells; the flag stays false on these inputs -/
example : (pgu #[1, 2] 2 (1 / 2) #[0, 0]).2 = false := by decide +kernel
example : (pgu #[1, 2] (1 / 100) (9 / 10) #[0, 0]).2 = false := by decide +kernel
example : (pgu #[3, 1] 1000 (1 / 10) #[0, 0]).2 = false := by decide +kernel

end Hdc.SafeWs2dpgu
