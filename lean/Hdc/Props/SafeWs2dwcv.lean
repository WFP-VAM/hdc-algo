import Hdc.Gen.SafeWs2dwcv
import Hdc.Gen.NumWs2dwcv
import Hdc.Lemmas.SafeWcv
import Hdc.Lemmas.SafeSimN
import Std.Tactic.Do
/-
SafeWs2dwcv  Safety of `hdc/algo/ops/ws2dwcv.py::ws2dwcv`, FROM THE SOURCE: `Hdc.Gen.Safe.ws2dwcv` (Hdc/Gen/SafeWs2dwcv.lean,
written by the `safe` mode of harness/py2lean_wcv.py) is the statement-by-statement translation plus the flag `bad`, set by
  * `oob a.size i`       `d_eigs[0]`; `robust_gcv[1][1]` (two checks: the list, then the row); `gcv[0]`, `gcv_temp[0]`; `best_gcv[1]`;
                         `robust_gcv[1, 1]` / `robust_gcv[0, 1]` (two checks each); `lopt[0]` (store and read)
  * `lenNe a.size b.size`  every NumPy operation on two arrays: `np.where(w == 0, 0.0, y)`, `w * r_weights`, the three binary
                         operations of `gamma = ...` (twice), `y - z`, `(w_temp**0.5) * (y - z)`, `y - y_temp`, `r_arr[w_temp != 0]`,
                         `y[w != 0]`, the two mask stores into `r_new`, `w * r_new`, `np.round(z, 0, out)`, `out[:] = y[:]`
  * `emptyArr a.size`    `np.max(y_valid)`, `np.min(y_valid)`
  * `decide (m < 0)`     `np.zeros(m)`, `np.ones(m)`
  * `eqv e 0`            the SCALAR divisions `tr_H / w_temp.sum()`, `wsse / denominator`, `gamma.sum() / n`
  * `(Safe.ws2d …).2`    the calls of the instrumented smoother
NOT instrumented (NumPy does not raise): the array-valued divisions `np.arange(m) * np.pi / m`, `w_temp / (w_temp + s * …)`,
`r_arr / (1.4826 * mad * np.sqrt(…))`, `u_arr / 4.685`; `np.sqrt` / `** 0.5` of a negative number; `np.median` of an empty
array; `np.array(robust_gcv)`.  The UnboundLocalError of `y_temp` / `robust_weights` is reported by the first component (`none`).

  safe_ws2dwcv_fst   (Safe.ws2dwcv …).1 = Gen.NumKernels.ws2dwcv …     every carrier, every input, both values of `robust`
  safe_ws2dwcv_ok    `robust = False`: under `Contract` the flag is false
  `example`s         an instance of the contract; for every hypothesis an input over ℚ outside it where the flag is true

`robust = True` is NOT covered by `safe_ws2dwcv_ok`: it is `safe_ws2dwcv_robust_ok` in Hdc/Props/SafeWs2dwcvOk.lean, under the
path-dependent `RobustContract` (the end of this file says why no contract on the inputs alone works).
-/
namespace Hdc.SafeWs2dwcv
open Hdc Hdc.Gen.NumKernels Hdc.PyNpW Hdc.GenNum Hdc.SafeL Hdc.SafeWcv Hdc.SafeSimN Std.Do

set_option mvcgen.warning false
set_option linter.unusedSimpArgs false
set_option linter.unusedTactic false
set_option linter.unreachableTactic false
set_option linter.unusedVariables false
set_option linter.unusedSectionVars false

/-- (i) the instrumented program is the translated source plus a flag -/
theorem safe_ws2dwcv_fst {α : Type} [Add α] [Sub α] [Mul α] [Div α] [Neg α] [NatCast α] [LT α] [DecidableLT α] [IntCast α]
    (G : GFns α) (cos : α → α) (isnan isinf : α → Bool) (rnd : α → α) (pi : α) (y : Array α) (nodata : α)
    (llas : Array α) (robust : Bool) (out lopt : Array α) :
    (Gen.Safe.ws2dwcv G cos isnan isinf rnd pi y nodata llas robust out lopt).1
      = Gen.NumKernels.ws2dwcv G cos isnan isinf rnd pi y nodata llas robust out lopt := by
  unfold Gen.Safe.ws2dwcv Gen.NumKernels.ws2dwcv
  simp only [SafeWs2d.safe_ws2d_fst]
  safe_sim

variable {α : Type} [Field α] [LinearOrder α] [IsStrictOrderedRing α]

/-- the contract of `ws2dwcv(y, nodata, llas, robust=False, out, lopt)`.  `wOf`, `yOf`, `dOf`, `trOf`, `scoreOf`
    (Hdc/Lemmas/SafeWcv.lean) are the NumPy expressions of the source for `w`, the cleaned `y`, `d_eigs`, `gamma.sum()`, `gcv_score`.
    * `ylen`: `d_eigs[0] = 1e-15` is executed before the guard `n > 4`;
    * `out`, `lopt`: the output buffers of the gufunc signature `(n),(),(m),() -> (n),()`;
    * `fit`, only when more than four cells are valid (otherwise the kernel copies `y`):
      every `λ = 10 ** l` of the grid is positive (a fact about the float function; what `ws2d` needs),
      `gamma.sum() ≠ w.sum()` for every `λ` of the grid (EXACTLY the condition under which `denominator = w.sum() * (1 - tr_H / w.sum()) ** 2`
      is non-zero, given `w.sum() = n > 4`; NOT guaranteed by a guard of the kernel: with the real `cos` and `1e-15` every `d_eigs[i]` is
      non-zero, hence `gamma[i] < w[i]` on valid cells and the inequality holds, but `cos`, `eig0` are parameters here),
      and some grid point scores below `1e15` (otherwise `gcv_temp` stays `[1e15, 0]`, `lopt[0] = 0` and the final `ws2d(y, 0, w)`
      divides by zero at a leading missing cell; again no guard in the kernel: an empty grid `llas` is enough). -/
structure Contract (G : GFns α) (cos : α → α) (isnan isinf : α → Bool) (pi : α) (y llas : List α) (nodata : α)
    (out0 lopt0 : Array α) : Prop where
  ylen : 1 ≤ y.length
  out : out0.size = y.length
  lopt : 1 ≤ lopt0.size
  fit : 4 < countValid (missG nodata isnan isinf) y →
    (∀ l ∈ llas, 0 < G.pow10 l) ∧
    (∀ l ∈ llas, trOf (wOf nodata isnan isinf y.toArray) (dOf G cos pi y.length) (G.pow10 l)
      ≠ npSum (wOf nodata isnan isinf y.toArray)) ∧
    (∃ l ∈ llas, scoreOf G (yOf (wOf nodata isnan isinf y.toArray) y.toArray) (wOf nodata isnan isinf y.toArray)
      (dOf G cos pi y.length) (G.pow10 l) < G.big)

/-- (ii) `robust = False`: under the contract the flag is false -/
theorem safe_ws2dwcv_ok (G : GFns α) (cos : α → α) (isnan isinf : α → Bool) (rnd : α → α) (pi : α)
    (y llas : List α) (nodata : α) (out0 lopt0 : Array α)
    (hc : Contract G cos isnan isinf pi y llas nodata out0 lopt0) :
    (Gen.Safe.ws2dwcv G cos isnan isinf rnd pi y.toArray nodata llas.toArray false out0 lopt0).2 = false := by
  obtain ⟨hy1, ho, hl, hfit⟩ := hc
  unfold Gen.Safe.ws2dwcv
  simp -zeta only [Bool.not_false, Bool.false_eq_true, ↓reduceIte]
  -- the statements in front of the guard `n > 4`, once for all conditions: `w`, `d_eigs` are `wOf`, `dOf`
  extract_lets +onlyGivenNames -merge bad0 ya0 out1 lopt1 ub0 yt0 yts0 rwts0 rwset0 ma wa na de0 bad1 dea
  have hma : ma = (y.length : ℤ) := by simp only [ma, ya0, List.size_toArray]
  have hwe : wa = wOf nodata isnan isinf y.toArray := rfl
  have hde : dea = dOf G cos pi (y.length : ℤ) := rfl
  have hb1 : bad1 = false := by
    simp only [bad1, bad0, de0, ma, ya0, size_npMap, size_npArange, List.size_toArray, Int.toNat_natCast,
      Bool.false_or]
    exact oob_zero hy1
  have hol : oob lopt0.size 0 = false := oob_zero hl
  clear_value wa dea ma bad1
  subst hwe hde
  have hWs := size_wOf' nodata isnan isinf y
  have hDs := size_dOf' G cos pi y.length
  have hYs : (npWhereSA (npMap (fun e => eqv e (nat 0)) (wOf nodata isnan isinf y.toArray)) (nat 0) y.toArray).size
      = y.length := size_yOf' nodata isnan isinf y
  by_cases h4 : 4 < countValid (missG nodata isnan isinf) y
  case neg =>
    -- fewer than five valid cells: `out[:] = y[:]; lopt[0] = 0.0`
    simp -zeta only [decide_eq_false (show ¬ nat 4 < na from mt (four_lt_arr nodata isnan isinf y).1 h4), Bool.false_eq_true,
      ↓reduceIte]
    show (bad1 || lenNe out1.size ya0.size || oob lopt1.size 0) = false
    simp only [hb1, out1, lopt1, ya0, ho, List.size_toArray, lenNe_self, hol, Bool.or_false]
  simp -zeta only [decide_eq_true (show nat 4 < na from (four_lt_arr nodata isnan isinf y).2 h4), ↓reduceIte]
  obtain ⟨hpow, hden, hbig⟩ := hfit h4
  have h5 : 5 ≤ y.length := le_trans h4 (Smooth.countValid_le_length _ y)
  have hS : npSum (wOf nodata isnan isinf y.toArray) ≠ 0 := by
    rw [npSum_wOf]; exact Nat.cast_ne_zero.2 (by omega)
  -- every call `ws2d(y', λ, w)` with a positive λ is safe (`omega` here, not under the conditions)
  have hcall := fun lam hlam => call_ok nodata isnan isinf y _ lam hYs (by omega) hlam (by omega)
  have hm0 : decide (ma < 0) = false := by rw [hma]; exact neg_size_false _
  have hmn : ma.toNat = y.length := by rw [hma]; exact Int.toNat_natCast _
  generalize hres : Id.run _ = res
  apply Id.of_wp_run_eq hres
  clear hres
  mvcgen -trivial invariants
  -- `for it in range(1)`, state `(bad, unbound, y_temp, y_temp_set, robust_weights, robust_weights_set, z, r_weights, robust_gcv, gcv_temp)`
  · ⇓⟨xs, s⟩ => ⌜s.1 = false ∧ s.2.2.2.2.2.2.2.1 = Array.replicate y.length (nat 1) ∧
      (xs.prefix.length = 0 → s.2.2.2.2.2.2.2.2.1 = #[] ∧ s.2.2.2.2.2.2.2.2.2 = #[G.big, nat 0]) ∧
      (xs.prefix.length ≠ 0 → ∃ g, s.2.2.2.2.2.2.2.2.1 = #[g] ∧ g.size = 2 ∧ 0 < rd g 1 ∧
        s.2.2.2.2.1 = wOf nodata isnan isinf y.toArray)⌝
  -- the sweep under `it > 1`: not reached with `r_its = 1`
  · ⇓⟨xs, s⟩ => ⌜True⌝
  -- `for s in lambda_range`, state `(bad, y_temp, y_temp_set, z, gcv_temp, s, gamma)`
  · ⇓⟨xs, s⟩ => ⌜s.1 = false ∧ SweepS G.big (scoreOf G (yOf (wOf nodata isnan isinf y.toArray) y.toArray)
      (wOf nodata isnan isinf y.toArray) (dOf G cos pi y.length)) xs.prefix s.2.2.2.2.1⌝
  -- the last hypothesis of a condition is the invariant of the innermost loop; reducing every hypothesis is slow
  all_goals
    rename_i hlast
    clear_jps
    pyn_ranges
    try dsimp only [id, PostCond.noThrow, SPred.down_pure] at hlast ⊢
  -- the sweep under `it > 1` is not reached (`r_its = 1`)
  case vc4 => exact absurd (of_decide_eq_true ‹decide (_ > (1 : ℤ)) = true›) (by omega)
  -- one grid point `s = 10 ** l`; `w_temp = w * np.ones(m) = w`
  case vc5 | vc6 =>
    obtain ⟨hrb, hrw, -, -⟩ := ‹_ ∧ _ ∧ _ ∧ _›
    obtain ⟨hb, hSw⟩ := ‹_ ∧ SweepS _ _ _ _›
    py_name cur as cu
    py_name w_temp as wt
    obtain ⟨l, hlm, rfl⟩ := mem_grid ‹_ = _ ++ cu :: _›
    have hwt : wt = wOf nodata isnan isinf y.toArray :=
      (congrArg (npMap2 (fun a b => a * b) (wOf nodata isnan isinf y.toArray)) hrw).trans (mul_ones _ _ hWs.symm)
    clear_value wt
    subst hwt
    refine ⟨sweep_flag G _ hb (hcall _ (hpow l hlm))
      (hWs.trans hYs.symm) (hDs.trans hYs.symm) hSw.size hS (hden l hlm), ?_⟩
    first
      | exact hSw.step_lt _ _ (hpow l hlm)
      | exact hSw.step_ge ‹¬ decide _ = true› (scoreOf_eq G _ _ _ _)
  -- entry of the sweep: `gcv_temp = [big, 0]`
  case vc7 =>
    obtain ⟨hrb, hrw, hi0, -⟩ := ‹_ ∧ _ ∧ _ ∧ _›
    obtain ⟨-, hgt⟩ := hi0 (by omega)
    refine ⟨?_, SweepS.init _ _ hgt⟩
    simp +zetaDelta only [hrb, hrw, hWs, Array.size_replicate, lenNe_self, Bool.or_false]
  -- end of the sweep: some score was below `big`, so `best_gcv[1] > 0`
  case vc8 =>
    obtain ⟨hrb, hrw, hi0, -⟩ := ‹_ ∧ _ ∧ _ ∧ _›
    obtain ⟨hb, hSw⟩ := ‹_ ∧ SweepS _ _ _ _›
    obtain ⟨hrg, -⟩ := hi0 (by omega)
    have hpos := hSw.pos (by
      obtain ⟨l, hl, hlt⟩ := hbig
      exact ⟨G.pow10 l, by simp only [toList_npMap, List.toList_toArray]; exact List.mem_map_of_mem hl, hlt⟩)
    refine ⟨?_, hrw, fun h => absurd h (by simp), fun _ => ⟨_, by simp +zetaDelta only [hrg, push_empty], hSw.size, hpos, ?_⟩⟩
    · simp +zetaDelta only [hb, hSw.size, oob_one, Nat.one_lt_two, hrw, hWs, Array.size_replicate, lenNe_self,
        Bool.or_false]
    · simp +zetaDelta only [hrw, mul_ones _ _ hWs.symm]
  -- entry of the robust loop
  case vc9 =>
    refine ⟨?_, congrArg (fun k => Array.replicate k (nat 1)) hmn, fun _ => trivial, fun h => absurd rfl h⟩
    simp +zetaDelta only [hb1, hm0, size_npMap, hWs, List.size_toArray, lenNe_self, Bool.or_false]
  -- after the loop: `lopt[0] = robust_gcv[0, 1] > 0`, the final fit with the validity weights
  case vc10 | vc11 =>
    obtain ⟨hrb, -, -, hi1⟩ := ‹_ ∧ _ ∧ _ ∧ _›
    obtain ⟨g, hrg, hg2, hgpos, hrw⟩ := hi1 (by rw [pyRange_length]; decide)
    simp +zetaDelta only [hrb, hrg, hrw, rdA_single, hg2, show oob #[g].size 0 = false from rfl, oob_one, Nat.one_lt_two,
      rd_wr_zero _ _ hl, size_wr, hol, hcall _ hgpos,
      SafeOptv.ws2d_call_size, Array.size_map, hYs, ho, lenNe_self, Bool.or_false]

/-! ### Non-vacuity and sharpness (ℚ; toy functions `sqrt x = x ** 0.5 = x`, `10 ** l = l + 1`, `cos x = 1 - x²/2`, `π = 3`,
`big = 10⁶`, `eig0 = 1/1000`; `round = id`; `isnan = isinf = false`) -/

private def cosq (x : ℚ) : ℚ := 1 - x * x / 2
private def Gq : GFns ℚ :=
  ⟨fun i m => -2 + 2 * cosq ((i : ℚ) * 3 / (m : ℚ)), 1 / 1000, fun x => x, fun x => x, fun x => x + 1, 1000000, 3 / 2, 5, 1000⟩
private def fl (G : GFns ℚ) (cos : ℚ → ℚ) (y llas out lopt : Array ℚ) : Bool :=
  (Gen.Safe.ws2dwcv G cos (fun _ => false) (fun _ => false) (fun v => v) 3 y (-1) llas false out lopt).2

/-- an instance of the contract: 7 cells, the first one `nodata`, a grid of 2 -/
example : fl Gq cosq #[-1, 1, 5, 2, 8, 3, 4] #[0, 1] #[0, 0, 0, 0, 0, 0, 0] #[9] = false :=
  safe_ws2dwcv_ok Gq cosq _ _ _ 3 [-1, 1, 5, 2, 8, 3, 4] [0, 1] (-1) _ _
    ⟨by decide, by decide, by decide, fun _ => ⟨by decide +kernel, by decide +kernel, by decide +kernel⟩⟩
/-- four valid cells (pass-through): only `ylen`, `out`, `lopt` matter -/
example : fl Gq cosq #[1, 5, -1, -1, 8, 3, -1] #[] #[0, 0, 0, 0, 0, 0, 0] #[9] = false :=
  safe_ws2dwcv_ok Gq cosq _ _ _ 3 [1, 5, -1, -1, 8, 3, -1] [] (-1) _ _
    ⟨by decide, by decide, by decide, fun h => absurd h (by decide +kernel)⟩
/-- `ylen`: no cell at all, `d_eigs[0]` is out of range (NumPy: IndexError) -/
example : fl Gq cosq #[] #[0, 1] #[] #[9] = true := by decide +kernel
/-- `out`: a buffer of another length (`np.round(z, 0, out)` / `out[:] = y[:]`), on both branches -/
example : fl Gq cosq #[-1, 1, 5, 2, 8, 3, 4] #[0, 1] #[0, 0] #[9] = true := by decide +kernel
example : fl Gq cosq #[1, 5, -1, -1, 8, 3, -1] #[0, 1] #[] #[9] = true := by decide +kernel
/-- `lopt`: an empty buffer (`lopt[0]`), on both branches -/
example : fl Gq cosq #[-1, 1, 5, 2, 8, 3, 4] #[0, 1] #[0, 0, 0, 0, 0, 0, 0] #[] = true := by decide +kernel
example : fl Gq cosq #[1, 5, -1, -1, 8, 3, -1] #[0, 1] #[0, 0, 0, 0, 0, 0, 0] #[] = true := by decide +kernel
/-- `0 < 10 ** l`: with `10 ** l = 0` the smoother is called with `λ = 0` and divides by zero at the missing first cell -/
example : fl { Gq with pow10 := fun _ => 0 } cosq #[-1, 1, 5, 2, 8, 3, 4] #[0, 1] #[0, 0, 0, 0, 0, 0, 0] #[9] = true := by
  decide +kernel
/-- FINDING `gamma.sum() ≠ w.sum()`: no guard of the kernel protects `wsse / denominator`.  With `cos = 1` and `eig0 = 0`
    every eigenvalue is 0, `gamma = w`, `tr_H = w.sum()`, `denominator = 0` (all other hypotheses hold: `λ > 0`, 6 valid cells) -/
example : fl { Gq with eig0 := 0 } (fun _ => 1) #[-1, 1, 5, 2, 8, 3, 4] #[0, 1] #[0, 0, 0, 0, 0, 0, 0] #[9] = true := by
  decide +kernel
/-- FINDING "some score is below `big`": an EMPTY grid `llas` (nothing in the kernel excludes it) leaves `lopt[0] = 0`, and the
    final `ws2d(y, 0, w)` divides by zero at the missing first cell; the same with `big = 0` -/
example : fl Gq cosq #[-1, 1, 5, 2, 8, 3, 4] #[] #[0, 0, 0, 0, 0, 0, 0] #[9] = true := by decide +kernel
example : fl { Gq with big := 0 } cosq #[-1, 1, 5, 2, 8, 3, 4] #[0, 1] #[0, 0, 0, 0, 0, 0, 0] #[9] = true := by decide +kernel
/-- … while with all cells valid the empty grid does not raise the flag (`ws2d(y, 0, 1)` has no zero pivot): the hypothesis
    is needed only when a cell is missing -/
example : fl Gq cosq #[1, 5, 2, 8, 3, 4] #[] #[0, 0, 0, 0, 0, 0] #[9] = false := by decide +kernel

/-! ### `robust = True`: proved in Hdc/Props/SafeWs2dwcvOk.lean (`safe_ws2dwcv_robust_ok`) under a contract on the path the loop
  takes (`RobustContract`); it is not a consequence of hypotheses on the inputs alone:
  * the checks that remain are those of the block `if robust:` (`lenNe` of `y - y_temp`, of the two selections and the mask stores,
    `emptyArr y_valid.size`, `gamma.sum() / n`), `robust_gcv[1][1]` for `it > 1`, and in iterations 1..3 the calls `ws2d(y, s, w * r_weights)` and the
    two scalar divisions with RE-WEIGHTED `w_temp = w * r_weights`;
  * sizes, `n ≠ 0`, `y_valid` non-empty and the subscripts follow as above; `w_temp ≥ 0` holds (`r_new` is a square, then 0 / 1 on the
    masks) and the guard `np.sum((w * r_new) > 0) > 1` gives the two positive weights `ws2d` needs: the kernel DOES protect the solver;
  * but `tr_H ≠ w_temp.sum()` is no longer automatic: for a fractional weight `0 < w_i < 1` the cell's `gamma_i = w_i / (w_i + s d_i²)`
    exceeds `w_i` as soon as `s d_i² < 1 - w_i` (always at `i = 0`, `d_0 = 1e-15`), cells with weight 1 have `gamma_i < 1`, so
    `Σ gamma_i = Σ w_i` is ONE algebraic equation in the data that no guard excludes: `denominator` can vanish. -/

end Hdc.SafeWs2dwcv
