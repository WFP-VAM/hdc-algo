import Hdc.Props.SafeWs2dwcv
import Hdc.Props.GenNumWcv
import Hdc.Props.C05
import Hdc.Lemmas.SafeOk
import Hdc.Lemmas.SmoothGcvAffine
import Std.Tactic.Do
/-
SafeWs2dwcvOk  `robust = True`: under `RobustContract` the flag of the instrumented `ws2dwcv` (Hdc/Gen/SafeWs2dwcv.lean, generated
from hdc/algo/ops/ws2dwcv.py::ws2dwcv) stays down: no subscript out of range, no shape mismatch, no `np.max` / `np.min` of an empty
array, no scalar division by zero, in the robust loop, the four sweeps, the re-weighting block and the final fit.

  safe_ws2dwcv_robust_ok   (Gen.Safe.ws2dwcv G cos isnan isinf rnd pi y nodata llas true out lopt).2 = false   under `hG`, `RobustContract`

The contract is PATH-DEPENDENT on purpose (see the end of Hdc/Props/SafeWs2dwcv.lean: with fractional robust weights
`gamma.sum() = w_temp.sum()` is one algebraic equation in the data that no guard of the kernel excludes, so no hypothesis on the inputs
alone gives `denominator ≠ 0`).  It is stated on the hand model of the loop, `Hdc.Smooth.grun` (the chain of `gstep`s of which
`Hdc.wcv` / `gcvSelect` are made, Hdc/Lemmas/SmoothGcv.lean), which the translated kernel is proved to compute
(`gen_ws2dwcv_eq_model`, Hdc/Props/GenNumWcv.lean); the proof re-uses that refinement's loop invariants (`OuterInv`, `SweepOk`) on the
instrumented program and adds the flag.  What follows WITHOUT hypothesis from the kernel's own guards: all sizes; `n ≠ 0`; `y_valid`
non-empty; `robust_gcv[1]` exists when `it > 1`; `w_temp ≥ 0` with two positive cells in every iteration (the guard
`np.sum((w * r_new) > 0) > 1`), hence every `ws2d(y, s, w * r_weights)` call is inside the contract of `safe_ws2d_ok` and
`w_temp.sum() > 0`; every λ that is used lies on the grid, hence is positive.

Method: the facts about `w`, `n`, `d_eigs` and the cleaned `y` are proved once, in front of `mvcgen`, and bundled with the
contract (`RobustCtx`, Hdc/Lemmas/SafeOk.lean); three invariants (robust loop: `OuterS`; the sweep under `it > 1` and the grid sweep:
`SweepSt`); a sweep step is closed by `sweep_call` / `sweep_flag`, `y_temp` unbound by `unset_absurd`, the exit of the loop by
`robust_exit`; the flag of the other conditions is a `simp` with the sizes the invariants give.
-/
namespace Hdc.GenNum
open Hdc Hdc.C01 Hdc.Gen.NumKernels Hdc.PyNpW Hdc.Smooth Hdc.SafeL Hdc.SafeWcv Hdc.SafeOk Std.Do

set_option mvcgen.warning false
set_option linter.unusedSimpArgs false
set_option linter.unusedTactic false
set_option linter.unreachableTactic false
set_option linter.unusedVariables false
set_option linter.unusedSectionVars false

variable {α : Type} [Field α] [LinearOrder α] [IsStrictOrderedRing α]

/-- the contract of `ws2dwcv(y, nodata, llas, robust=True, out, lopt)`; `miss x = (x == nodata or isnan x or isinf x)`,
    `Y = cleanOf miss y` (`np.where(w == 0, 0.0, y)`), `w = weightsOf miss y`, `grun … k 0 (gs0 …)` = the state
    `(gcv_temp / y_temp, r_weights, robust_gcv)` of the robust loop after `k` iterations (`none`: `y_temp` was read unbound).
    * `ylen`: `d_eigs[0] = 1e-15` is executed before the guard `n > 4`;
    * `out`, `lopt`: the output buffers of the gufunc signature `(n),(),(m),() -> (n),()`;
    * `fit`, only when more than four cells are valid (otherwise the kernel copies `y`):
      - every `λ = 10 ** l` of the grid is positive (what `ws2d` needs at missing cells);
      - the four iterations run without reading `y_temp` unbound, i.e. some score of the FIRST sweep is below `1e15`
        (otherwise `y - y_temp` combines arrays of different length; in particular `llas` is not empty);
      - in each iteration `k` and for each `λ` swept in it (`iterLams`: the grid for `k ≤ 1`, `[robust_gcv[1][1]]` after),
        `gamma.sum() ≠ w_temp.sum()` with the re-weighted `w_temp = w * r_weights` of THAT iteration: exactly the condition under
        which `denominator = w_temp.sum() * (1 - tr_H / w_temp.sum()) ** 2` is non-zero (given `w_temp.sum() > 0`, which is proved). -/
structure RobustContract (G : GFns α) (isnan isinf : α → Bool) (y llas : List α) (nodata : α)
    (out0 lopt0 : Array α) : Prop where
  ylen : 1 ≤ y.length
  out : out0.size = y.length
  lopt : 1 ≤ lopt0.size
  fit : 4 < countValid (missG nodata isnan isinf) y →
    (∀ l ∈ llas, 0 < G.pow10 l) ∧
    (grun G (cleanOf (missG nodata isnan isinf) y) (weightsOf (missG nodata isnan isinf) y) (deigs G y.length)
      (llas.map G.pow10) true (sumF (weightsOf (missG nodata isnan isinf) y)) 4 0
      (gs0 G (cleanOf (missG nodata isnan isinf) y))).isSome ∧
    (∀ k < 4, ∀ st, grun G (cleanOf (missG nodata isnan isinf) y) (weightsOf (missG nodata isnan isinf) y)
        (deigs G y.length) (llas.map G.pow10) true (sumF (weightsOf (missG nodata isnan isinf) y)) k 0
        (gs0 G (cleanOf (missG nodata isnan isinf) y)) = some st →
      ∀ s ∈ iterLams (llas.map G.pow10) k st.2.2,
        sumF (gammaOf (mul2 (weightsOf (missG nodata isnan isinf) y) st.2.1) (deigs G y.length) s)
          ≠ sumF (mul2 (weightsOf (missG nodata isnan isinf) y) st.2.1))

/-- `robust = True`: under the contract the flag is false.  `hG` ties the eigenvalue table of the model (`G.eig`, in which the
    contract is stated) to the expression of the source, `-2 + 2 * np.cos(i * np.pi / m)`, as in `gen_ws2dwcv_eq_model`. -/
theorem safe_ws2dwcv_robust_ok (G : GFns α) (cos : α → α) (isnan isinf : α → Bool) (rnd : α → α) (pi : α)
    (y llas : List α) (nodata : α) (out0 lopt0 : Array α)
    (hG : ∀ i m : ℕ, G.eig i m = -2 + 2 * cos ((i : α) * pi / (m : α)))
    (hc : RobustContract G isnan isinf y llas nodata out0 lopt0) :
    (Gen.Safe.ws2dwcv G cos isnan isinf rnd pi y.toArray nodata llas.toArray true out0 lopt0).2 = false := by
  obtain ⟨hy1, ho, hl, hfit⟩ := hc
  unfold Gen.Safe.ws2dwcv
  simp -zeta only [Bool.not_true, Bool.false_eq_true, ↓reduceIte]
  -- the statements in front of the guard `n > 4`, once for all conditions
  extract_lets +onlyGivenNames -merge bad0 ya0 out1 lopt1 ub0 yt0 yts0 rwts0 rwset0 ma wa na de0 bad1 dea
  have hma : ma = (y.length : ℤ) := by simp only [ma, ya0, List.size_toArray]
  have hn4 : (nat 4 : α) < na ↔ 4 < countValid (missG nodata isnan isinf) y := four_lt_arr nodata isnan isinf y
  have hB : 4 < countValid (missG nodata isnan isinf) y →
      Bound _ _ _ _ (npWhereSA (npMap (fun e => eqv e (nat 0)) wa) (nat 0) ya0) wa dea na ma :=
    Bound.head G cos pi hG nodata isnan isinf y
  have hb1 : bad1 = false := by
    simp only [bad1, bad0, de0, ma, ya0, size_npMap, size_npArange, List.size_toArray, Int.toNat_natCast,
      Bool.false_or]
    exact oob_false _ _ (by omega)
  clear_value wa dea na ma bad1
  by_cases h4n : nat 4 < na
  case neg =>
    -- fewer than five valid cells: `out[:] = y[:]; lopt[0] = 0.0`
    simp -zeta only [decide_eq_false h4n, Bool.false_eq_true, ↓reduceIte]
    show (bad1 || lenNe out1.size ya0.size || oob lopt1.size 0) = false
    simp only [hb1, out1, lopt1, ya0, ho, List.size_toArray, lenNe_self, oob_zero hl, Bool.or_false]
  simp -zeta only [decide_eq_true h4n, ↓reduceIte]
  have h4 := hn4.1 h4n
  have B := hB h4
  generalize npWhereSA (npMap (fun e => eqv e (nat 0)) wa) (nat 0) ya0 = ya at B ⊢
  obtain ⟨hpow, hrun, hden⟩ := hfit h4
  have C : RobustCtx G (missG nodata isnan isinf) y (llas.map G.pow10) ya wa dea na ma :=
    ⟨B, h4, List.forall_mem_map.2 hpow, hrun, hden⟩
  have hm0 : decide (ma < 0) = false := by rw [hma]; exact neg_size_false _
  have hmn : ma.toNat = (cleanOf (missG nodata isnan isinf) y).length := by rw [hma, cleanOf_length]; simp
  have hol : oob lopt0.size 0 = false := oob_zero hl
  have h4l : (pyRange 0 4).length = 4 := by rw [pyRange_length]; decide
  generalize hres : Id.run _ = res
  apply Id.of_wp_run_eq hres
  clear hres
  mvcgen -trivial invariants
  · ⇓⟨xs, s⟩ => ⌜OuterS G (missG nodata isnan isinf) y (llas.map G.pow10) xs.prefix.length s.1 s.2.1 s.2.2.1 s.2.2.2.1
      s.2.2.2.2.1 s.2.2.2.2.2.1 s.2.2.2.2.2.2.1 s.2.2.2.2.2.2.2.1 s.2.2.2.2.2.2.2.2.1 s.2.2.2.2.2.2.2.2.2⌝
  · ⇓⟨xs, s⟩ => by
      py_name gcv_temp as gt0; py_name y_temp as yt0; py_name y_temp_set as set0
      py_name r_weights as rw0; py_name unbound as ub0
      exact ⌜SweepSt G (missG nodata isnan isinf) y ub0 rw0 gt0 yt0 set0 xs.prefix s.1 s.2.1 s.2.2.1 s.2.2.2.1
        s.2.2.2.2.1⌝
  · ⇓⟨xs, s⟩ => by
      py_name gcv_temp as gt0; py_name y_temp as yt0; py_name y_temp_set as set0
      py_name r_weights as rw0; py_name unbound as ub0
      exact ⌜SweepSt G (missG nodata isnan isinf) y ub0 rw0 gt0 yt0 set0 xs.prefix s.1 s.2.1 s.2.2.1 s.2.2.2.1
        s.2.2.2.2.1⌝
  -- the last hypothesis of a condition is the invariant of the innermost loop; reducing every hypothesis is slow
  all_goals
    rename_i hlast
    clear_jps
    pyn_ranges
    try dsimp only [id, PostCond.noThrow, SPred.down_pure] at hlast ⊢
  -- one λ of a sweep (under `it > 1` / otherwise); `gcv[0] < gcv_temp[0]` / not
  case vc1 | vc2 | vc10 | vc11 =>
    have hO := ‹OuterS ..›
    have hS := ‹SweepSt ..›
    py_name cur as cu
    obtain ⟨hwsz, hwl, hcall, hsum, hdn, hz, hsc⟩ := sweep_call C (by omega) hO ‹_ = _ ++ cu :: _› (by wcv_lams) rfl
    refine ⟨sweep_flag G _ hS.flag hcall hwsz C.dsz hS.pair hsum hdn, fun hu => ?_, by first | rfl | exact hS.pair⟩
    first
      | exact (hS.ok hu).step_lt (of_decide_eq_true ‹_›) hsc hz hwl
      | exact (hS.ok hu).step_ge (fun h => ‹¬ decide (_ < _) = true› (decide_eq_true h)) hsc hz hwl
  -- entry of the sweep under `it > 1`: `robust_gcv[1][1]` exists
  case vc3 =>
    have hO := ‹OuterS ..›
    obtain ⟨hrg, hrs, -, -⟩ := hO.sizes
    have hit := of_decide_eq_true ‹decide (_ > (1 : ℤ)) = true›
    py_name robust_gcv as rg
    have h1 : 1 < rg.size := by rw [hrg]; omega
    refine hO.sweep_init ?_
    simp +zetaDelta only [hO.flag, oob_one h1, oob_one ((hO.rows _ (rdA_mem_one _ h1)).symm ▸ Nat.one_lt_two), C.wsz, hrs,
      lenNe_self, Bool.or_false]
  -- … otherwise
  case vc12 =>
    have hO := ‹OuterS ..›
    refine hO.sweep_init ?_
    simp +zetaDelta only [hO.flag, C.wsz, hO.sizes.2.1, lenNe_self, Bool.or_false]
  -- entry of the robust loop: `y = np.where(w == 0, 0.0, y)`, `np.zeros(m)`, `np.ones(m)`
  case vc19 =>
    refine ⟨?_, rfl, OuterInv.init G _ _ _ _ true _ ma.toNat hmn _, rfl, by simp⟩
    simp +zetaDelta only [hb1, hm0, size_npMap, C.wsz, List.size_toArray, lenNe_self, Bool.or_false]
  -- `y_temp` unbound after a sweep: excluded by the contract (`grun … 4 … .isSome`)
  case vc4 | vc5 | vc6 | vc13 | vc14 | vc15 =>
    have hO := ‹OuterS ..›
    exact (unset_absurd C hO ‹SweepSt ..› (by wcv_lams) ‹(!_) = true› (by omega)).elim
  -- end of an iteration: the re-weighting block
  case vc7 | vc8 | vc9 | vc16 | vc17 | vc18 =>
    have hO := ‹OuterS ..›
    have hS := ‹SweepSt ..›
    have hinv := hO.inv
    have hsw := hS.ok
    have hyt := (hsw hO.down).ylen (by simpa using ‹¬(!_) = true›)
    refine ⟨?_, hO.down, ?_, hS.pair, rows_push hO.rows hS.pair⟩
    · simp +zetaDelta only [hS.flag, oob_one (hS.pair.symm ▸ Nat.one_lt_two), size_npMap, size_npMap2, size_npMaskSet,
        C.wsz, C.dsz, hyt, hO.sizes.2.1, cleanOf_length, C.ysz, C.sel, C.n_ne, Nat.min_self, lenNe_self, Bool.or_false]
    · wcv_vc_robust
  -- after the loop: `lopt[0] = robust_gcv[1, 1]`, the final fit, `np.round(z, 0, out)`
  case vc20 | vc21 =>
    have hO := ‹OuterS ..›
    rw [h4l] at hO
    obtain ⟨hrg, hr2, hlpos, hrsz, hbase⟩ := robust_exit C hO
    have hcall := SafeWs2d.safe_ws2d_ok _ _ _ (hbase _ hlpos)
    rw [Array.toArray_toList, Array.toArray_toList] at hcall
    simp +zetaDelta only [hO.flag, hrg, hr2, oob_one, Nat.one_lt_two, Nat.one_lt_ofNat, rd_wr_zero _ _ hl,
      size_wr, hol, hcall, SafeOptv.ws2d_call_size, Array.size_map, C.ysz, ho, lenNe_self, Bool.or_false]

/-! ### Non-vacuity and sharpness (ℚ; `Gq`, `Gr`, `cosq` of Hdc/Props/GenNumWcv.lean: toy `sqrt`, `10 ** l = l + 1`,
`cos x = 1 - x²/2`, `π = 3`, `big = 10⁶`; with `Gr` the robust loop does re-weight)

The kernel of Lean cannot evaluate `np.median` (the model's `median` sorts with `List.mergeSort`, well-founded recursion), so
instances that run the re-weighting block cannot be closed by `decide`; they were evaluated with `#eval` (compiled code, NOT a
proof; `fl G cos y llas out lopt` = the flag with `robust = True`, `nodata = -1`, `isnan = isinf = false`, `π = 3`):
  * `fl Gr cosq #[-1,1,5,2,8,3,4] #[0,1] (7 zeros) #[9] = false`, the contract holds (chain defined for k ≤ 4, the three
    denominators conditions true), fractional weights occur (`r_weights = [1, 5684…/2118…, 1, 0, 1, 0, 1643…/2118…]`);
  * `10 ** l = 0` (`{Gr with pow10 := fun _ => 0}`): flag true (`ws2d` divides by zero at the missing first cell);
  * no score below `big` (`{Gr with big := 0}`, or the empty grid `llas = #[]`): flag true (`y - y_temp` with `y_temp = []`);
  * `gamma.sum() = w_temp.sum()` (`{Gr with eig0 := 0}`, `cos = 1`: every eigenvalue 0): flag true (`wsse / denominator`);
  * `hG`: `Gx = {Gr with eig := fun _ _ => -1, eig0 := 0}` and `cos = 1`: the contract holds for `Gx` (model eigenvalues
    `[0, -1, …]`, chain defined, all denominators non-zero) but the program computes `d_eigs = 0` and its flag is true.
Proved instances: an affine series (the MAD is 0, the weights stay 1) for the whole theorem, and the three buffer hypotheses. -/

private def flr (G : GFns ℚ) (cos : ℚ → ℚ) (y llas out lopt : Array ℚ) : Bool :=
  (Gen.Safe.ws2dwcv G cos (fun _ => false) (fun _ => false) (fun v => v) 3 y (-1) llas true out lopt).2

/-- an instance of the contract with more than four valid cells: an affine series (all residuals 0, the MAD is 0, the robust weights
    stay 1; the chain is `grun_perfect`, the denominators are checked at the two grid values) -/
example : flr Gq cosq #[1, 2, 3, 4, 5, 6] #[0, 1] #[0, 0, 0, 0, 0, 0] #[9] = false := by
  refine safe_ws2dwcv_robust_ok Gq cosq _ _ _ 3 [1, 2, 3, 4, 5, 6] [0, 1] (-1) _ _ hGq
    ⟨by decide, by decide, by decide, fun h4 => ?_⟩
  have hpow : ∀ l ∈ [(0 : ℚ), 1], 0 < Gq.pow10 l := by decide +kernel
  have hmt : (0 : ℚ) ≤ Gq.madtol := by decide +kernel
  have hline : ∀ i (hi : i < [(1 : ℚ), 2, 3, 4, 5, 6].length),
      missG (-1) (fun _ => false) (fun _ => false) [(1 : ℚ), 2, 3, 4, 5, 6][i] = false →
      [(1 : ℚ), 2, 3, 4, 5, 6][i] = 1 + 1 * (i : ℚ) := by
    intro i hi _
    simp only [List.length_cons, List.length_nil] at hi
    interval_cases i <;> norm_num
  have hres := C05.perfect_of_line _ _ 1 1 hline
  have hfit : ∀ s ∈ [(0 : ℚ), 1].map Gq.pow10,
      ws2d (cleanOf (missG (-1) (fun _ => false) (fun _ => false)) [(1 : ℚ), 2, 3, 4, 5, 6]) s
        (weightsOf (missG (-1) (fun _ => false) (fun _ => false)) [(1 : ℚ), 2, 3, 4, 5, 6]) = lineList 1 1 6 := by
    intro s hs
    obtain ⟨l, hl, rfl⟩ := List.mem_map.1 hs
    exact C05.fit_of_line _ _ 1 1 h4 hline _ (hpow l hl)
  refine ⟨hpow, ?_, ?_⟩
  · have := grun_perfect Gq hmt hres rfl (by simp) (deigs Gq 6) (Gq.pow10 0) ([1].map Gq.pow10) hfit
      (sumF (weightsOf (missG (-1) (fun _ => false) (fun _ => false)) [(1 : ℚ), 2, 3, 4, 5, 6])) (by decide +kernel)
    exact Option.isSome_iff_exists.2 ⟨_, this⟩
  · intro k hk st hst s hs
    have hI := grun_rinv Gq (deigs Gq 6) ([(0 : ℚ), 1].map Gq.pow10) _ (by simp) k 0 _ st (rinv_gstate0 Gq _ _) hst
    have hP := grun_perfInv Gq hmt hres (by simp) (deigs Gq 6) _ hfit _ k 0 _ st (rinv_gstate0 Gq _ _)
      (perfInv_gstate0 Gq _ _) hst
    rw [hP.1, mul2_ones' _ _ (by simp)]
    have hs' := iterLams_subset _ k st.2.2 hI.2.2.2 s hs
    simp only [List.map_cons, List.map_nil, List.mem_cons, List.not_mem_nil, or_false] at hs'
    rcases hs' with rfl | rfl <;> decide +kernel
/-- four valid cells (pass-through): only `ylen`, `out`, `lopt` matter -/
example : flr Gq cosq #[1, 5, -1, -1, 8, 3, -1] #[] #[0, 0, 0, 0, 0, 0, 0] #[9] = false :=
  safe_ws2dwcv_robust_ok Gq cosq _ _ _ 3 [1, 5, -1, -1, 8, 3, -1] [] (-1) _ _ hGq
    ⟨by decide, by decide, by decide, fun h => absurd h (by decide +kernel)⟩
/-- `ylen`: no cell at all, `d_eigs[0]` is out of range (NumPy: IndexError) -/
example : flr Gq cosq #[] #[0, 1] #[] #[9] = true := by decide +kernel
/-- `out`: a buffer of another length (`out[:] = y[:]`) -/
example : flr Gq cosq #[1, 5, -1, -1, 8, 3, -1] #[0, 1] #[] #[9] = true := by decide +kernel
/-- `lopt`: an empty buffer (`lopt[0] = 0.0`) -/
example : flr Gq cosq #[1, 5, -1, -1, 8, 3, -1] #[0, 1] #[0, 0, 0, 0, 0, 0, 0] #[] = true := by decide +kernel

end Hdc.GenNum
