import Hdc.Gen.SafeWs2dwcvp
import Hdc.Props.SafeWs2dwcv
import Hdc.Props.SafeWs2dwcvOk
import Hdc.Lemmas.SafeOkP
import Std.Tactic.Do
/-
SafeWs2dwcvpOk  Under its contract the flag of the instrumented `ws2dwcvp` (Hdc/Gen/SafeWs2dwcvp.lean, generated from
hdc/algo/ops/ws2dwcvp.py::ws2dwcvp) stays down, for BOTH values of `robust`: no subscript out of range, no slice out of bounds,
no shape mismatch, no `np.max` / `np.min` of an empty array, no scalar division by zero, no flag of the instrumented `ws2d`
 in the robust loop, the λ sweeps, the re-weighting block, the asymmetric loop `for _ in range(10)` (with its `break`) and the final fit.

  safe_ws2dwcvp_plain_ok    `robust = False`   under `SafeWs2dwcv.Contract` (the contract of ws2dwcv(robust=False)) and `0 < p < 1`
  safe_ws2dwcvp_robust_ok   `robust = True`    under `RobustContract` (the contract of ws2dwcv(robust=True), on the model's chain
                                               `Hdc.Smooth.grun`), `hG`, and `0 < p < 1`
  safe_ws2dwcvp_ok          both, the contract chosen by `robust`

The λ selection of ws2dwcvp is, statement for statement, the one of ws2dwcv (the two generated programs differ only in the
declarations of `ww`, `znew`, `wa` and in what follows `lopt[0] = …`), so the contracts of Hdc/Props/SafeWs2dwcv.lean (robust = False:
stated on the NumPy expressions `wOf`, `yOf`, `dOf`, `trOf`, `scoreOf` of the source) and Hdc/Props/SafeWs2dwcvOk.lean (robust = True:
path-dependent, stated on the states of the hand model) are reused unchanged, and so are the tactic macros for the conditions of
that part.  New here: `p`.
  * `0 < p < 1` is needed only when more than four cells are valid (otherwise the early return `out[:] = y[:]; lopt[0] = 0.0`: covered);
    with `p ∈ {0, 1}` a pass can give every cell the weight 0, with `p ∉ [0, 1]` a negative weight: `example`s below.
  * What follows WITHOUT hypothesis: the sizes of `z`, `znew`, `wa`, `ww`; `m = len(y)` so that the three slices `[0:m]` are full;
    `lopt[0]` is the positive grid value selected before; `robust_weights` (`= w`, resp. `w * r_weights` with two positive cells,
    by the guard `np.sum((w * r_new) > 0) > 1`) times `wa ∈ {p, 1 - p}` is inside the contract of `ws2d` (Hdc/Lemmas/SafeOkP.lean); the
    loop runs at least one pass (`range(10)`), so `ww` of the final fit is such a product (NOT the initial `ww = []`).
Invariant of the loop `for _ in range(10)`, state `(bad, unbound, ww, z, znew, wa)`: the flag is false, `z`, `znew`, `wa` have the length
of the series, and after the first pass `ww` is inside the contract of `ws2d` for every positive λ.
Method: as in Hdc/Props/SafeWs2dwcv.lean (`robust = False`) and Hdc/Props/SafeWs2dwcvOk.lean (`robust = True`): the facts about `w`, `n`,
`d_eigs` are proved once in front of `mvcgen`; four invariants (robust loop; the sweep under `it > 1`; the grid sweep; the ten passes).
-/
namespace Hdc.SafeWs2dwcvp
open Hdc Hdc.Gen.NumKernels Hdc.PyNpW Hdc.GenNum Hdc.SafeL Hdc.SafeWcv Hdc.SafeSimN Hdc.SafeOkP Std.Do

set_option mvcgen.warning false
set_option linter.unusedSimpArgs false
set_option linter.unusedTactic false
set_option linter.unreachableTactic false
set_option linter.unusedVariables false
set_option linter.unusedSectionVars false

variable {α : Type} [Field α] [LinearOrder α] [IsStrictOrderedRing α]

/-- `robust = False`: under the contract of `ws2dwcv(robust=False)` (`SafeWs2dwcv.Contract`: `len y ≥ 1`, the buffers `out`, `lopt` of
    the gufunc signature `(n),(),(),(m),() -> (n),()`, and — only with more than four valid cells — every `10 ** l` positive,
    `gamma.sum() ≠ w.sum()` on the grid, some score below `1e15`) and `0 < p < 1` (same proviso) the flag is false -/
theorem safe_ws2dwcvp_plain_ok (G : GFns α) (cos : α → α) (isnan isinf : α → Bool) (rnd : α → α) (pi : α)
    (y llas : List α) (nodata p : α) (out0 lopt0 : Array α)
    (hc : SafeWs2dwcv.Contract G cos isnan isinf pi y llas nodata out0 lopt0)
    (hp : 4 < countValid (missG nodata isnan isinf) y → 0 < p ∧ p < 1) :
    (Gen.Safe.ws2dwcvp G cos isnan isinf rnd pi y.toArray nodata p llas.toArray false out0 lopt0).2 = false := by
  obtain ⟨hy1, ho, hl, hfit⟩ := hc
  unfold Gen.Safe.ws2dwcvp
  simp -zeta only [Bool.not_false, Bool.false_eq_true, ↓reduceIte]
  -- the statements in front of the guard `n > 4`, once for all conditions: `w`, `d_eigs` are `wOf`, `dOf`
  extract_lets +onlyGivenNames -merge bad0 ya0 out1 lopt1 ub0 yt0 yts0 rwts0 rwset0 ma wa na de0 bad1 dea
  have hma : ma = (y.length : ℤ) := by simp only [ma, ya0, List.size_toArray]
  have hwe : wa = wOf nodata isnan isinf y.toArray := rfl
  have hde : dea = dOf G cos pi (y.length : ℤ) := rfl
  have hb1 : bad1 = false := by
    simp only [bad1, bad0, de0, ma, ya0, size_npMap, size_npArange, List.size_toArray, Int.toNat_natCast,
      Bool.false_or]
    exact oob_zero hy1
  have hol : oob lopt0.size 0 = false := oob_zero hl
  clear_value wa dea ma bad1
  subst hwe hde
  have hWs := size_wOf' nodata isnan isinf y
  have hDs := size_dOf' G cos pi y.length
  have hYs : (npWhereSA (npMap (fun e => eqv e (nat 0)) (wOf nodata isnan isinf y.toArray)) (nat 0) y.toArray).size
      = y.length := size_yOf' nodata isnan isinf y
  by_cases h4 : 4 < countValid (missG nodata isnan isinf) y
  case neg =>
    -- fewer than five valid cells: `out[:] = y[:]; lopt[0] = 0.0`
    simp -zeta only [decide_eq_false (show ¬ nat 4 < na from mt (four_lt_arr nodata isnan isinf y).1 h4), Bool.false_eq_true,
      ↓reduceIte]
    show (bad1 || lenNe out1.size ya0.size || oob lopt1.size 0) = false
    simp only [hb1, out1, lopt1, ya0, ho, List.size_toArray, lenNe_self, hol, Bool.or_false]
  simp -zeta only [decide_eq_true (show nat 4 < na from (four_lt_arr nodata isnan isinf y).2 h4), ↓reduceIte]
  obtain ⟨hpow, hden, hbig⟩ := hfit h4
  obtain ⟨hp0, hp1⟩ := hp h4
  have h5 : 5 ≤ y.length := le_trans h4 (Smooth.countValid_le_length _ y)
  have hS : npSum (wOf nodata isnan isinf y.toArray) ≠ 0 := by
    rw [npSum_wOf]; exact Nat.cast_ne_zero.2 (by omega)
  -- the validity weights are inside the contract of `ws2d` for every positive λ (`omega` here, not under the conditions)
  have hbase := fun lam hlam => base_contract nodata isnan isinf y _ lam hYs (by omega) hlam (by omega)
  have hcall := fun lam hlam => call_ok nodata isnan isinf y _ lam hYs (by omega) hlam (by omega)
  have hm0 : decide (ma < 0) = false := by rw [hma]; exact neg_size_false _
  have hmn : ma.toNat = y.length := by rw [hma]; exact Int.toNat_natCast _
  generalize hres : Id.run _ = res
  apply Id.of_wp_run_eq hres
  clear hres
  mvcgen -trivial invariants
  -- `for it in range(1)`, state `(bad, unbound, y_temp, y_temp_set, robust_weights, robust_weights_set, z, r_weights, robust_gcv, gcv_temp)`
  · ⇓⟨xs, s⟩ => ⌜s.1 = false ∧ s.2.2.2.2.2.2.1.size = y.length ∧ s.2.2.2.2.2.2.2.1 = Array.replicate y.length (nat 1) ∧
      (xs.prefix.length = 0 → s.2.2.2.2.2.2.2.2.1 = #[] ∧ s.2.2.2.2.2.2.2.2.2 = #[G.big, nat 0]) ∧
      (xs.prefix.length ≠ 0 → ∃ g, s.2.2.2.2.2.2.2.2.1 = #[g] ∧ g.size = 2 ∧ 0 < rd g 1 ∧
        s.2.2.2.2.1 = wOf nodata isnan isinf y.toArray)⌝
  -- the sweep under `it > 1`: not reached with `r_its = 1`
  · ⇓⟨xs, s⟩ => ⌜True⌝
  -- `for s in lambda_range`, state `(bad, y_temp, y_temp_set, z, gcv_temp, s, gamma)`
  · ⇓⟨xs, s⟩ => ⌜s.1 = false ∧ s.2.2.2.1.size = y.length ∧
      SweepS G.big (scoreOf G (yOf (wOf nodata isnan isinf y.toArray) y.toArray)
      (wOf nodata isnan isinf y.toArray) (dOf G cos pi y.length)) xs.prefix s.2.2.2.2.1⌝
  -- `for _ in range(10)`, state `(bad, unbound, ww, z, znew, wa)`
  · ⇓⟨xs, s⟩ => ⌜s.1 = false ∧ s.2.2.2.1.size = y.length ∧ s.2.2.2.2.1.size = y.length ∧ s.2.2.2.2.2.size = y.length ∧
      (xs.prefix.length = 0 ∨ ∀ lam : α, 0 < lam →
        SafeWs2d.Contract (yOf (wOf nodata isnan isinf y.toArray) y.toArray).toList s.2.2.1.toList lam)⌝
  -- the last hypothesis of a condition is the invariant of the innermost loop; reducing every hypothesis is slow
  all_goals
    rename_i hlast
    clear_jps
    pyn_ranges
    try dsimp only [id, PostCond.noThrow, SPred.down_pure] at hlast ⊢
  -- the sweep under `it > 1` is not reached (`r_its = 1`)
  case vc4 => exact absurd (of_decide_eq_true ‹decide (_ > (1 : ℤ)) = true›) (by omega)
  -- one grid point `s = 10 ** l`; `w_temp = w * np.ones(m) = w`
  case vc5 | vc6 =>
    obtain ⟨hrb, -, hrw, -, -⟩ := ‹_ ∧ _ ∧ _ = Array.replicate _ _ ∧ _ ∧ _›
    obtain ⟨hb, -, hSw⟩ := ‹_ ∧ _ ∧ SweepS _ _ _ _›
    py_name cur as cu
    py_name w_temp as wt
    obtain ⟨l, hlm, rfl⟩ := mem_grid ‹_ = _ ++ cu :: _›
    have hwt : wt = wOf nodata isnan isinf y.toArray :=
      (congrArg (npMap2 (fun a b => a * b) (wOf nodata isnan isinf y.toArray)) hrw).trans (mul_ones _ _ hWs.symm)
    clear_value wt
    subst hwt
    refine ⟨sweep_flag G _ hb (hcall _ (hpow l hlm))
      (hWs.trans hYs.symm) (hDs.trans hYs.symm) hSw.size hS (hden l hlm),
      (SafeOptv.ws2d_call_size _ _ _).trans hYs, ?_⟩
    first
      | exact hSw.step_lt _ _ (hpow l hlm)
      | exact hSw.step_ge ‹¬ decide _ = true› (scoreOf_eq G _ _ _ _)
  -- entry of the sweep: `gcv_temp = [big, 0]`
  case vc7 =>
    obtain ⟨hrb, hz, hrw, hi0, -⟩ := ‹_ ∧ _ ∧ _ = Array.replicate _ _ ∧ _ ∧ _›
    obtain ⟨-, hgt⟩ := hi0 (by omega)
    refine ⟨?_, hz, SweepS.init _ _ hgt⟩
    simp +zetaDelta only [hrb, hrw, hWs, Array.size_replicate, lenNe_self, Bool.or_false]
  -- end of the sweep: some score was below `big`, so `best_gcv[1] > 0`
  case vc8 =>
    obtain ⟨hrb, -, hrw, hi0, -⟩ := ‹_ ∧ _ ∧ _ = Array.replicate _ _ ∧ _ ∧ _›
    obtain ⟨hb, hz, hSw⟩ := ‹_ ∧ _ ∧ SweepS _ _ _ _›
    obtain ⟨hrg, -⟩ := hi0 (by omega)
    have hpos := hSw.pos (by
      obtain ⟨l, hl, hlt⟩ := hbig
      exact ⟨G.pow10 l, by simp only [toList_npMap, List.toList_toArray]; exact List.mem_map_of_mem hl, hlt⟩)
    refine ⟨?_, hz, hrw, fun h => absurd h (by simp),
      fun _ => ⟨_, by simp +zetaDelta only [hrg, push_empty], hSw.size, hpos, ?_⟩⟩
    · simp +zetaDelta only [hb, hSw.size, oob_one, Nat.one_lt_two, hrw, hWs, Array.size_replicate, lenNe_self,
        Bool.or_false]
    · simp +zetaDelta only [hrw, mul_ones _ _ hWs.symm]
  -- entry of the robust loop
  case vc9 =>
    refine ⟨?_, (Array.size_replicate ..).trans hmn, congrArg (fun k => Array.replicate k (nat 1)) hmn, fun _ => trivial,
      fun h => absurd rfl h⟩
    simp +zetaDelta only [hb1, hm0, size_npMap, hWs, List.size_toArray, lenNe_self, Bool.or_false]
  -- after the robust loop: `lopt[0] = robust_gcv[0, 1] > 0`; entry of the loop `for _ in range(10)`: `z[:] = 0.0`
  case vc14 =>
    obtain ⟨hrb, hz, -, -, hi1⟩ := ‹_ ∧ _ ∧ _ = Array.replicate _ _ ∧ _ ∧ _›
    obtain ⟨g, hrg, hg2, hgpos, hrw⟩ := hi1 (by rw [pyRange_length]; decide)
    refine ⟨?_, ?_, ?_, ?_, Or.inl rfl⟩
    · simp +zetaDelta only [hrb, hrg, rdA_single, hg2, show oob #[g].size 0 = false from rfl, oob_one, Nat.one_lt_two, hol,
        Bool.or_false]
    all_goals simp +zetaDelta only [size_npFill, Array.size_replicate, hz, hmn]
  -- after the ten passes (or `break`): at least one pass, so `ww` is a re-weighting; the final fit, `np.round(z, 0, out)`
  case vc15 =>
    obtain ⟨-, -, -, -, hi1⟩ := ‹_ ∧ _ ∧ _ = Array.replicate _ _ ∧ _ ∧ _›
    obtain ⟨hb, -, -, -, hC⟩ := ‹_ ∧ _ ∧ _ ∧ _ ∧ (_ ∨ _)›
    obtain ⟨g, hrg, hg2, hgpos, hrw⟩ := hi1 (by rw [pyRange_length]; decide)
    have hcall := SafeFixed.ws2d_ok_arr _ _ _ (hC.resolve_left (by rw [pyRange_length]; decide) _ hgpos)
    simp +zetaDelta only [hb, hrg, rdA_single, rd_wr_zero _ _ hl, size_wr, hol, yOf_fold, hcall, SafeOptv.ws2d_call_size,
      Array.size_map, size_yOf', ho, lenNe_self, Bool.or_false]
  -- one of the ten passes (with `break` / without): `envelope`, the two mask stores, `ww = robust_weights * wa`, the fit,
  -- `znew[0:m] = …`, `z[0:m] = znew[0:m]`
  all_goals
    obtain ⟨-, -, -, -, hi1⟩ := ‹_ ∧ _ ∧ _ = Array.replicate _ _ ∧ _ ∧ _›
    obtain ⟨hb, hz, hzn, hwa', -⟩ := ‹_ ∧ _ ∧ _ ∧ _ ∧ (_ ∨ _)›
    obtain ⟨g, hrg, hg2, hgpos, hrw⟩ := hi1 (by rw [pyRange_length]; decide)
    have hzy := hz.trans hYs.symm
    have hway := hwa'.trans hYs.symm
    refine ⟨?_, ?_, ?_, ?_, Or.inr fun lam hlam => ?_⟩
    · simp +zetaDelta only [hb, hrg, hrw, rdA_single, rd_wr_zero _ _ hl, size_wr,
        SafeFixed.ws2d_ok_arr _ _ _ (pass_contract (hbase _ hgpos) p hp0 hp1 _ _ hzy hway), SafeOptv.ws2d_call_size, size_npSetSliceW, size_npSlice_nat,
        size_npMaskSet, size_npMap2, size_npMap, hz, hzn, hwa', hWs, hYs, hma, List.size_toArray, Nat.min_self,
        badSlice_full, sliceLenNe_full, lenNe_self, hol, Bool.or_false]
    · simp +zetaDelta only [size_npSetSliceW, hz]
    · simp +zetaDelta only [size_npSetSliceW, hzn]
    · simp +zetaDelta only [size_npMaskSet, size_npMap2, size_npMap, hwa', hz, hYs, Nat.min_self]
    · simp +zetaDelta only [hrw]
      exact pass_contract (hbase lam hlam) p hp0 hp1 _ _ hzy hway

/-! ### Non-vacuity and sharpness (ℚ; toy `sqrt x = x ** 0.5 = x`, `10 ** l = l + 1`,
`cos x = 1 - x²/2`, `π = 3`, `big = 10⁶`, `eig0 = 1/1000`; `round = id`; `isnan = isinf = false`; `nodata = -1`) -/

private def cosqp (x : ℚ) : ℚ := 1 - x * x / 2
private def Gqp : GFns ℚ :=
  ⟨fun i m => -2 + 2 * cosqp ((i : ℚ) * 3 / (m : ℚ)), 1 / 1000, fun x => x, fun x => x, fun x => x + 1, 1000000, 3 / 2, 5, 1000⟩
private def flp (G : GFns ℚ) (cos : ℚ → ℚ) (y llas : Array ℚ) (p : ℚ) (out lopt : Array ℚ) : Bool :=
  (Gen.Safe.ws2dwcvp G cos (fun _ => false) (fun _ => false) (fun v => v) 3 y (-1) p llas false out lopt).2

/-- an instance of the contract: 7 cells, the first one `nodata`, a grid of 2, the upper envelope `p = 9/10` -/
example : flp Gqp cosqp #[-1, 1, 5, 2, 8, 3, 4] #[0, 1] (9 / 10) #[0, 0, 0, 0, 0, 0, 0] #[9] = false :=
  safe_ws2dwcvp_plain_ok Gqp cosqp _ _ _ 3 [-1, 1, 5, 2, 8, 3, 4] [0, 1] (-1) (9 / 10) _ _
    ⟨by decide, by decide, by decide, fun _ => ⟨by decide +kernel, by decide +kernel, by decide +kernel⟩⟩
    (fun _ => ⟨by decide +kernel, by decide +kernel⟩)
/-- four valid cells (the early return `out[:] = y[:]; lopt[0] = 0`): only `ylen`, `out`, `lopt` matter, `p` is arbitrary -/
example : flp Gqp cosqp #[1, 5, -1, -1, 8, 3, -1] #[] 7 #[0, 0, 0, 0, 0, 0, 0] #[9] = false :=
  safe_ws2dwcvp_plain_ok Gqp cosqp _ _ _ 3 [1, 5, -1, -1, 8, 3, -1] [] (-1) 7 _ _
    ⟨by decide, by decide, by decide, fun h => absurd h (by decide +kernel)⟩ (fun h => absurd h (by decide +kernel))
/-- `ylen`: no cell at all, `d_eigs[0]` is out of range (NumPy: IndexError) -/
example : flp Gqp cosqp #[] #[0, 1] (9 / 10) #[] #[9] = true := by decide +kernel
/-- `out`: a buffer of another length (`np.round(z, 0, out)` / `out[:] = y[:]`), on both branches -/
example : flp Gqp cosqp #[-1, 1, 5, 2, 8, 3, 4] #[0, 1] (9 / 10) #[0, 0] #[9] = true := by decide +kernel
example : flp Gqp cosqp #[1, 5, -1, -1, 8, 3, -1] #[0, 1] (9 / 10) #[] #[9] = true := by decide +kernel
/-- `lopt`: an empty buffer (`lopt[0]`), on both branches -/
example : flp Gqp cosqp #[-1, 1, 5, 2, 8, 3, 4] #[0, 1] (9 / 10) #[0, 0, 0, 0, 0, 0, 0] #[] = true := by decide +kernel
example : flp Gqp cosqp #[1, 5, -1, -1, 8, 3, -1] #[0, 1] (9 / 10) #[0, 0, 0, 0, 0, 0, 0] #[] = true := by decide +kernel
/-- `0 < 10 ** l`: with `10 ** l = 0` the smoother is called with `λ = 0` and divides by zero at the missing first cell -/
example : flp { Gqp with pow10 := fun _ => 0 } cosqp #[-1, 1, 5, 2, 8, 3, 4] #[0, 1] (9 / 10) #[0, 0, 0, 0, 0, 0, 0] #[9] = true := by
  decide +kernel
/-- `gamma.sum() ≠ w.sum()`: `cos = 1`, `eig0 = 0`: every eigenvalue is 0, `denominator = 0` -/
example : flp { Gqp with eig0 := 0 } (fun _ => 1) #[-1, 1, 5, 2, 8, 3, 4] #[0, 1] (9 / 10) #[0, 0, 0, 0, 0, 0, 0] #[9] = true := by
  decide +kernel
/-- "some score is below `big`": an empty grid leaves `lopt[0] = 0`, every `ws2d(y, 0, ww)` of the ten passes divides by zero at
    the missing first cell; the same with `big = 0` -/
example : flp Gqp cosqp #[-1, 1, 5, 2, 8, 3, 4] #[] (9 / 10) #[0, 0, 0, 0, 0, 0, 0] #[9] = true := by decide +kernel
example : flp { Gqp with big := 0 } cosqp #[-1, 1, 5, 2, 8, 3, 4] #[0, 1] (9 / 10) #[0, 0, 0, 0, 0, 0, 0] #[9] = true := by decide +kernel
/-- `0 < p`: `p = 0` and data above the zero curve: every weight of the first pass is 0; `p = -1`: negative weights -/
example : flp Gqp cosqp #[1, 5, 2, 8, 3, 4] #[0, 1] 0 #[0, 0, 0, 0, 0, 0] #[9] = true := by decide +kernel
/-- `p < 1`: `p = 1` and data below the zero curve: every weight `1 - p` of the first pass is 0 -/
example : flp Gqp cosqp #[-2, -5, -3, -8, -3, -4] #[0, 1] 1 #[0, 0, 0, 0, 0, 0] #[9] = true := by decide +kernel

end Hdc.SafeWs2dwcvp

namespace Hdc.GenNum
open Hdc Hdc.C01 Hdc.Gen.NumKernels Hdc.PyNpW Hdc.Smooth Hdc.SafeL Hdc.SafeWcv Hdc.SafeOk Hdc.SafeOkP Std.Do

set_option mvcgen.warning false
set_option linter.unusedSimpArgs false
set_option linter.unusedTactic false
set_option linter.unreachableTactic false
set_option linter.unusedVariables false
set_option linter.unusedSectionVars false

variable {α : Type} [Field α] [LinearOrder α] [IsStrictOrderedRing α]

/-- `robust = True`: under `RobustContract` (Hdc/Props/SafeWs2dwcvOk.lean: the buffers; with more than four valid cells every
    `10 ** l` positive, the model's chain of four iterations defined, `gamma.sum() ≠ w_temp.sum()` for every λ swept in every
    iteration) and `0 < p < 1` the flag is false.  `hG` ties the eigenvalue table of the model to the expression of the source. -/
theorem safe_ws2dwcvp_robust_ok (G : GFns α) (cos : α → α) (isnan isinf : α → Bool) (rnd : α → α) (pi : α)
    (y llas : List α) (nodata p : α) (out0 lopt0 : Array α)
    (hG : ∀ i m : ℕ, G.eig i m = -2 + 2 * cos ((i : α) * pi / (m : α)))
    (hc : RobustContract G isnan isinf y llas nodata out0 lopt0)
    (hp : 4 < countValid (missG nodata isnan isinf) y → 0 < p ∧ p < 1) :
    (Gen.Safe.ws2dwcvp G cos isnan isinf rnd pi y.toArray nodata p llas.toArray true out0 lopt0).2 = false := by
  obtain ⟨hy1, ho, hl, hfit⟩ := hc
  unfold Gen.Safe.ws2dwcvp
  simp -zeta only [Bool.not_true, Bool.false_eq_true, ↓reduceIte]
  -- the statements in front of the guard `n > 4`, once for all conditions
  extract_lets +onlyGivenNames -merge bad0 ya0 out1 lopt1 ub0 yt0 yts0 rwts0 rwset0 ma wa na de0 bad1 dea
  have hma : ma = (y.length : ℤ) := by simp only [ma, ya0, List.size_toArray]
  have hn4 : (nat 4 : α) < na ↔ 4 < countValid (missG nodata isnan isinf) y := four_lt_arr nodata isnan isinf y
  have hB : 4 < countValid (missG nodata isnan isinf) y →
      Bound _ _ _ _ (npWhereSA (npMap (fun e => eqv e (nat 0)) wa) (nat 0) ya0) wa dea na ma :=
    Bound.head G cos pi hG nodata isnan isinf y
  have hb1 : bad1 = false := by
    simp only [bad1, bad0, de0, ma, ya0, size_npMap, size_npArange, List.size_toArray, Int.toNat_natCast,
      Bool.false_or]
    exact oob_false _ _ (by omega)
  clear_value wa dea na ma bad1
  by_cases h4n : nat 4 < na
  case neg =>
    -- fewer than five valid cells: `out[:] = y[:]; lopt[0] = 0.0`
    simp -zeta only [decide_eq_false h4n, Bool.false_eq_true, ↓reduceIte]
    show (bad1 || lenNe out1.size ya0.size || oob lopt1.size 0) = false
    simp only [hb1, out1, lopt1, ya0, ho, List.size_toArray, lenNe_self, oob_zero hl, Bool.or_false]
  simp -zeta only [decide_eq_true h4n, ↓reduceIte]
  have h4 := hn4.1 h4n
  have B := hB h4
  generalize npWhereSA (npMap (fun e => eqv e (nat 0)) wa) (nat 0) ya0 = ya at B ⊢
  obtain ⟨hpow, hrun, hden⟩ := hfit h4
  obtain ⟨hp0, hp1⟩ := hp h4
  have C : RobustCtx G (missG nodata isnan isinf) y (llas.map G.pow10) ya wa dea na ma :=
    ⟨B, h4, List.forall_mem_map.2 hpow, hrun, hden⟩
  have hm0 : decide (ma < 0) = false := by rw [hma]; exact neg_size_false _
  have hmn : ma.toNat = (cleanOf (missG nodata isnan isinf) y).length := by rw [hma, cleanOf_length]; simp
  have hol : oob lopt0.size 0 = false := oob_zero hl
  have h4l : (pyRange 0 4).length = 4 := by rw [pyRange_length]; decide
  generalize hres : Id.run _ = res
  apply Id.of_wp_run_eq hres
  clear hres
  mvcgen -trivial invariants
  · ⇓⟨xs, s⟩ => ⌜OuterS G (missG nodata isnan isinf) y (llas.map G.pow10) xs.prefix.length s.1 s.2.1 s.2.2.1 s.2.2.2.1
      s.2.2.2.2.1 s.2.2.2.2.2.1 s.2.2.2.2.2.2.1 s.2.2.2.2.2.2.2.1 s.2.2.2.2.2.2.2.2.1 s.2.2.2.2.2.2.2.2.2⌝
  · ⇓⟨xs, s⟩ => by
      py_name gcv_temp as gt0; py_name y_temp as yt0; py_name y_temp_set as set0
      py_name r_weights as rw0; py_name unbound as ub0
      exact ⌜SweepSt G (missG nodata isnan isinf) y ub0 rw0 gt0 yt0 set0 xs.prefix s.1 s.2.1 s.2.2.1 s.2.2.2.1
        s.2.2.2.2.1⌝
  · ⇓⟨xs, s⟩ => by
      py_name gcv_temp as gt0; py_name y_temp as yt0; py_name y_temp_set as set0
      py_name r_weights as rw0; py_name unbound as ub0
      exact ⌜SweepSt G (missG nodata isnan isinf) y ub0 rw0 gt0 yt0 set0 xs.prefix s.1 s.2.1 s.2.2.1 s.2.2.2.1
        s.2.2.2.2.1⌝
  -- `for _ in range(10)`, state `(bad, unbound, ww, z, znew, wa)`
  · ⇓⟨xs, s⟩ => ⌜s.1 = false ∧ s.2.2.2.1.size = y.length ∧ s.2.2.2.2.1.size = y.length ∧ s.2.2.2.2.2.size = y.length ∧
      (xs.prefix.length = 0 ∨ ∀ lam : α, 0 < lam →
        SafeWs2d.Contract (cleanOf (missG nodata isnan isinf) y) s.2.2.1.toList lam)⌝
  -- the last hypothesis of a condition is the invariant of the innermost loop; reducing every hypothesis is slow
  all_goals
    rename_i hlast
    clear_jps
    pyn_ranges
    try dsimp only [id, PostCond.noThrow, SPred.down_pure] at hlast ⊢
  -- one λ of a sweep (under `it > 1` / otherwise); `gcv[0] < gcv_temp[0]` / not
  case vc1 | vc2 | vc10 | vc11 =>
    have hO := ‹OuterS ..›
    have hS := ‹SweepSt ..›
    py_name cur as cu
    obtain ⟨hwsz, hwl, hcall, hsum, hdn, hz, hsc⟩ := sweep_call C (by omega) hO ‹_ = _ ++ cu :: _› (by wcv_lams) rfl
    refine ⟨sweep_flag G _ hS.flag hcall hwsz C.dsz hS.pair hsum hdn, fun hu => ?_, by first | rfl | exact hS.pair⟩
    first
      | exact (hS.ok hu).step_lt (of_decide_eq_true ‹_›) hsc hz hwl
      | exact (hS.ok hu).step_ge (fun h => ‹¬ decide (_ < _) = true› (decide_eq_true h)) hsc hz hwl
  -- entry of the sweep under `it > 1`: `robust_gcv[1][1]` exists
  case vc3 =>
    have hO := ‹OuterS ..›
    obtain ⟨hrg, hrs, -, -⟩ := hO.sizes
    have hit := of_decide_eq_true ‹decide (_ > (1 : ℤ)) = true›
    py_name robust_gcv as rg
    have h1 : 1 < rg.size := by rw [hrg]; omega
    refine hO.sweep_init ?_
    simp +zetaDelta only [hO.flag, oob_one h1, oob_one ((hO.rows _ (rdA_mem_one _ h1)).symm ▸ Nat.one_lt_two), C.wsz, hrs,
      lenNe_self, Bool.or_false]
  -- … otherwise
  case vc12 =>
    have hO := ‹OuterS ..›
    refine hO.sweep_init ?_
    simp +zetaDelta only [hO.flag, C.wsz, hO.sizes.2.1, lenNe_self, Bool.or_false]
  -- entry of the robust loop: `y = np.where(w == 0, 0.0, y)`, `np.zeros(m)`, `np.ones(m)`
  case vc19 =>
    refine ⟨?_, rfl, OuterInv.init G _ _ _ _ true _ ma.toNat hmn _, rfl, by simp⟩
    simp +zetaDelta only [hb1, hm0, size_npMap, C.wsz, List.size_toArray, lenNe_self, Bool.or_false]
  -- `y_temp` unbound after a sweep: excluded by the contract (`grun … 4 … .isSome`)
  case vc4 | vc5 | vc6 | vc13 | vc14 | vc15 =>
    have hO := ‹OuterS ..›
    exact (unset_absurd C hO ‹SweepSt ..› (by wcv_lams) ‹(!_) = true› (by omega)).elim
  -- end of an iteration: the re-weighting block
  case vc7 | vc8 | vc9 | vc16 | vc17 | vc18 =>
    have hO := ‹OuterS ..›
    have hS := ‹SweepSt ..›
    have hinv := hO.inv
    have hsw := hS.ok
    have hyt := (hsw hO.down).ylen (by simpa using ‹¬(!_) = true›)
    refine ⟨?_, hO.down, ?_, hS.pair, rows_push hO.rows hS.pair⟩
    · simp +zetaDelta only [hS.flag, oob_one (hS.pair.symm ▸ Nat.one_lt_two), size_npMap, size_npMap2, size_npMaskSet,
        C.wsz, C.dsz, hyt, hO.sizes.2.1, cleanOf_length, C.ysz, C.sel, C.n_ne, Nat.min_self, lenNe_self, Bool.or_false]
    · wcv_vc_robust
  -- after the robust loop: `lopt[0] = robust_gcv[1, 1]`; entry of the loop `for _ in range(10)`: `z[:] = 0.0`
  case vc24 =>
    have hO := ‹OuterS ..›
    rw [h4l] at hO
    obtain ⟨hrg, hr2, -⟩ := robust_exit C hO
    refine ⟨?_, ?_, ?_, ?_, Or.inl rfl⟩
    · simp +zetaDelta only [hO.flag, hrg, hr2, oob_one, Nat.one_lt_two, Nat.one_lt_ofNat, hol, Bool.or_false]
    all_goals simp +zetaDelta only [size_npFill, Array.size_replicate, hO.sizes.2.2.1, hmn, cleanOf_length]
  -- after the ten passes (or `break`): at least one pass, so `ww` is a re-weighting; the final fit, `np.round(z, 0, out)`
  case vc25 =>
    have hO := ‹OuterS ..›
    obtain ⟨hb, -, -, -, hC⟩ := ‹_ ∧ _ ∧ _ ∧ _ ∧ (_ ∨ _)›
    rw [h4l] at hO
    obtain ⟨-, -, hlpos, -, -⟩ := robust_exit C hO
    rw [← C.bound.ya] at hC
    have hcall := SafeFixed.ws2d_ok_arr ya _ _ (hC.resolve_left (by rw [pyRange_length]; decide) _ hlpos)
    simp +zetaDelta only [hb, rd_wr_zero _ _ hl, size_wr, hol, hcall, SafeOptv.ws2d_call_size, Array.size_map, C.ysz, ho,
      lenNe_self, Bool.or_false]
  -- one of the ten passes (with `break` / without; `robust_weights` is bound after four iterations): `envelope`, the two mask
  -- stores, `ww = robust_weights * wa`, the fit, `znew[0:m] = …`, `z[0:m] = znew[0:m]`
  all_goals
    have hO := ‹OuterS ..›
    obtain ⟨hb, hz, hzn, hwa', -⟩ := ‹_ ∧ _ ∧ _ ∧ _ ∧ (_ ∨ _)›
    rw [h4l] at hO
    obtain ⟨-, -, hlpos, hrsz, hbase⟩ := robust_exit C hO
    have hzy := hz.trans C.ysz.symm
    have hway := hwa'.trans C.ysz.symm
    refine ⟨?_, ?_, ?_, ?_, Or.inr fun lam hlam => ?_⟩
    · simp +zetaDelta only [hb, rd_wr_zero _ _ hl, size_wr, SafeFixed.ws2d_ok_arr _ _ _ (pass_contract (hbase _ hlpos) p hp0 hp1 _ _ hzy hway),
        SafeOptv.ws2d_call_size, size_npSetSliceW, size_npSlice_nat, size_npMaskSet, size_npMap2, size_npMap, hz, hzn, hwa',
        hrsz, C.ysz, hma, Nat.min_self, badSlice_full, sliceLenNe_full, lenNe_self, hol, Bool.or_false]
    · simp +zetaDelta only [size_npSetSliceW, hz]
    · simp +zetaDelta only [size_npSetSliceW, hzn]
    · simp +zetaDelta only [size_npMaskSet, size_npMap2, size_npMap, hwa', hz, C.ysz, Nat.min_self]
    · rw [← C.bound.ya]
      exact pass_contract (hbase lam hlam) p hp0 hp1 _ _ hzy hway

/-- both values of `robust`; the contract is the one of `ws2dwcv` for that value, plus `0 < p < 1` when more than four cells are valid -/
theorem safe_ws2dwcvp_ok (G : GFns α) (cos : α → α) (isnan isinf : α → Bool) (rnd : α → α) (pi : α)
    (y llas : List α) (nodata p : α) (robust : Bool) (out0 lopt0 : Array α)
    (hG : robust = true → ∀ i m : ℕ, G.eig i m = -2 + 2 * cos ((i : α) * pi / (m : α)))
    (hc : if robust then RobustContract G isnan isinf y llas nodata out0 lopt0
      else SafeWs2dwcv.Contract G cos isnan isinf pi y llas nodata out0 lopt0)
    (hp : 4 < countValid (missG nodata isnan isinf) y → 0 < p ∧ p < 1) :
    (Gen.Safe.ws2dwcvp G cos isnan isinf rnd pi y.toArray nodata p llas.toArray robust out0 lopt0).2 = false := by
  cases robust
  · exact SafeWs2dwcvp.safe_ws2dwcvp_plain_ok G cos isnan isinf rnd pi y llas nodata p out0 lopt0 hc hp
  · exact safe_ws2dwcvp_robust_ok G cos isnan isinf rnd pi y llas nodata p out0 lopt0 (hG rfl) hc hp

/-! ### Non-vacuity, `robust = True` (ℚ; `Gq`, `cosq` of Hdc/Props/GenNumWcv.lean).  The kernel of Lean cannot evaluate `np.median`
(the model's `median` sorts with `List.mergeSort`), so instances that run the re-weighting block cannot be closed by `decide`; the
hypotheses of `RobustContract` are shown sharp in Hdc/Props/SafeWs2dwcvOk.lean (same robust loop), those on `p` above (same ten passes). -/

private def flpr (G : GFns ℚ) (cos : ℚ → ℚ) (y llas : Array ℚ) (p : ℚ) (out lopt : Array ℚ) : Bool :=
  (Gen.Safe.ws2dwcvp G cos (fun _ => false) (fun _ => false) (fun v => v) 3 y (-1) p llas true out lopt).2

/-- an instance of the contract with more than four valid cells: an affine series (all residuals 0, the MAD is 0, the robust weights
    stay 1; the chain is `grun_perfect`, the denominators are checked at the two grid values), `p = 9/10` -/
example : flpr Gq cosq #[1, 2, 3, 4, 5, 6] #[0, 1] (9 / 10) #[0, 0, 0, 0, 0, 0] #[9] = false := by
  refine safe_ws2dwcvp_robust_ok Gq cosq _ _ _ 3 [1, 2, 3, 4, 5, 6] [0, 1] (-1) (9 / 10) _ _ hGq
    ⟨by decide, by decide, by decide, fun h4 => ?_⟩ (fun _ => ⟨by decide +kernel, by decide +kernel⟩)
  have hpow : ∀ l ∈ [(0 : ℚ), 1], 0 < Gq.pow10 l := by decide +kernel
  have hmt : (0 : ℚ) ≤ Gq.madtol := by decide +kernel
  have hline : ∀ i (hi : i < [(1 : ℚ), 2, 3, 4, 5, 6].length),
      missG (-1) (fun _ => false) (fun _ => false) [(1 : ℚ), 2, 3, 4, 5, 6][i] = false →
      [(1 : ℚ), 2, 3, 4, 5, 6][i] = 1 + 1 * (i : ℚ) := by
    intro i hi _
    simp only [List.length_cons, List.length_nil] at hi
    interval_cases i <;> norm_num
  have hres := C05.perfect_of_line _ _ 1 1 hline
  have hfit : ∀ s ∈ [(0 : ℚ), 1].map Gq.pow10,
      ws2d (cleanOf (missG (-1) (fun _ => false) (fun _ => false)) [(1 : ℚ), 2, 3, 4, 5, 6]) s
        (weightsOf (missG (-1) (fun _ => false) (fun _ => false)) [(1 : ℚ), 2, 3, 4, 5, 6]) = lineList 1 1 6 := by
    intro s hs
    obtain ⟨l, hl, rfl⟩ := List.mem_map.1 hs
    exact C05.fit_of_line _ _ 1 1 h4 hline _ (hpow l hl)
  refine ⟨hpow, ?_, ?_⟩
  · have := grun_perfect Gq hmt hres rfl (by simp) (deigs Gq 6) (Gq.pow10 0) ([1].map Gq.pow10) hfit
      (sumF (weightsOf (missG (-1) (fun _ => false) (fun _ => false)) [(1 : ℚ), 2, 3, 4, 5, 6])) (by decide +kernel)
    exact Option.isSome_iff_exists.2 ⟨_, this⟩
  · intro k hk st hst s hs
    have hI := grun_rinv Gq (deigs Gq 6) ([(0 : ℚ), 1].map Gq.pow10) _ (by simp) k 0 _ st (rinv_gstate0 Gq _ _) hst
    have hP := grun_perfInv Gq hmt hres (by simp) (deigs Gq 6) _ hfit _ k 0 _ st (rinv_gstate0 Gq _ _)
      (perfInv_gstate0 Gq _ _) hst
    rw [hP.1, mul2_ones' _ _ (by simp)]
    have hs' := iterLams_subset _ k st.2.2 hI.2.2.2 s hs
    simp only [List.map_cons, List.map_nil, List.mem_cons, List.not_mem_nil, or_false] at hs'
    rcases hs' with rfl | rfl <;> decide +kernel
/-- four valid cells (pass-through): only `ylen`, `out`, `lopt` matter -/
example : flpr Gq cosq #[1, 5, -1, -1, 8, 3, -1] #[] 7 #[0, 0, 0, 0, 0, 0, 0] #[9] = false :=
  safe_ws2dwcvp_robust_ok Gq cosq _ _ _ 3 [1, 5, -1, -1, 8, 3, -1] [] (-1) 7 _ _ hGq
    ⟨by decide, by decide, by decide, fun h => absurd h (by decide +kernel)⟩ (fun h => absurd h (by decide +kernel))
/-- the three buffer hypotheses, `robust = True` -/
example : flpr Gq cosq #[] #[0, 1] (9 / 10) #[] #[9] = true := by decide +kernel
example : flpr Gq cosq #[1, 5, -1, -1, 8, 3, -1] #[0, 1] (9 / 10) #[] #[9] = true := by decide +kernel
example : flpr Gq cosq #[1, 5, -1, -1, 8, 3, -1] #[0, 1] (9 / 10) #[0, 0, 0, 0, 0, 0, 0] #[] = true := by decide +kernel

end Hdc.GenNum
