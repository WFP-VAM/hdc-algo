import Hdc.Model.Types
import Hdc.Gen.Types
/-
Type-level properties of the compiled kernels of `hdc.algo.ops`.

Every theorem is `decide` on the tables of `Hdc/Gen/Types.lean`, which `harness/summarise_types.py` reads off Numba's
own compile results (types inferred by Numba, loops registered with NumPy).  The real/rational Lean models of the kernels
idealise the arithmetic; the theorems below state that the compiled code never converts a number in a value-changing way
and never computes in a type narrower than 64 bit, EXCEPT at the places listed (and justified) in the whitelists of this
file.  A change of the source that alters Numba's typing (a new gufunc loop, swapped loops, a dropped `float64(...)`, a
re-assignment that changed the unification of a variable, arithmetic moved into int16 / uint8 arrays ...) changes the
generated tables and the corresponding theorem no longer holds; `#eval (k_<kernel>).report ..` names the sites.

Families (one theorem per kernel `K`, so a failure names the kernel):
  select_agrees_numpy_K   the Lean model `select` of NumPy's loop resolution agrees with `ufunc.resolve_dtypes` on the
                          probe grid of K (gufuncs only)
  loops_reachable_K       every declared loop is selected by its own input dtypes, however the scalar arguments are
                          passed (NumPy scalars / Python floats / Python ints), except the shadowings `shadowOK`; every
                          documented input dtype tuple is accepted, by a loop whose inputs are safe widenings of it
  stores_safe_K           stores into scratch arrays and into views of input parameters are safe casts
  outputs_documented_K    the value-changing stores into declared outputs are exactly `outDocs` (restricted to K)
  accumulators_wide_K     accumulators, their `+=` and the arithmetic feeding them are 64 bit, except `accumDocs`
  no_narrow_arith_K       no arithmetic narrower than 64 bit, except `narrowDocs`
  casts_safe_K            explicit and implicit conversions of numbers are safe casts, except `castDocs`
  flags_documented_K      the kernel and every callee typing reachable from it were compiled without fast-math, with the
                          expected error model (numpy for gufuncs - Numba forces it -, python for jit entry points),
                          without bounds checking, sequentially, in nopython mode ...; except `flagDocs`
  decorator_documented_K  the decorator carries only the default options (nopython=True, boundscheck=None) or `decoDocs`,
                          no cache, no identity, no writable inputs, declared signatures
  layouts_any_K           every array argument of every declared gufunc loop is declared `t[:]` (layout A), except
                          `layoutDocs` (empty)
plus, in Hdc/Props/TypesGlobal.lean,  shared_helper_flags (a helper overload compiled by several first callers differs at most in the error model; the
      helpers for which it does are exactly `errorModelSplitDocs`),
      kernels_covered (the generated kernel list is the list the families are stated for), skipped_modules,
      whitelists_tight (every whitelist entry is needed by some kernel).
-/
namespace Hdc.Props.Types
open Hdc.Types Hdc.Gen.Types

/-! ## whitelists -/

def smoothers : List String := ["ws2dgu", "ws2dpgu", "ws2doptv", "ws2doptvp", "ws2doptvplc", "ws2dwcv", "ws2dwcvp"]

/-- documented roundings into declared outputs -/
def outDocs : List OutDoc := [
  ⟨smoothers, ["out"], "np.round", .f64, .i16,
    "np.round(z, 0, out): the smoothed float64 curve is rounded to the int16 output (the rounding the C01-C10 models apply)"⟩,
  ⟨["ws2doptvplc_tyx"], ["ret0"], "np.round", .f64, .i16,
    "np.round(_xx, 0, zz[:, rr, cc]): same rounding, into the returned int16 cube"⟩,
  ⟨["ws2dgu", "ws2dpgu", "ws2doptv", "ws2doptvp", "ws2dwcv", "ws2dwcvp"], ["out"], "setitem", .f64, .i16,
    "out[:] = y[:]: pass-through of the input when there is nothing to smooth; y holds the int16 observations widened to float64 by the caller, so the C cast back is exact on the documented inputs"⟩,
  ⟨["tinterpolate"], ["out"], "setitem", .i64, .i16,
    "out[kk] = round(v / jj): Python round of a float64 mean gives int64; a mean of smoothed int16-range values"⟩,
  ⟨["_mann_kendall_trend_gu", "_mann_kendall_trend_gu_nd"], ["tau", "p", "slope"], "setitem", .f64, .f32,
    "float64 statistics (tau, p, Sen slope) resp. the float64 nodata are stored in the declared float32 outputs"⟩,
  ⟨["_mann_kendall_trend_gu", "_mann_kendall_trend_gu_nd"], ["trend"], "setitem", .i64, .i8,
    "trend indicator in {-1, 0, 1} typed int64 by Numba, int8 output"⟩,
  ⟨["mann_kendall_trend_yxt"], ["ret0"], "setitem", .f64, .f32,
    "float64 statistics stored in the returned float32 array r[..., 0..2]"⟩,
  ⟨["mann_kendall_trend_yxt"], ["ret0"], "setitem", .i64, .f32,
    "trend indicator in {-1, 0, 1} stored in r[..., 3]: exact in float32"⟩,
  ⟨["autocorr", "autocorr_tyx"], ["ret0"], "setitem", .f64, .f32,
    "z[rr, cc] = autocorr_1d(..): the float64 lag-1 correlation is stored in the documented float32 result"⟩,
  ⟨["do_mean"], ["ret0"], "setitem", .f64, .f32,
    "float64 mean (sums[idx] / counts[idx], or NaN) stored with the requested out_dtype=float32 (C17: accumulation itself is float64)"⟩,
  ⟨["do_mean"], ["ret0"], "setitem", .i64, .f32,
    "result[tix, idx, 1] = counts[idx]: int64 count in the float32 result, exact up to 2^24 pixels per zone (known limitation, see C17float)"⟩,
  ⟨["gammastd_grp"], ["yy"], "setitem", .f64, .i16,
    "SPI * 1000 clipped to the int16 range and rounded (np.round(res, 0, res)), resp. the float64 nodata, stored in the int16 output"⟩,
  ⟨["gammastd_yxt"], ["ret0"], "setitem", .f64, .i16,
    "y[ri, ci, :] = s[:]: SPI * 1000 saturated to the int16 range and rounded; y[...] = nodata with a float64 nodata"⟩,
  ⟨["gammastd_yxt"], ["ret0"], "setitem", .i64, .i16,
    "y[ri, ci, :] = nodata with an integer nodata (an int16 value by contract)"⟩,
  ⟨["lroo"], ["out"], "setitem", .i64, .i32,
    "out[0] = mr: run length <= n typed int64 by Numba, int32 output"⟩,
  ⟨["mean_grp"], ["yy"], "setitem", .f64, .f32,
    "yy[grp_ix] = avg: the float64 group mean (or nodata) is stored in the float32 output (C17round: one rounding)"⟩,
  ⟨["rolling_sum"], ["yy"], "setitem", .f64, .f32,
    "yy[ii] = nodata (float64 nodata) and, in the int64 loop, yy[ii] += xx[jj] computed in float64: stored in the float32 output (C17round)"⟩
]

/-- arithmetic carried out in a type narrower than 64 bit -/
def narrowDocs : List NarrowDoc := [
  ⟨"rolling_sum", "add", [.f32, .f32], .f32,
    "yy[ii] += xx[jj] in the float32 loop: the window sum is accumulated IN the float32 output array; documented idealisation, error bound in Hdc/Props/C17round.lean"⟩,
  ⟨"rolling_sum", "add", [.f32, .i16], .f32,
    "the same statement in the int16 loop: Numba types float32 + int16 as float32 (C17round)"⟩,
  ⟨"gammafit", "fn:math.log", [.f32], .f32,
    "logs += log(xx) on float32 observations: Numba evaluates math.log(float32) in float32; only in the float32 typings (float32 input is already rounded to 24 bit); int16 input takes log in float64"⟩,
  ⟨"mk_sens_slope", "sub", [.f32, .f32], .f32,
    "d[ix] = (x[j] - x[i]) / (j - i) on float32 observations: the difference of two float32 values is formed in float32 (as NumPy does on a float32 array), the quotient in float64; int16 input subtracts in int64"⟩
]

/-- accumulators that are not 64 bit throughout -/
def accumDocs : List AccumDoc := [
  ⟨"rolling_sum", "yy[]", .f32, .f32, [],
    "yy[ii] += xx[jj]: accumulation in the float32 output cell (float32 / int16 loops); documented idealisation, C17round"⟩,
  ⟨"rolling_sum", "yy[]", .f32, .f64, [],
    "int64 loop: float32 cell + int64 is computed in float64 and rounded back into the float32 cell on every step (C17round)"⟩,
  ⟨"gammafit", "scalar", .f64, .f64, [.f32],
    "logs += log(xx): float64 accumulator fed by the float32 log of a float32 observation (see narrowDocs)"⟩
]

/-- conversions of numbers that are not safe casts -/
def castDocs : List CastDoc := [
  ⟨"mean_grp", "arg range", .f64, .i32,
    "for grp in range(num_groups): the group count arrives as float64 (declared loop type) and Numba's range truncates it to int32; an integer-valued count < 2^31 by contract"⟩,
  ⟨"gammastd_grp", "arg range", .f64, .i32,
    "for grp in range(num_groups): as for mean_grp"⟩,
  ⟨"rolling_sum", "arg range", .f64, .i64,
    "range(ii - window_size + 1, ii + 1): window_size arrives as float64 (declared loop type); integer-valued by contract"⟩,
  ⟨"mk_sens_slope", "explicit", .f64, .i64,
    "nd = int(n * (n - 1) / 2): n (n - 1) is even, the quotient is an integer-valued float64 (exact for n < 2^26)"⟩,
  ⟨"ws2doptvplc_tyx", "unify", .u64, .i64,
    "for rr in numba.prange(nr): Numba's parfor index is uint64 and is converted to the int64 loop variable; < 2^63"⟩
]

/-- a declared loop that is served by an earlier one when the scalars are passed as Python scalars -/
def shadowOK : List Shadow := [
  ⟨"mean_grp", "hhdd->f", "fhdd->f",
    "int16 data with Python scalars resolve to the float32 loop: int16 -> float32 is exact and that loop accumulates in float64 (accumulators_wide_mean_grp), so both loops compute the same values"⟩,
  ⟨"rolling_sum", "hdd->f", "fdd->f",
    "int16 data with Python scalars resolve to the float32 loop: int16 -> float32 is exact and both loops accumulate in the float32 output cell (accumDocs)"⟩
]

/-- documented deviations from the default compile flags -/
def flagDocs : List FlagDoc := [
  ⟨"ws2doptvplc_tyx", "ws2doptvplc_tyx", "parallel", "true",
    "the one documented parallel kernel: `numba.prange` over rows; iterations touch disjoint rows (C12, prangeSummary_rowLocal)"⟩,
  ⟨"ws2doptvplc_tyx", "ws2doptvplc_tyx", "nogil", "true",
    "`nogil=True`: the kernel touches no Python objects; has no effect on the values computed"⟩
]

/-- documented decorator options beyond the defaults -/
def decoDocs : List DecoDoc := [
  ⟨"ws2doptvplc_tyx", "parallel", "True", "see flagDocs"⟩,
  ⟨"ws2doptvplc_tyx", "nogil", "True", "see flagDocs"⟩
]

/-- documented contiguity requirements of gufunc arguments: none.  NumPy hands a gufunc loop arbitrary strides
(slices, transposed or broadcast operands); only `t[:]` makes Numba honour them. -/
def layoutDocs : List LayoutDoc := []

/-- helpers some overload of which is compiled under BOTH error models, depending on whether a gufunc (numpy model,
forced by Numba and inherited by the callee) or a jit entry point (python model) compiles it first in the process.
Pristine-tree finding, documented: the two models differ only when a division by zero occurs (exception vs inf / nan),
which the callers exclude (n > 1 valid observations, lambda > 0, s != 0, variance > 0). -/
def errorModelSplitDocs : List String := ["brentq", "gammafit", "mk_p_value", "mk_z_score", "ws2d"]

/-! ## the kernels the families are stated for -/

def gufuncNames : List String :=
  ["_mann_kendall_trend_gu", "_mann_kendall_trend_gu_nd", "gammastd_grp", "lroo", "mean_grp", "rolling_sum", "tinterpolate",
   "ws2dgu", "ws2doptv", "ws2doptvp", "ws2doptvplc", "ws2dpgu", "ws2dwcv", "ws2dwcvp"]

def njitNames : List String :=
  ["_ws2dwcvp", "autocorr", "autocorr_tyx", "do_mean", "gammastd_yxt", "mann_kendall_trend_yxt", "ws2doptvplc_tyx"]

/-- how a caller may pass a scalar (`()`) float64 argument -/
def sc : List DType := [.f64, .pyfloat, .pyint]

open Lean in
/-- the family of theorems of one gufunc kernel; `documented`: the input dtype tuples the kernel is documented to accept -/
macro "gufunc_family " k:ident " documented " d:term : command => do
  let n := k.getId.toString
  let kid := mkIdent (Name.mkSimple ("k_" ++ n))
  let th (p : String) := mkIdent (Name.mkSimple (p ++ "_" ++ n))
  `(theorem $(th "select_agrees_numpy") : Kernel.probesAgree $kid = true := by decide +kernel
    theorem $(th "loops_reachable") : Kernel.loopsReachable $kid shadowOK $d = true := by decide +kernel
    theorem $(th "stores_safe") : Kernel.storesSafe $kid = true := by decide +kernel
    theorem $(th "outputs_documented") : Kernel.outputsDocumented $kid outDocs = true := by decide +kernel
    theorem $(th "accumulators_wide") : Kernel.accumulatorsWide $kid accumDocs = true := by decide +kernel
    theorem $(th "no_narrow_arith") : Kernel.noNarrowArith $kid narrowDocs = true := by decide +kernel
    theorem $(th "casts_safe") : Kernel.castsSafe $kid castDocs = true := by decide +kernel
    theorem $(th "flags_documented") : Kernel.flagsDocumented $kid flagDocs = true := by decide +kernel
    theorem $(th "decorator_documented") : Kernel.decoratorDocumented $kid decoDocs = true := by decide +kernel
    theorem $(th "layouts_any") : Kernel.layoutsAny $kid layoutDocs = true := by decide +kernel)

open Lean in
/-- the family of theorems of one njit entry point (Numba compiles one specialisation per argument type: no loop
resolution) -/
macro "njit_family " k:ident : command => do
  let n := k.getId.toString
  let kid := mkIdent (Name.mkSimple ("k_" ++ n))
  let th (p : String) := mkIdent (Name.mkSimple (p ++ "_" ++ n))
  `(theorem $(th "stores_safe") : Kernel.storesSafe $kid = true := by decide +kernel
    theorem $(th "outputs_documented") : Kernel.outputsDocumented $kid outDocs = true := by decide +kernel
    theorem $(th "accumulators_wide") : Kernel.accumulatorsWide $kid accumDocs = true := by decide +kernel
    theorem $(th "no_narrow_arith") : Kernel.noNarrowArith $kid narrowDocs = true := by decide +kernel
    theorem $(th "casts_safe") : Kernel.castsSafe $kid castDocs = true := by decide +kernel
    theorem $(th "flags_documented") : Kernel.flagsDocumented $kid flagDocs = true := by decide +kernel
    theorem $(th "decorator_documented") : Kernel.decoratorDocumented $kid decoDocs = true := by decide +kernel)


/-! ## all function typings (for `whitelists_tight`) -/

def allFns : List FnTyping := kernels.flatMap (·.fns)

end Hdc.Props.Types
